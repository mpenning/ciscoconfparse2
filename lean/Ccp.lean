import Ccp.Drv.All
import Ccp.Drv.Asa
import Ccp.Drv.AsaX
import Ccp.Drv.Brace
import Ccp.Drv.BraceOpts
import Ccp.Drv.Checkpoint
import Ccp.Drv.Cli
import Ccp.Drv.CliNs
import Ccp.Drv.Diff
import Ccp.Drv.DiffCli
import Ccp.Drv.Edit
import Ccp.Drv.EditForms
import Ccp.Drv.EditX
import Ccp.Drv.FactoryGuard
import Ccp.Drv.IPText
import Ccp.Drv.IPTextX
import Ccp.Drv.IPVal
import Ccp.Drv.IPValX
import Ccp.Drv.Input
import Ccp.Drv.InputArgs
import Ccp.Drv.Intf
import Ccp.Drv.IntfX
import Ccp.Drv.IosModels
import Ccp.Drv.Mac
import Ccp.Drv.Pair
import Ccp.Drv.Pwd
import Ccp.Drv.Range
import Ccp.Drv.RangeX
import Ccp.Drv.Search
import Ccp.Drv.SearchForms
import Ccp.Drv.Tree
import Ccp.Drv.TreeStored
import Ccp.Drv.TreeX
import Ccp.Drv.Typed
import Ccp.Drv.TypedX
import Ccp.Gen.PyRuntime
import Ccp.Gen.Tables
import Ccp.Model.Asa
import Ccp.Model.AsaX
import Ccp.Model.Brace
import Ccp.Model.BraceOpts
import Ccp.Model.Checkpoint
import Ccp.Model.Cli
import Ccp.Model.CliNs
import Ccp.Model.Diff
import Ccp.Model.DiffCli
import Ccp.Model.Edit
import Ccp.Model.EditForms
import Ccp.Model.EditX
import Ccp.Model.FactoryGuard
import Ccp.Model.IPText
import Ccp.Model.IPTextX
import Ccp.Model.IPVal
import Ccp.Model.IPValX
import Ccp.Model.Input
import Ccp.Model.InputArgs
import Ccp.Model.Intf
import Ccp.Model.IntfX
import Ccp.Model.IosModels
import Ccp.Model.Mac
import Ccp.Model.Pwd
import Ccp.Model.Range
import Ccp.Model.RangeX
import Ccp.Model.Search
import Ccp.Model.SearchForms
import Ccp.Model.Tree
import Ccp.Model.TreeStored
import Ccp.Model.TreeViews
import Ccp.Model.Typed
import Ccp.Model.TypedX
import Ccp.Proofs.Asa
import Ccp.Proofs.AsaPorts
import Ccp.Proofs.AsaX
import Ccp.Proofs.Brace
import Ccp.Proofs.BraceClose
import Ccp.Proofs.BraceOpts
import Ccp.Proofs.BraceTree
import Ccp.Proofs.Cli
import Ccp.Proofs.Diff
import Ccp.Proofs.DiffCli
import Ccp.Proofs.Edit
import Ccp.Proofs.EditBanner
import Ccp.Proofs.EditForms
import Ccp.Proofs.EditFrame
import Ccp.Proofs.EditLinks
import Ccp.Proofs.EditList
import Ccp.Proofs.EditMulti
import Ccp.Proofs.EditPrefix
import Ccp.Proofs.EditX
import Ccp.Proofs.ExceptEq
import Ccp.Proofs.IPCheck
import Ccp.Proofs.IPNum
import Ccp.Proofs.IPRender
import Ccp.Proofs.IPRun
import Ccp.Proofs.IPSpell
import Ccp.Proofs.IPText
import Ccp.Proofs.IPText4
import Ccp.Proofs.IPTextX
import Ccp.Proofs.IPVal
import Ccp.Proofs.IPValCollapse
import Ccp.Proofs.IPValX
import Ccp.Proofs.Input
import Ccp.Proofs.InputArgs
import Ccp.Proofs.Intf
import Ccp.Proofs.IosModels
import Ccp.Proofs.IosMore
import Ccp.Proofs.IosRoute
import Ccp.Proofs.IosStanza
import Ccp.Proofs.Mac
import Ccp.Proofs.MacSearch
import Ccp.Proofs.Pwd
import Ccp.Proofs.Py
import Ccp.Proofs.Range
import Ccp.Proofs.RangeCompress
import Ccp.Proofs.RangeX
import Ccp.Proofs.Search
import Ccp.Proofs.SearchForms
import Ccp.Proofs.TreeBanner
import Ccp.Proofs.TreeForest
import Ccp.Proofs.TreeKeep
import Ccp.Proofs.TreeLink
import Ccp.Proofs.TreeLossless
import Ccp.Proofs.TreePasses
import Ccp.Proofs.TreeStored
import Ccp.Proofs.TreeVectors
import Ccp.Proofs.Typed
import Ccp.Proofs.TypedExample
import Ccp.Proofs.TypedX
import Ccp.Props.C01
import Ccp.Props.C02
import Ccp.Props.C03
import Ccp.Props.C04
import Ccp.Props.C05
import Ccp.Props.C06
import Ccp.Props.C07
import Ccp.Props.C07Ck
import Ccp.Props.C08
import Ccp.Props.C09
import Ccp.Props.C10
import Ccp.Props.C11
import Ccp.Props.C12
import Ccp.Props.C13
import Ccp.Props.C14
import Ccp.Props.C15
import Ccp.Props.C16
import Ccp.Props.C17
import Ccp.Props.C18
import Ccp.Props.C19
import Ccp.Props.C20
import Ccp.Props.RxC04
import Ccp.Props.RxC08
import Ccp.Props.RxC11
import Ccp.Props.RxC14
import Ccp.Props.RxC15
import Ccp.Props.RxC18
import Ccp.Props.RxC19
import Ccp.Props.RxC20
import Ccp.Py.Basic
import Ccp.Spec.BannerLinks
import Ccp.Spec.BlankKeep
import Ccp.Spec.Brace
import Ccp.Spec.IP
import Ccp.Spec.Indent
import Ccp.Wire
-- GENERATED by harness/translate.py (glue): every module of the library
