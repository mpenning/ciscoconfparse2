import Ccp.Proofs.TreeForest
import Ccp.Proofs.TreeStored
import Ccp.Proofs.TreeBanner
import Ccp.Proofs.TreeVectors
import Ccp.Proofs.Py
import Ccp.Model.TreeViews
/-!
# C03 — family relations form a consistent forest

Property theorems only; helper lemmas and the specification vocabulary live in
`Ccp.Proofs.TreeForest`:

* `Forest t` := `t.parents.length = t.texts.length ∧ ∀ i < t.size, parentOf t i ≤ i`
  (one parent index per line; a line is a root iff `parentOf t i = i`; otherwise its
  parent comes strictly before it);
* `ancestors t j` := `if parentOf t j < j then parentOf t j :: ancestors t (parentOf t j) else []`
  (the chain parent, grandparent, … root of line `j`, nearest first);
* `IsAncestor t a j` := the transitive closure of "`a` is the parent of `j`, `j` not a root".

The model (`Ccp.Model.Tree`) stores one parent index per line and *derives* the child
lists.  The implementation STORES child lists (`BaseCfgLine._children`, filled by
`_add_child_to_parent`, rearranged by `_reparent_child`); the second model
`Ccp.Model.TreeStored` mirrors those operations step by step, and the section on the stored
child lists below proves that its parent array is the one of `parse` and that every stored
list is the derived one (`stored_parents_eq`, `stored_children_eq_derived` and corollaries).  The
correspondence `harness/props/c03.py` compares the implementation's raw `parent` /
`_children` attributes with the stored-list model and its seven views with `Ccp.Model.Tree`.

Not covered here: `commit_forest` for arbitrary committed edit sequences (C07's state
machine) and the brace-syntax trees (C08); `parse` covers the fresh parse *and* the
re-bootstrap that `commit()` performs on the resulting texts.
-/
namespace Ccp.C03
open Ccp.Tree Ccp.Py

/-! ## the parse result is a forest -/

/-- **Every parse is a forest**, for every config text, every option set (`ios` macros on
or off, any comment delimiters, `ignore_blank_lines` on or off), banners and macros
terminated or not: after all four passes of both bootstraps there is exactly one parent
index per line and no line's parent comes after it. -/
theorem parse_forest (cfg : Cfg) (ls : List Str) : Forest (parse cfg ls) :=
  bootstrap_forest cfg _

/-- The same for a single `ConfigList.bootstrap` (what `commit()` re-runs). -/
theorem bootstrap_forest (cfg : Cfg) (ls : List Str) : Forest (bootstrap cfg ls) :=
  Ccp.Tree.bootstrap_forest cfg ls

/-- Passes 1–3 (indentation links, banner walk, macro walk) on their own, and they keep
the line texts in place. -/
theorem link_forest (cfg : Cfg) (ls : List Str) :
    Forest (link cfg ls) ∧ (link cfg ls).texts = ls :=
  ⟨Ccp.Tree.link_forest cfg ls, link_texts_ll cfg ls⟩

/-- In a forest every line is a root (its own parent) or its parent comes strictly
before it; lines beyond the end are their own parent. -/
theorem root_or_before {t : T} (hf : Forest t) (i : Nat) :
    (parentOf t i = i ∨ parentOf t i < i) ∧ (t.size ≤ i → parentOf t i = i) := by
  have h := parentOf_le_of_forest hf i
  exact ⟨by omega, parentOf_of_size_le hf⟩

/-! ## child lists -/

/-- The child list of `i` holds exactly the lines other than `i` whose parent is `i`. -/
theorem children_spec (t : T) (i j : Nat) :
    j ∈ children t i ↔ j < t.size ∧ parentOf t j = i ∧ j ≠ i := mem_children

/-- Child lists are in strictly ascending line order (hence duplicate free). -/
theorem children_ascending (t : T) (i : Nat) : (children t i).Pairwise (· < ·) :=
  children_sorted t i

/-- How often `j` occurs in the child list of `i`: once if `i` is its parent and `j` is
not a root, otherwise never. -/
theorem children_count (t : T) (i j : Nat) :
    (children t i).count j = if j < t.size ∧ parentOf t j = i ∧ j ≠ i then 1 else 0 :=
  Ccp.Tree.children_count t i j

/-- A non-root line is in exactly one child list — its parent's — exactly once. -/
theorem child_in_exactly_one_list (t : T) (j : Nat) (hj : j < t.size) (hne : parentOf t j ≠ j) :
    (∀ i, j ∈ children t i ↔ i = parentOf t j) ∧ (children t (parentOf t j)).count j = 1 := by
  constructor
  · intro i
    rw [mem_children]
    constructor
    · rintro ⟨_, h, _⟩; exact h.symm
    · rintro rfl; exact ⟨hj, rfl, fun h => hne h.symm⟩
  · rw [Ccp.Tree.children_count]; simp [hj]; exact fun h => hne h.symm

/-- A root is in no child list. -/
theorem root_in_no_list (t : T) (j : Nat) (hr : parentOf t j = j) : ∀ i, j ∉ children t i := by
  intro i h
  obtain ⟨_, h1, h2⟩ := mem_children.mp h
  exact h2 (hr.symm.trans h1)

/-- Parents come before their children. -/
theorem children_after {t : T} (hf : Forest t) {i j : Nat} (h : j ∈ children t i) : i < j := by
  obtain ⟨_, h1, h2⟩ := mem_children.mp h
  have := parentOf_le_of_forest hf j
  omega

/-! ## the ancestor chain (specification) -/

/-- defining equation of `ancestors` -/
theorem ancestors_unfold (t : T) (j : Nat) :
    ancestors t j = if parentOf t j < j then parentOf t j :: ancestors t (parentOf t j) else [] := by
  rw [ancestors]

/-- In a forest the chain lists exactly the proper ancestors (transitive closure of the
parent link), strictly descending, and ends at a root. -/
theorem ancestors_spec {t : T} (hf : Forest t) (j : Nat) :
    (∀ a, a ∈ ancestors t j ↔ IsAncestor t a j) ∧
    (ancestors t j).Pairwise (· > ·) ∧
    (∀ a ∈ ancestors t j, a < j ∧ j < t.size) ∧
    (∀ r, (ancestors t j).getLast? = some r → parentOf t r = r) :=
  ⟨fun _ => ⟨isAncestor_of_mem, mem_of_isAncestor hf⟩, ancestors_desc t j,
   fun _ ha => ⟨ancestors_lt ha, ancestors_lt_size hf ha⟩, fun _ hr => ancestors_last_root hf hr⟩

/-! ## the views -/

/-- `all_parents` is the ancestor chain, root first: strictly ascending, duplicate free.
(The fuel `t.size` of the model's loop is sufficient.) -/
theorem allParents_spec {t : T} (hf : Forest t) (i : Nat) :
    allParents t i = (ancestors t i).reverse ∧
    (allParents t i).Pairwise (· < ·) ∧ (allParents t i).Nodup :=
  ⟨allParents_eq hf i, allParents_sorted hf i, nodup_of_sorted (allParents_sorted hf i)⟩

/-- `all_children` is the transitive closure in line order: `j` is listed iff `i` is on
`j`'s ancestor chain; strictly ascending, duplicate free; as a list, it is the lines of
the config filtered by that condition.  (The fuel `t.size` of the model's recursion is
sufficient.) -/
theorem allChildren_spec {t : T} (hf : Forest t) (i : Nat) :
    (∀ j, j ∈ allChildren t i ↔ i ∈ ancestors t j) ∧
    (allChildren t i).Pairwise (· < ·) ∧ (allChildren t i).Nodup ∧
    allChildren t i = (List.range t.size).filter (fun j => decide (i ∈ ancestors t j)) :=
  ⟨fun _ => mem_allChildren hf, allChildren_sorted hf i, nodup_of_sorted (allChildren_sorted hf i),
   allChildren_eq_filter hf i⟩

/-- `all_children` is "the children and, recursively, theirs" — the least such set is the
one of `allChildren_spec`. -/
theorem allChildren_closure {t : T} (hf : Forest t) (i j : Nat) :
    j ∈ allChildren t i ↔ ∃ c ∈ children t i, j = c ∨ j ∈ allChildren t c := by
  simp only [mem_allChildren hf]
  constructor
  · intro h
    obtain ⟨c, hc, _, hc3⟩ := child_on_chain hf h
    exact ⟨c, hc, hc3.imp Eq.symm id⟩
  · rintro ⟨c, hc, hj⟩
    have hic := mem_ancestors_of_child hf hc
    rcases hj with rfl | hj
    · exact hic
    · exact ancestors_trans hic hj

/-- `all_parents` and `all_children` are converse relations. -/
theorem allParents_allChildren_dual {t : T} (hf : Forest t) (i j : Nat) :
    i ∈ allParents t j ↔ j ∈ allChildren t i := by
  rw [mem_allParents hf, mem_allChildren hf]

/-- `geneology` is the path from the root down to the line itself. -/
theorem geneology_spec {t : T} (hf : Forest t) (i : Nat) :
    geneology t i = (ancestors t i).reverse ++ [i] ∧ (geneology t i).Pairwise (· < ·) := by
  have h : geneology t i = (ancestors t i).reverse ++ [i] := by rw [geneology, allParents_eq hf]
  refine ⟨h, ?_⟩
  rw [geneology]
  exact (List.pairwise_append.mp (family_sorted hf i)).1

/-- `lineage` is ancestors, the line, descendants — already in line order: strictly
ascending, and `j` is listed iff it is an ancestor of `i`, `i` itself or a descendant. -/
theorem lineage_spec {t : T} (hf : Forest t) (i : Nat) :
    lineage t i = allParents t i ++ [i] ++ allChildren t i ∧
    (lineage t i).Pairwise (· < ·) ∧
    (∀ j, j ∈ lineage t i ↔ j ∈ ancestors t i ∨ j = i ∨ i ∈ ancestors t j) := by
  refine ⟨lineage_eq hf i, ?_, ?_⟩
  · rw [lineage_eq hf]; exact family_sorted hf i
  · intro j
    rw [lineage_eq hf]
    simp only [List.mem_append, List.mem_singleton, mem_allParents hf, mem_allChildren hf, or_assoc]

/-- `family_endpoint` is the largest line number among the line and its descendants. -/
theorem familyEndpoint_spec {t : T} (hf : Forest t) (i : Nat) :
    familyEndpoint t i ∈ i :: allChildren t i ∧
    ∀ j ∈ i :: allChildren t i, j ≤ familyEndpoint t i :=
  familyEndpoint_max hf i

/-- `siblings`: the lines in the parent's child list with the same indentation, in
ascending line order.  (For a root `i` that is the root's own children of equal indent —
the code does not special-case roots.) -/
theorem siblings_spec (t : T) (i : Nat) :
    (∀ j, j ∈ siblings t i ↔
      j < t.size ∧ parentOf t j = parentOf t i ∧ j ≠ parentOf t i ∧ indentOf t j = indentOf t i) ∧
    (siblings t i).Pairwise (· < ·) :=
  ⟨fun _ => mem_siblings, List.Pairwise.filter _ (children_sorted t _)⟩

/-- A non-root line is among its own siblings. -/
theorem self_mem_siblings (t : T) (i : Nat) (hi : i < t.size) (hne : parentOf t i ≠ i) :
    i ∈ siblings t i := mem_siblings.mpr ⟨hi, rfl, fun h => hne h.symm, rfl⟩

/-- Flags: `is_parent` iff the child list is non-empty iff some other line names `i` as
its parent; `is_child` iff the line is not a root. -/
theorem flags_spec (t : T) (i : Nat) :
    (isParent t i = true ↔ children t i ≠ []) ∧
    (isParent t i = true ↔ ∃ j, j < t.size ∧ parentOf t j = i ∧ j ≠ i) ∧
    (isChild t i = true ↔ parentOf t i ≠ i) := by
  have h1 : isParent t i = true ↔ children t i ≠ [] := by
    simp [isParent]
  refine ⟨h1, ?_, by simp [isChild]⟩
  rw [h1]
  constructor
  · intro h
    obtain ⟨j, hj⟩ := List.exists_mem_of_ne_nil _ h
    exact ⟨j, mem_children.mp hj⟩
  · rintro ⟨j, hj⟩ h
    have := mem_children.mpr hj
    rw [h] at this; cases this

/-! ## banner and macro bodies: every body line is a direct child of its start line -/

/-- **Body lines are direct children of their start line and of no other line.**  In the final
tree of any line list under any option set: if line `i` is owned by the start line `s` — the
last `macro name` line (syntax ios) whose stretch reaches `i`, or, when no macro start reaches
`i`, the last banner start whose stretch reaches `i` (`Spec/BannerLinks.lean`; the stretch
includes the closing line) — then `s` comes before `i`, is its parent, `i` occurs exactly once
in `s`'s child list and in no other child list.  So a banner / macro family is flat: however the
body is indented, no body line hangs under another body line. -/
theorem body_line_child_of_start (cfg : Cfg) (ls : List Str) (i s : Nat)
    (hi : i < (parse cfg ls).size)
    (hs : macroOwner cfg (parse cfg ls).texts i = some s ∨
      (macroOwner cfg (parse cfg ls).texts i = none ∧ bannerOwner (parse cfg ls).texts i = some s)) :
    s < i ∧ parentOf (parse cfg ls) i = s ∧
    (∀ p, i ∈ children (parse cfg ls) p ↔ p = s) ∧ (children (parse cfg ls) s).count i = 1 := by
  have h1 := (specParentFull_eq_iff cfg _ i s).mpr (hs.imp_right .inl)
  have h2 : s < i := by
    rcases hs with h | ⟨_, h⟩
    · exact ((macroOwner_eq_some cfg _ i s).mp h).2.1
    · exact ((lastCover_eq_some coverB _ i i s).mp h).1
  have hp : parentOf (parse cfg ls) i = s := by rw [parse_parentOf_full cfg ls i hi, h1]
  have hne : parentOf (parse cfg ls) i ≠ i := by omega
  obtain ⟨h3, h4⟩ := child_in_exactly_one_list (parse cfg ls) i hi hne
  rw [hp] at h3 h4
  exact ⟨h2, hp, h3, h4⟩

/-- The same, spelled out for a banner with `ignore_blank_lines` off: `i` lies in the stretch of
the banner start `b`, no later banner start before `i` reaches `i`, and (ios) no macro start
reaches `i`. -/
theorem banner_body_line_child (cfg : Cfg) (ls : List Str) (hi : cfg.ignoreBlank = false) (b i : Nat)
    (hcov : covers coverB ls b i = true)
    (hlast : ∀ m, b < m → m < i → covers coverB ls m i = false)
    (hmac : cfg.ios = true → ∀ m, m < i → covers coverM ls m i = false) :
    i ∈ children (parse cfg ls) b ∧ ∀ p, i ∈ children (parse cfg ls) p → p = b := by
  have ht : (parse cfg ls).texts = ls := parse_texts_noIgnore cfg ls hi
  have hbi : b < i := ((covers_iff coverB ls b i).mp hcov).1
  have hil : i < (parse cfg ls).size := by
    simp only [T.size, ht]; exact covers_lt_length coverB coverB_le ls b i hcov
  have hm : macroOwner cfg ls i = none := (macroOwner_eq_none cfg ls i).mpr hmac
  have hb : bannerOwner ls i = some b := (lastCover_eq_some coverB ls i i b).mpr ⟨hbi, hcov, hlast⟩
  obtain ⟨_, _, h3, _⟩ := body_line_child_of_start cfg ls i b hil (by rw [ht]; exact Or.inr ⟨hm, hb⟩)
  exact ⟨(h3 b).mpr rfl, fun p hp => (h3 p).mp hp⟩

/-- … and for a macro (syntax ios): `i` lies in the stretch of the macro start `m`, and no later
macro start before `i` reaches `i`. -/
theorem macro_body_line_child (cfg : Cfg) (ls : List Str) (hi : cfg.ignoreBlank = false)
    (hios : cfg.ios = true) (m i : Nat)
    (hcov : covers coverM ls m i = true)
    (hlast : ∀ q, m < q → q < i → covers coverM ls q i = false) :
    i ∈ children (parse cfg ls) m ∧ ∀ p, i ∈ children (parse cfg ls) p → p = m := by
  have ht : (parse cfg ls).texts = ls := parse_texts_noIgnore cfg ls hi
  have hmi : m < i := ((covers_iff coverM ls m i).mp hcov).1
  have hil : i < (parse cfg ls).size := by
    simp only [T.size, ht]; exact covers_lt_length coverM coverM_le ls m i hcov
  have hm : macroOwner cfg ls i = some m := (macroOwner_eq_some cfg ls i m).mpr ⟨hios, hmi, hcov, hlast⟩
  obtain ⟨_, _, h3, _⟩ := body_line_child_of_start cfg ls i m hil (by rw [ht]; exact Or.inl hm)
  exact ⟨(h3 m).mpr rfl, fun p hp => (h3 p).mp hp⟩

/-! ## non-vacuity: concrete configs -/

def exCfg : Cfg := { ios := true, delims := ['!'], ignoreBlank := false }

/-- a banner with an indented and a blank body line; the delimiter line `x^` is a root
after pass 1 and is re-parented by the banner walk -/
def exBanner : List Str :=
  ["banner motd ^".toList, " hi".toList, "".toList, "x^".toList, "interface X".toList, " shutdown".toList]

example : (parse exCfg exBanner).parents = [0, 0, 0, 0, 4, 4] :=
  congrArg T.parents parse_vecBanner
example : (link exCfg exBanner).parents ≠ linkByIndent exCfg exBanner := by
  simp only [exBanner, toList_lit]; decide +kernel
example : children (parse exCfg exBanner) 0 = [1, 2, 3] := by
  rw [show parse exCfg exBanner = _ from parse_vecBanner]; decide +kernel
example : children (parse exCfg exBanner) 4 = [5] := by
  rw [show parse exCfg exBanner = _ from parse_vecBanner]; decide +kernel
example : allChildren (parse exCfg exBanner) 0 = [1, 2, 3] := by
  rw [show parse exCfg exBanner = _ from parse_vecBanner]; decide +kernel
example : familyEndpoint (parse exCfg exBanner) 0 = 3 ∧ familyEndpoint (parse exCfg exBanner) 5 = 5 := by
  rw [show parse exCfg exBanner = _ from parse_vecBanner]; decide +kernel
example : siblings (parse exCfg exBanner) 3 = [2, 3] := by
  rw [show parse exCfg exBanner = _ from parse_vecBanner]; decide +kernel
example : isParent (parse exCfg exBanner) 4 = true ∧ isChild (parse exCfg exBanner) 4 = false := by
  rw [show parse exCfg exBanner = _ from parse_vecBanner]; decide +kernel
/-- with `ignore_blank_lines` the blank body line survives (banner bodies are kept) -/
example : (parse { exCfg with ignoreBlank := true } exBanner).parents = [0, 0, 0, 0, 4, 4] := by
  simp only [exBanner, toList_lit]; decide +kernel
/-- … whereas a blank line outside a banner is dropped and the list re-bootstrapped -/
example : (parse { exCfg with ignoreBlank := true }
    ["interface X".toList, "".toList, " shutdown".toList]).parents = [0, 0] := by
  simp only [toList_lit]; decide +kernel

/-- depth 3, a macro body with a deeper-indented line, and an unterminated banner -/
def exDeep : List Str :=
  ["interface X".toList, " a".toList, "  b".toList, "   c".toList, " d".toList,
   "macro name m".toList, " x".toList, "  y".toList, "@".toList,
   "banner exec #".toList, "  z".toList, "w".toList]

example : (parse exCfg exDeep).parents = [0, 0, 1, 2, 0, 5, 5, 5, 5, 9, 9, 9] :=
  congrArg T.parents parse_vecDeep
example : linkByIndent exCfg exDeep = [0, 0, 1, 2, 0, 5, 5, 6, 8, 9, 9, 11] := by
  simp only [exDeep, toList_lit]; decide +kernel
example : ancestors (parse exCfg exDeep) 3 = [2, 1, 0] := by
  rw [show parse exCfg exDeep = _ from parse_vecDeep]; decide +kernel
example : allParents (parse exCfg exDeep) 3 = [0, 1, 2] := by
  rw [show parse exCfg exDeep = _ from parse_vecDeep]; decide +kernel
example : geneology (parse exCfg exDeep) 3 = [0, 1, 2, 3] := by
  rw [show parse exCfg exDeep = _ from parse_vecDeep]; decide +kernel
example : allChildren (parse exCfg exDeep) 0 = [1, 2, 3, 4] := by
  rw [show parse exCfg exDeep = _ from parse_vecDeep]; decide +kernel
example : allChildren (parse exCfg exDeep) 1 = [2, 3] := by
  rw [show parse exCfg exDeep = _ from parse_vecDeep]; decide +kernel
example : lineage (parse exCfg exDeep) 2 = [0, 1, 2, 3] := by
  rw [show parse exCfg exDeep = _ from parse_vecDeep]; decide +kernel
example : familyEndpoint (parse exCfg exDeep) 1 = 3 := by
  rw [show parse exCfg exDeep = _ from parse_vecDeep]; decide +kernel
example : siblings (parse exCfg exDeep) 1 = [1, 4] := by
  rw [show parse exCfg exDeep = _ from parse_vecDeep]; decide +kernel
example : IsAncestor (parse exCfg exDeep) 0 3 :=
  ((ancestors_spec (parse_forest exCfg exDeep) 3).1 0).mp (by
    rw [show parse exCfg exDeep = _ from parse_vecDeep]; decide +kernel)

/-! ## the STORED child lists

`Ccp.TreeStored.parse` runs the same four passes as `parse` over a state that also holds,
for every line, the child list the implementation stores, and performs on those lists
exactly the list operations of `_add_child_to_parent` (append) and `_reparent_child`
(remove from the former parent's list, append if absent, sort by line number). -/

/-- **(a) same parents.**  For every option set and every line list, forgetting the stored
child lists of the stored-list parse leaves exactly the result of `parse` — the same texts,
the same parent index for every line, the same `blank_line_keep` flags. -/
theorem stored_parents_eq (cfg : Cfg) (ls : List Str) :
    (Ccp.TreeStored.parse cfg ls).parents = (parse cfg ls).parents ∧
    (Ccp.TreeStored.parse cfg ls).toT = parse cfg ls :=
  ⟨congrArg T.parents (Ccp.TreeStored.parse_toT cfg ls), Ccp.TreeStored.parse_toT cfg ls⟩

/-- **(b) stored = derived.**  For every option set and every line list, after the
stored-list parse the stored child list of EVERY index `p` is the derived child list of
`parse`; as a table: one stored list per line, equal to the derived list of that line. -/
theorem stored_children_eq_derived (cfg : Cfg) (ls : List Str) :
    (∀ p, (Ccp.TreeStored.parse cfg ls).stored p = children (parse cfg ls) p) ∧
    (Ccp.TreeStored.parse cfg ls).children =
      (List.range (parse cfg ls).size).map (children (parse cfg ls)) := by
  have h := Ccp.TreeStored.goodS_parse cfg ls
  constructor
  · intro p
    rw [Ccp.TreeStored.stored_eq_children h p, Ccp.TreeStored.parse_toT]
  · rw [Ccp.TreeStored.children_eq_map h, Ccp.TreeStored.parse_toT]

/-- The same two statements for a single `ConfigList.bootstrap` (what `commit()` re-runs,
including the `ignore_blank_lines` rebuild) and for passes 1–3 on their own. -/
theorem stored_bootstrap_eq_derived (cfg : Cfg) (ls : List Str) :
    ((Ccp.TreeStored.bootstrap cfg ls).toT = bootstrap cfg ls ∧
      ∀ p, (Ccp.TreeStored.bootstrap cfg ls).stored p = children (bootstrap cfg ls) p) ∧
    ((Ccp.TreeStored.link cfg ls).toT = link cfg ls ∧
      ∀ p, (Ccp.TreeStored.link cfg ls).stored p = children (link cfg ls) p) := by
  refine ⟨⟨Ccp.TreeStored.bootstrap_toT cfg ls, fun p => ?_⟩, ⟨Ccp.TreeStored.link_toT cfg ls, fun p => ?_⟩⟩
  · rw [Ccp.TreeStored.stored_eq_children (Ccp.TreeStored.goodS_bootstrap cfg ls) p, Ccp.TreeStored.bootstrap_toT]
  · rw [Ccp.TreeStored.stored_eq_children (Ccp.TreeStored.goodS_link cfg ls) p, Ccp.TreeStored.link_toT]

/-- Every stored child list is in strictly ascending line order (hence duplicate free). -/
theorem stored_children_ascending (cfg : Cfg) (ls : List Str) (p : Nat) :
    ((Ccp.TreeStored.parse cfg ls).stored p).Pairwise (· < ·) := by
  rw [(stored_children_eq_derived cfg ls).1 p]
  exact children_sorted _ _

/-- A line that has a parent is stored in exactly one list — its parent's — exactly once,
and exactly once in all stored lists taken together. -/
theorem stored_child_exactly_once (cfg : Cfg) (ls : List Str) (j : Nat)
    (hj : j < (parse cfg ls).size) (hne : parentOf (parse cfg ls) j ≠ j) :
    (∀ i, j ∈ (Ccp.TreeStored.parse cfg ls).stored i ↔ i = parentOf (parse cfg ls) j) ∧
    ((Ccp.TreeStored.parse cfg ls).stored (parentOf (parse cfg ls) j)).count j = 1 ∧
    (Ccp.TreeStored.parse cfg ls).children.flatten.count j = 1 := by
  have h := child_in_exactly_one_list (parse cfg ls) j hj hne
  refine ⟨fun i => ?_, ?_, ?_⟩
  · rw [(stored_children_eq_derived cfg ls).1 i]; exact h.1 i
  · rw [(stored_children_eq_derived cfg ls).1]; exact h.2
  · rw [Ccp.TreeStored.flatten_count (Ccp.TreeStored.goodS_parse cfg ls) j, Ccp.TreeStored.parse_toT]
    simp [hj, hne]

/-- A root is stored in no list at all; neither is a line number outside the config. -/
theorem stored_root_in_no_list (cfg : Cfg) (ls : List Str) (j : Nat)
    (hr : parentOf (parse cfg ls) j = j) :
    (∀ i, j ∉ (Ccp.TreeStored.parse cfg ls).stored i) ∧
    (Ccp.TreeStored.parse cfg ls).children.flatten.count j = 0 := by
  constructor
  · intro i
    rw [(stored_children_eq_derived cfg ls).1 i]
    exact root_in_no_list (parse cfg ls) j hr i
  · rw [Ccp.TreeStored.flatten_count (Ccp.TreeStored.goodS_parse cfg ls) j, Ccp.TreeStored.parse_toT]
    simp [hr]

/-- **One call of `_reparent_child`.**  On ANY state whose stored lists are the derived ones
(`GoodS`: every list strictly ascending and holding exactly the other lines that name the
line as parent, parents not after their children), re-parenting a line `c` to an earlier line
`p` yields again such a state, whose parents are those of the parent-only model and whose
stored lists are the derived lists of the re-parented tree.  (This is the step the code
before the fix of F02 violated: it appended without removing from the former parent and
without the membership test.) -/
theorem reparent_keeps_stored_eq_derived {s : Ccp.TreeStored.S} (h : Ccp.TreeStored.GoodS s) {p c : Nat}
    (hc : c < s.toT.size) (hpc : p < c) :
    Ccp.TreeStored.GoodS (Ccp.TreeStored.reparent s p c) ∧
    (Ccp.TreeStored.reparent s p c).toT = reparent s.toT p c ∧
    ∀ q, (Ccp.TreeStored.reparent s p c).stored q = children (reparent s.toT p c) q := by
  have hg : Ccp.TreeStored.GoodS (Ccp.TreeStored.reparent s p c) :=
    Ccp.TreeStored.good_reparent h hc hpc
  exact ⟨hg, rfl, fun q => Ccp.TreeStored.stored_eq_children hg q⟩

/-! ### non-vacuity: the stored lists of concrete configs -/

/-- F02's witness: the indented body line ` hi` is an indentation child of the banner line
already after pass 1 and is NOT appended a second time by the banner walk -/
example : (Ccp.TreeStored.parse exCfg exBanner).children = [[1, 2, 3], [], [], [], [5], []] := by
  simp only [exBanner, toList_lit]; decide +kernel
example : (Ccp.TreeStored.linkByIndent exCfg exBanner).children = [[1], [], [], [], [5], []] := by
  simp only [exBanner, toList_lit]; decide +kernel
/-- `  y` is stored under ` x` after pass 1 and moves to the macro line; `@` (a root after
pass 1) is appended and the list is sorted -/
example : (Ccp.TreeStored.linkByIndent exCfg exDeep).children =
    [[1, 4], [2], [3], [], [], [6], [7], [], [], [10], [], []] := by
  simp only [exDeep, toList_lit]; decide +kernel
example : (Ccp.TreeStored.parse exCfg exDeep).children =
    [[1, 4], [2], [3], [], [], [6, 7, 8], [], [], [], [10, 11], [], []] := by
  simp only [exDeep, toList_lit]; decide +kernel
/-- hypotheses of `stored_child_exactly_once` / `stored_root_in_no_list` are satisfiable -/
example : 1 < (parse exCfg exBanner).size ∧ parentOf (parse exCfg exBanner) 1 ≠ 1 := by
  rw [show parse exCfg exBanner = _ from parse_vecBanner]; decide +kernel
example : parentOf (parse exCfg exBanner) 4 = 4 := by
  rw [show parse exCfg exBanner = _ from parse_vecBanner]; decide +kernel
/-- a nested banner start takes the following lines away from the outer banner: lines 3 and 4
change their parent twice (` b`: 2 → 0 → 2, `#`: root → 0 → 2), ` c` once (2 → 0) -/
def exNested : List Str :=
  ["banner motd ^".toList, "a".toList, "banner exec #".toList, " b".toList, "#".toList, " c".toList,
   "^".toList, "d".toList]
example : (Ccp.TreeStored.parse exCfg exNested).parents = [0, 0, 0, 2, 2, 0, 0, 7] := by
  simp only [exNested, toList_lit]; decide +kernel
example : (Ccp.TreeStored.parse exCfg exNested).children = [[1, 2, 5, 6], [], [3, 4], [], [], [], [], []] := by
  simp only [exNested, toList_lit]; decide +kernel
/-- the sort matters: ` hi` is an indentation child of the banner line after pass 1 (the blank
line above it cannot be a parent), the banner walk then appends the blank line 1 behind it -/
example : (Ccp.TreeStored.linkByIndent exCfg ["banner motd ^".toList, "".toList, " hi".toList, "^".toList]).children
    = [[2], [], [], []] := by
  simp only [toList_lit]; decide +kernel
example : (Ccp.TreeStored.parse exCfg ["banner motd ^".toList, "".toList, " hi".toList, "^".toList]).children
    = [[1, 2, 3], [], [], []] := by
  simp only [toList_lit]; decide +kernel
/-- hypotheses of `reparent_keeps_stored_eq_derived`: the state after passes 1–3 is `GoodS`,
and re-parenting line 5 of `exDeep` (`macro name m`, a root) under line 4 is a legal call -/
example : Ccp.TreeStored.GoodS (Ccp.TreeStored.link exCfg exDeep) ∧
    (4 : Nat) < 5 ∧ 5 < (Ccp.TreeStored.link exCfg exDeep).toT.size :=
  ⟨Ccp.TreeStored.goodS_link exCfg exDeep, by decide, by
    show _ < (Ccp.TreeStored.link exCfg exDeep).texts.length
    rw [(Ccp.TreeStored.good_link exCfg exDeep).1]; decide⟩
example : (Ccp.TreeStored.reparent (Ccp.TreeStored.link exCfg exDeep) 4 5).children =
    [[1, 4], [2], [3], [], [5], [6, 7, 8], [], [], [], [10, 11], [], []] := by
  simp only [exDeep, toList_lit]; decide +kernel
/-- hypotheses of `body_line_child_of_start` / `banner_body_line_child` / `macro_body_line_child`
are satisfiable: line 2 of `exBanner` (a blank body line) is owned by the banner start 0, line 7
of `exDeep` (a deeper-indented macro body line) by the macro start 5 -/
example : macroOwner exCfg (parse exCfg exBanner).texts 2 = none ∧
    bannerOwner (parse exCfg exBanner).texts 2 = some 0 := by
  rw [show parse exCfg exBanner = _ from parse_vecBanner]; decide +kernel
example : macroOwner exCfg (parse exCfg exDeep).texts 7 = some 5 := by
  rw [show parse exCfg exDeep = _ from parse_vecDeep]; decide +kernel
example : covers coverB exBanner 0 3 = true ∧ (∀ m, 0 < m → m < 3 → covers coverB exBanner m 3 = false) ∧
    (∀ m, m < 3 → covers coverM exBanner m 3 = false) :=
  have hB := (lastCover_eq_some coverB exBanner 3 3 0).mp (by
    simp only [exBanner, toList_lit]; decide +kernel)
  ⟨hB.2.1, hB.2.2, (lastCover_eq_none coverM exBanner 3 3).mp (by
    simp only [exBanner, toList_lit]; decide +kernel)⟩
example : covers coverM exDeep 5 8 = true ∧ (∀ q, 5 < q → q < 8 → covers coverM exDeep q 8 = false) :=
  ((lastCover_eq_some coverM exDeep 8 8 5).mp (by
    simp only [exDeep, toList_lit]; decide +kernel)).2

/-! ## the two remaining views the property names: `geneology_text`, `has_children` (`Model/TreeViews.lean`) -/

/-- `geneology_text` is the texts along the path from the root down to the line itself: one
text per ancestor, root first, then the line's own text (so it is never empty and its last
entry is the line's text).  Holds for every forest, in particular for every parse of an
indentation-style config (`parse_forest`) and every brace-syntax parse (`C08.junos_forest`). -/
theorem geneologyText_spec {t : T} (hf : Forest t) (i : Nat) :
    geneologyText t i = ((ancestors t i).reverse ++ [i]).map (textOf t) ∧
    (geneologyText t i).length = (ancestors t i).length + 1 ∧
    (geneologyText t i).getLast? = some (textOf t i) := by
  have h : geneologyText t i = ((ancestors t i).reverse ++ [i]).map (textOf t) := by
    rw [geneologyText, (geneology_spec hf i).1]
  refine ⟨h, ?_, ?_⟩
  · rw [h]; simp
  · rw [h]; simp

/-- `has_children` is `is_parent`: true iff some other line names `i` as its parent. -/
theorem hasChildren_spec (t : T) (i : Nat) :
    hasChildren t i = isParent t i ∧
    (hasChildren t i = true ↔ ∃ j, j < t.size ∧ parentOf t j = i ∧ j ≠ i) := by
  have h : hasChildren t i = isParent t i := by
    simp only [hasChildren, isParent]
    cases children t i <;> simp
  exact ⟨h, by rw [h]; exact (flags_spec t i).2.1⟩

example : Forest (parse exCfg exDeep) := parse_forest _ _
example : geneologyText (parse exCfg exDeep) 3 = (parse exCfg exDeep).texts.take 4 := by
  rw [show parse exCfg exDeep = _ from parse_vecDeep]; decide +kernel
example : hasChildren (parse exCfg exDeep) 1 = true ∧ hasChildren (parse exCfg exDeep) 3 = false := by
  rw [show parse exCfg exDeep = _ from parse_vecDeep]; decide +kernel

end Ccp.C03
