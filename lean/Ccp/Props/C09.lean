import Ccp.Proofs.Input
import Ccp.Proofs.InputArgs
/-!
# C09 — all input forms are equivalent and file save/load is the identity

Property theorems only; helper lemmas live in `Ccp.Proofs.Input` and `Ccp.Proofs.InputArgs`, the model in
`Ccp.Model.Input` (dispatch of `read_config`, `str.splitlines`, universal newlines,
the `\r*\n` split, `save_as`), `Ccp.Model.Tree` (`parse`) and `Ccp.Model.InputArgs` (every other
argument, every other thing at a path).

`BreakFree l`  : no character of `l` is one of the 10 `str.splitlines` boundaries.
`CleanLines ls`: no line contains `\r` or `\n`.
`dropLastEmpty`: the list without one final empty line.
`IsLinesep sep`: `sep` is `"\n"` or `"\r\n"` (`os.linesep`).
`NoCR t`, `NoLF t`: the text contains no `\r`, no `\n`.
`norm ls`      : the lines read back from the file `save_as` writes for `ls`: `ls` and a final empty line,
                 unless `ls` has two or more lines and ends with one; two empty lines for the empty list.
-/
namespace Ccp.C09
open Ccp.Input Ccp.Py

abbrev LF : Str := ['\n']
abbrev CRLF : Str := ['\r', '\n']

/-- **splitlines ∘ join**: for lines free of line-break characters, splitting the joined text
(separator LF or CRLF) gives the lines back, except that one final empty line is not reported;
so a final line end adds no line, and for lists whose last line is not empty the round trip is
exact. -/
theorem splitlines_join (ls : List Str) (h : ∀ l ∈ ls, BreakFree l) :
    splitlines (join LF ls) = dropLastEmpty ls ∧
    splitlines (join CRLF ls) = dropLastEmpty ls ∧
    (ls ≠ [] → splitlines (join LF ls ++ LF) = ls ∧ splitlines (join CRLF ls ++ CRLF) = ls) ∧
    (ls.getLast? ≠ some [] → splitlines (join LF ls) = ls ∧ splitlines (join CRLF ls) = ls) := by
  exact ⟨splitlines_join_sep (.inl rfl) ls h, splitlines_join_sep (.inr rfl) ls h,
    fun hne => ⟨splitlines_join_final (.inl rfl) ls h hne, splitlines_join_final (.inr rfl) ls h hne⟩,
    fun hl => ⟨splitlines_join_exact (.inl rfl) ls h hl, splitlines_join_exact (.inr rfl) ls h hl⟩⟩

/-- what `read_config` does with a `str` built from break-free lines: the number of lines that
`splitlines` reports decides — none: the string itself is handed on (and rejected by the next
step), one: the string is a **file path**, two or more: these are the config lines. -/
theorem str_dispatch (fs : Path → Option Text) (ls : List Str) (h : ∀ l ∈ ls, BreakFree l)
    (sep : Str) (hsep : sep = LF ∨ sep = CRLF) :
    readConfig fs (.str (join sep ls)) =
      (if (dropLastEmpty ls).length = 1 then (readConfigFile fs (join sep ls)).map .lines
       else if (dropLastEmpty ls).length > 1 then .ok (.lines (dropLastEmpty ls))
       else .ok (.rawStr (join sep ls))) := by
  simp only [readConfig, readStr, splitlines_join_sep hsep ls h]

/-- a `pathlib.Path` is read exactly like the string `str(path)`: same lines or same error, same tree -/
theorem path_reads_like_str (fs : Path → Option Text) (cfg : Tree.Cfg) (p : Path) :
    initLines fs (.path p) = initLines fs (.str p) ∧ load cfg fs (.path p) = load cfg fs (.str p) :=
  ⟨rfl, rfl⟩

/-- the six ways of handing over the same configuration -/
def formsOf (ls : List Str) : List Input :=
  [.list ls, .tuple ls, .str (join LF ls), .str (join CRLF ls), .str (join LF ls ++ LF), .str (join CRLF ls ++ CRLF)]

/-- **Forms agree.**  For every list `ls` of at least two lines, none containing a line-break
character, the last one not empty: the list, the tuple, the string joined with LF, the string
joined with CRLF, and both strings with a final line end are all read as exactly the lines `ls`
(whatever the file system holds), hence give the identical parsed tree; so does a `pathlib.Path`
whose `str()` is one of these strings (a Path is read exactly like its string, `path_reads_like_str`).
(With fewer than two lines a string is not a config but a path — `single_line_str_is_path`;
with a last line that is empty the string forms report one line less — `splitlines_join`.) -/
theorem forms_agree (fs : Path → Option Text) (cfg : Tree.Cfg) (ls : List Str)
    (hbf : ∀ l ∈ ls, BreakFree l) (h2 : 2 ≤ ls.length) (hlast : ls.getLast? ≠ some []) :
    (∀ i ∈ formsOf ls, initLines fs i = .ok ls) ∧
    (∀ i ∈ formsOf ls, load cfg fs i = .ok (Tree.parse cfg ls)) ∧
    (∀ s, Input.str s ∈ formsOf ls → load cfg fs (.path s) = .ok (Tree.parse cfg ls)) := by
  have hne : ls ≠ [] := by rintro rfl; simp at h2
  have key : ∀ s, splitlines s = ls → initLines fs (.str s) = .ok ls := fun s hs => by
    rw [initLines_str_lines fs (hs ▸ h2), hs]
  have all : ∀ i ∈ formsOf ls, initLines fs i = .ok ls := by
    intro i hi
    simp only [formsOf, List.mem_cons, List.not_mem_nil, or_false] at hi
    rcases hi with rfl | rfl | rfl | rfl | rfl | rfl
    · rfl
    · rfl
    · exact key _ (splitlines_join_exact (.inl rfl) ls hbf hlast)
    · exact key _ (splitlines_join_exact (.inr rfl) ls hbf hlast)
    · exact key _ (splitlines_join_final (.inl rfl) ls hbf hne)
    · exact key _ (splitlines_join_final (.inr rfl) ls hbf hne)
  have allLoad : ∀ i ∈ formsOf ls, load cfg fs i = .ok (Tree.parse cfg ls) := by
    intro i hi
    simp [load, all i hi, Except.map]
  exact ⟨all, allLoad, fun s hs => (path_reads_like_str fs cfg s).2.trans (allLoad _ hs)⟩

/-- a string in which `splitlines` finds exactly one line — no line break at all, or only a final
one — is taken for a **file path**, and so is a `pathlib.Path` with such a string: the answer is
the content of that file, and `FileNotFoundError` when nothing is there.  It is never parsed as a
one-line config. -/
theorem single_line_str_is_path (fs : Path → Option Text) (s : Str) (h : (splitlines s).length = 1) :
    initLines fs (.str s) = (match fs s with
      | none => .error .fileNotFound
      | some raw => .ok (fileLines raw)) ∧
    initLines fs (.path s) = initLines fs (.str s) := by
  refine ⟨?_, rfl⟩
  simp only [initLines, readConfig, readStr, h, if_true, readConfigFile]
  cases fs s <;> rfl

/-- the empty string is rejected (`InvalidParameters`), `None` and the empty list/tuple are the
empty config.  (`str(pathlib.Path(""))` is `"."`, so a Path never reaches the empty-string case.) -/
theorem degenerate_inputs (fs : Path → Option Text) :
    initLines fs (.str []) = .error .invalidParameters ∧
    initLines fs .none = .ok [] ∧ initLines fs (.list []) = .ok [] ∧ initLines fs (.tuple []) = .ok [] := by
  refine ⟨rfl, rfl, rfl, rfl⟩

/-- **File input.**  A path (a single-line string, or a `pathlib.Path` with such a string, naming
an existing file) yields the file's text
split at its line ends, as the code does it: universal newlines (`\r\n`, `\r` → `\n`), then the
`\r*\n` split.  The result is *the* splitting of the translated text at `\n`: joining the lines
with `\n` gives the translated text back, no line contains `\n` or `\r`, there is at least one
line — so the text after the last line end is a line too, and it is the empty line when the
file ends with a line end (the trailing empty element is kept).  `\r*` never has anything to
match, the result equals the plain split at `\n`.  The translation itself leaves no `\r` and is
the identity on texts without `\r`. -/
theorem file_split_spec (fs : Path → Option Text) (p : Path) (raw : Text)
    (hp : (splitlines p).length = 1) (hf : fs p = some raw) :
    initLines fs (.str p) = .ok (fileLines raw) ∧ initLines fs (.path p) = .ok (fileLines raw) ∧
    fileLines raw = splitRegexCRLF (universalNewlines raw) ∧
    fileLines raw = splitOn '\n' (universalNewlines raw) ∧
    join LF (fileLines raw) = universalNewlines raw ∧
    CleanLines (fileLines raw) ∧ fileLines raw ≠ [] ∧
    (∀ ls, ls ≠ [] → (∀ l ∈ ls, NoLF l) → join LF ls = universalNewlines raw → ls = fileLines raw) ∧
    NoCR (universalNewlines raw) ∧ (NoCR raw → universalNewlines raw = raw) := by
  have hsp : fileLines raw = splitOn '\n' (universalNewlines raw) :=
    splitRegexCRLF_noCR _ (universalNewlines_noCR raw)
  have hstr : initLines fs (.str p) = .ok (fileLines raw) := by
    rw [(single_line_str_is_path fs p hp).1, hf]
  refine ⟨hstr, hstr, rfl, hsp, ?_, (fileLines_clean raw).1, (fileLines_clean raw).2, ?_,
    universalNewlines_noCR raw, universalNewlines_id raw⟩
  · rw [hsp]; exact (join_splitOn '\n' _).1
  · intro ls hne hl hj
    rw [hsp, ← hj]; exact (splitOn_join '\n' ls hne (fun l h => (hl l h).not_mem)).symm

/-- a file whose text ends with a line end yields a final empty line; joined lines `ls` written
with LF or CRLF line ends and a final line end are read as `ls ++ [""]` -/
theorem file_of_lines (ls : List Str) (hne : ls ≠ []) (h : CleanLines ls) :
    fileLines (join LF ls) = ls ∧ fileLines (join LF ls ++ LF) = ls ++ [[]] ∧
    fileLines (writeNewlines CRLF (join LF ls ++ LF)) = ls ++ [[]] := by
  have hx : CleanLines (ls ++ [[]]) := forall_chars_snoc_nil h
  have hj : fileLines (join LF (ls ++ [[]])) = ls ++ [[]] := fileLines_join _ (by simp) hx
  refine ⟨fileLines_join ls hne h, ?_, ?_⟩ <;> rw [join_final hne]
  · exact hj
  · rw [fileLines_write (.inr rfl) _ (noCR_join _ hx)]; exact hj

/-- **Save/load is stable.**  Take any file content `raw`, any `os.linesep` (LF or CRLF), any
tree configuration (syntax, comment delimiters, `ignore_blank_lines` on or off).  Let
`b₁ = cycle raw` be the bytes of the first save of the object loaded from `raw`.  Then for every
number `n` of further load+save cycles the bytes written are `b₁` again, and the lines read and
the texts of the object are those read from `b₁`: the file neither grows nor shrinks however
often the cycle repeats. -/
theorem save_load_fixpoint (cfg : Tree.Cfg) (sep : Str) (hs : IsLinesep sep) (raw : Text) (n : Nat) :
    let b₁ := cycle cfg sep raw
    iter (cycle cfg sep) n b₁ = b₁ ∧
    fileLines (iter (cycle cfg sep) n b₁) = fileLines b₁ ∧
    texts cfg (fileLines (iter (cycle cfg sep) n b₁)) = texts cfg (fileLines b₁) := by
  have hfix : cycle cfg sep (cycle cfg sep raw) = cycle cfg sep raw :=
    saveAs_reload (stable_texts cfg) sep hs raw
  intro b₁
  show iter (cycle cfg sep) n (cycle cfg sep raw) = cycle cfg sep raw ∧ _
  rw [iter_fixed hfix n]
  exact ⟨rfl, rfl, rfl⟩

/-- the same on the level of the file system: saving the object loaded from path `p` to `q` and
loading `q` again (any paths that are single-line strings) gives an object that is saved as the same text -/
theorem save_load_paths (cfg : Tree.Cfg) (sep : Str) (hs : IsLinesep sep) (fs : Path → Option Text)
    (p q : Path) (raw : Text) (hp : (splitlines p).length = 1) (hq : (splitlines q).length = 1)
    (hf : fs p = some raw) :
    ∃ t₀, load cfg fs (.str p) = .ok t₀ ∧
      let b₁ := saveAs sep (getText t₀)
      b₁ = cycle cfg sep raw ∧
      ∃ t₁, load cfg (fsWrite fs q b₁) (.str q) = .ok t₁ ∧ saveAs sep (getText t₁) = b₁ := by
  refine ⟨Tree.parse cfg (fileLines raw), ?_, rfl, Tree.parse cfg (fileLines (cycle cfg sep raw)), ?_, ?_⟩
  · simp [load, (single_line_str_is_path fs p hp).1, hf, Except.map]
  · have : fsWrite fs q (saveAs sep (getText (Tree.parse cfg (fileLines raw)))) q
        = some (cycle cfg sep raw) := by simp [fsWrite]; rfl
    simp [load, (single_line_str_is_path _ q hq).1, this, Except.map]
  · exact saveAs_reload (stable_texts cfg) sep hs raw

/-- what the first save holds and what is read back from it: the object's lines, with a final
empty line unless there is one already (`norm`); the texts of a file-loaded object are the file's
lines (without `ignore_blank_lines`). -/
theorem first_save_spec (cfg : Tree.Cfg) (hi : cfg.ignoreBlank = false) (sep : Str) (hs : IsLinesep sep)
    (raw : Text) :
    texts cfg (fileLines raw) = fileLines raw ∧
    fileLines (cycle cfg sep raw) = norm (fileLines raw) ∧
    universalNewlines (cycle cfg sep raw) = join LF (norm (fileLines raw)) := by
  have hc := (fileLines_clean raw).1
  refine ⟨texts_noIgnore cfg hi _, ?_, ?_⟩
  · show fileLines (saveAs sep (texts cfg (fileLines raw))) = _
    rw [texts_noIgnore cfg hi, fileLines_saveAs sep hs _ hc]
  · show universalNewlines (saveAs sep (texts cfg (fileLines raw))) = _
    rw [texts_noIgnore cfg hi]
    unfold saveAs
    rw [saveText_eq _ hc.noLF, universal_write sep hs _ (noCR_join _ (cleanLines_norm hc))]

/-- starting from lines of any origin (a list whose items may even contain `\r` or `\n`): the
first save need not be reproduced (an embedded `\r` is read back as a line end), but the second
is, for ever after. -/
theorem save_load_from_any_lines (cfg : Tree.Cfg) (sep : Str) (hs : IsLinesep sep) (ls : List Str) (n : Nat) :
    let b₂ := cycle cfg sep (saveAs sep (texts cfg ls))
    iter (cycle cfg sep) n b₂ = b₂ :=
  (save_load_fixpoint cfg sep hs (saveAs sep (texts cfg ls)) n).1

/-- the constants of the reader and writer in `/repo` (regenerated from the source on every run)
are the ones the model hard-wires: the regex `\r*\n` (both where `read_config` passes it and as
the default), `open(mode="r", newline=None)`, `"\n".join`, the `"\n"` terminator test and
addition, `open(…, "w")` without a `newline` argument. -/
theorem constants_as_modelled :
    Gen.inputLinesplitRgx = "\\r*\\n" ∧ Gen.inputLinesplitRgxDefault = "\\r*\\n" ∧
    Gen.inputOpenMode = "r" ∧ Gen.inputOpenNewlineIsNone = true ∧
    Gen.saveJoinSep = "\n" ∧ Gen.saveEndswith = "\n" ∧ Gen.saveTerminator = "\n" ∧
    Gen.saveOpenMode = "w" ∧ Gen.saveOpenHasNewlineArg = false := by decide

/-! ## every other argument, every other thing at a path: rejected (model `Ccp.Model.InputArgs`) -/

/-- **The extended reader is the old one on the old inputs.**  `loadArg` (any Python object as `config`, a
file system whose paths may also hold directories and undecodable files) agrees with `load` on the five
input forms over a file system of plain files: same tree, or the same exception. -/
theorem loadArg_conservative (cfg : Tree.Cfg) (fs : Path → Option Text) (i : Input) :
    loadArg cfg (nodesOf fs) (.input i) = (load cfg fs i).mapError Exc.ofErr := by
  unfold loadArg load
  rw [initLinesArg_conservative]
  cases initLines fs i <;> rfl

/-- a `list` / `tuple` given item by item: when every item is a `str`, it is the list form -/
theorem str_items_are_the_list (cfg : Tree.Cfg) (fs : Path → Node) (ls : List Str) :
    loadArg cfg fs (.coll .list (ls.map .str)) = .ok (Tree.parse cfg ls) ∧
    loadArg cfg fs (.coll .tuple (ls.map .str)) = .ok (Tree.parse cfg ls) := by
  unfold loadArg
  rw [initLinesArg_strs fs .list (Or.inl rfl), initLinesArg_strs fs .tuple (Or.inr rfl)]
  exact ⟨rfl, rfl⟩

/-- **Nothing else is taken for a configuration.**  A collection is loaded only if it is a `list` or a
`tuple` and every item is a `str` (then the tree is the one of these lines): a non-`str` item, another
Sequence class (deque, bytes, range …), a set or a dict never produce a tree.  An object whose iteration
raises and an object without `len()` are rejected whatever they hold. -/
theorem only_str_lists_load (cfg : Tree.Cfg) (fs : Path → Node) :
    (∀ k items t, loadArg cfg fs (.coll k items) = .ok t →
        (k = .list ∨ k = .tuple) ∧ ∃ ls, items = ls.map .str ∧ t = Tree.parse cfg ls) ∧
    (∀ n, ∃ e, loadArg cfg fs (.noIter n) = .error e) ∧
    loadArg cfg fs .unsized = .error .typeError := by
  refine ⟨?_, ?_, rfl⟩
  · intro k items t h
    unfold loadArg at h
    cases hi : initLinesArg fs (.coll k items) with
    | error e => rw [hi] at h; cases h
    | ok ls =>
      rw [hi] at h
      obtain ⟨hk, hitems⟩ := initLinesArg_coll_ok fs k items ls hi
      refine ⟨hk, ls, hitems, ?_⟩
      cases h; rfl
  · intro n
    cases n with
    | zero => exact ⟨.valueError, rfl⟩
    | succ m => exact ⟨.invalidParameters, rfl⟩

/-- the exception classes of the rejections: an item of a foreign type → `InvalidParameters` (whatever the
collection class); a set / dict of acceptable items → `ValueError`; another Sequence class of acceptable
items → `InvalidParameters`; a `BaseCfgLine` object inside a list → `ValueError` -/
theorem rejection_classes (cfg : Tree.Cfg) (fs : Path → Node) (k : Kind) (items : List Item) :
    (Item.other ∈ items → loadArg cfg fs (.coll k items) = .error .invalidParameters) ∧
    (items.all Item.accepted = true → k = .sized → loadArg cfg fs (.coll k items) = .error .valueError) ∧
    (items.all Item.accepted = true → k = .seq → loadArg cfg fs (.coll k items) = .error .invalidParameters) ∧
    (items.all Item.accepted = true → Item.cfgLine ∈ items → (k = .list ∨ k = .tuple) →
        loadArg cfg fs (.coll k items) = .error .valueError) := by
  have hacc : items.all Item.accepted = true → loadArg cfg fs (.coll k items) =
      ((if k = .sized then .error .valueError else .ok (k, items)) >>= initColl).map (Tree.parse cfg) :=
    fun ha => by rw [← readColl_accepted ha]; rfl
  refine ⟨fun ho => ?_, fun ha hk => ?_, fun ha hk => ?_, fun ha hc hk => ?_⟩
  · have hall : items.all Item.accepted = false :=
      Bool.eq_false_iff.mpr fun hall => nomatch List.all_eq_true.mp hall _ ho
    show ((readColl (.coll k items) >>= initColl).map (Tree.parse cfg)) = _
    rw [readColl_rejected hall]; rfl
  · rw [hacc ha, hk]; rfl
  · rw [hacc ha, hk]; rfl
  · have hm : items.mapM Item.str? = none := by
      cases hm : items.mapM Item.str? with
      | none => rfl
      | some ls => rw [mapM_str_inv _ _ hm] at hc; simp at hc
    rw [hacc ha]
    rcases hk with rfl | rfl <;> simp [bind, Except.bind, initColl, hm, Except.map]

/-- a one-line string (or Path) naming a directory, a file that cannot be read, or a file the codec cannot decode,
is rejected — nothing is read as "the file's text" — with `OSError` resp. `UnicodeDecodeError` -/
theorem bad_path_nodes_rejected (cfg : Tree.Cfg) (fs : Path → Node) (s : Str) (h : (splitlines s).length = 1) :
    (fs s = .dir → loadArg cfg fs (.input (.str s)) = .error .osError ∧
                   loadArg cfg fs (.input (.path s)) = .error .osError) ∧
    (fs s = .unreadable → loadArg cfg fs (.input (.str s)) = .error .osError ∧
                          loadArg cfg fs (.input (.path s)) = .error .osError) ∧
    (fs s = .undecodable → loadArg cfg fs (.input (.str s)) = .error .unicodeDecodeError ∧
                           loadArg cfg fs (.input (.path s)) = .error .unicodeDecodeError) := by
  refine ⟨?_, ?_, ?_⟩ <;> intro hn <;>
    simp [loadArg, initLinesArg, readStrN, h, readConfigFileN, hn, bind, Except.bind, Except.map]

/-- `save_as`: a target that cannot be opened raises (IsADirectoryError, FileNotFoundError) whatever the
lines; a writable target receives exactly the text of `saveAs` when the codec can encode it (UTF-8 always
can), and `UnicodeEncodeError` is raised otherwise; `read_config_file` on a finished object is refused. -/
theorem save_failures (codec : Codec) (sep : Str) (ls : List Str) (p : Path) :
    saveAsTo codec .directory sep ls = .error .isADirectoryError ∧
    saveAsTo codec .noParent sep ls = .error .fileNotFoundError ∧
    saveAsTo .utf8 .writable sep ls = .ok (saveAs sep ls) ∧
    (saveAsTo .latin1 .writable sep ls =
      if (saveText ls).all (fun c => c.toNat < 256) then .ok (saveAs sep ls) else .error .unicodeEncodeError) ∧
    rereadFinished p = .error .requirementFailure :=
  ⟨rfl, rfl, rfl, rfl, rfl⟩

/-! ## non-vacuity -/

def iosCfg : Tree.Cfg := { ios := true, delims := ['!'], ignoreBlank := false }

def demo : List Str := ["interface Ethernet1".toList, " ip address 1.1.1.1 255.0.0.0".toList, "".toList, "end".toList]

-- `forms_agree`: the hypotheses hold for `demo` (interior blank line, 4 lines)
example : (∀ l ∈ demo, ∀ c ∈ l, isBreak c = false) ∧ 2 ≤ demo.length ∧ demo.getLast? ≠ some [] := by
  simp only [demo, toList_lit]
  decide +kernel
example : (formsOf demo).map (fun i => (initLines (fun _ => none) i).toOption) = List.replicate 6 (some demo) := by
  simp only [demo, toList_lit]
  decide +kernel
-- a one-line string is a path: nothing there → FileNotFoundError; something there → its lines
example : initLines (fun _ => none) (.str "hostname R1".toList) = .error .fileNotFound := by
  simp only [toList_lit]
  rfl
example : initLines (fun p => if p = "r1.cfg".toList then some "a\r\n b\r\n".toList else none) (.str "r1.cfg".toList)
    = .ok ["a".toList, " b".toList, []] := by
  simp only [toList_lit]
  rfl
example : initLines (fun p => if p = "r1.cfg".toList then some "a\r\n b\r\n".toList else none) (.path "r1.cfg".toList)
    = .ok ["a".toList, " b".toList, []] := by
  simp only [toList_lit]
  rfl
-- splitlines: VT and NEL break, `\r\n` breaks once, a final line end adds nothing
example : splitlines "a\x0bb\r\nc\u0085".toList = ["a".toList, "b".toList, "c".toList] := by
  simp only [toList_lit]
  decide +kernel
-- the regex split keeps the trailing empty element; `\r*` swallows a run of `\r` before `\n` only
example : splitRegexCRLF "a\r\r\nb\r\rX\r\n".toList = ["a".toList, "b\r\rX".toList, []] := by
  simp only [toList_lit]
  decide +kernel
-- file without final line end: first save adds it, afterwards nothing changes (3 cycles shown)
example : (List.range 4).map (fun n => iter (cycle iosCfg LF) n "a\r\n\r\nb".toList)
    = ["a\r\n\r\nb".toList, "a\n\nb\n".toList, "a\n\nb\n".toList, "a\n\nb\n".toList] := by
  simp only [toList_lit]
  decide +kernel
-- with `ignore_blank_lines`: the blank lines go at the first load, then nothing changes
example : (List.range 3).map (fun n => iter (cycle { iosCfg with ignoreBlank := true } LF) n "a\n\n b\n\n".toList)
    = ["a\n\n b\n\n".toList, "a\n b\n".toList, "a\n b\n".toList] := by
  simp only [toList_lit]
  decide +kernel
-- an unterminated banner keeps the blank lines after it, also the final one
example : (List.range 3).map (fun n => iter (cycle { iosCfg with ignoreBlank := true } LF) n "banner motd ^\n\nx".toList)
    = ["banner motd ^\n\nx".toList, "banner motd ^\n\nx\n".toList, "banner motd ^\n\nx\n".toList] := by
  simp only [toList_lit]
  decide +kernel
-- a list item with an embedded `\r`: the first save is not reproduced, the second is
example : (List.range 3).map (fun n => iter (cycle iosCfg LF) n (saveAs LF ["a\rb".toList]))
    = ["a\rb\n".toList, "a\nb\n".toList, "a\nb\n".toList] := by
  simp only [toList_lit]
  decide +kernel
example : (List.range 3).map (fun n => iter (cycle iosCfg CRLF) n "a\n".toList)
    = ["a\n".toList, "a\r\n".toList, "a\r\n".toList] := by
  simp only [toList_lit]
  decide +kernel

-- the rejection side: concrete arguments
example : loadArg iosCfg (fun _ => .absent) (.coll .list [.str "a".toList, .other]) = .error .invalidParameters := by rfl
example : loadArg iosCfg (fun _ => .absent) (.coll .sized [.str "a".toList]) = .error .valueError := by rfl
example : loadArg iosCfg (fun _ => .absent) (.coll .seq []) = .error .invalidParameters := by rfl
example : loadArg iosCfg (fun _ => .absent) (.coll .tuple [.str "a".toList, .cfgLine]) = .error .valueError := by rfl
example : (splitlines "d.cfg".toList).length = 1 ∧ loadArg iosCfg (fun _ => .dir) (.input (.str "d.cfg".toList)) = .error .osError := by
  simp only [toList_lit]
  exact ⟨rfl, rfl⟩
example : saveAsTo .latin1 .writable LF ["a€".toList] = .error .unicodeEncodeError ∧
    saveAsTo .latin1 .writable LF ["aé".toList] = .ok "aé\n".toList := by
  simp only [toList_lit]
  exact ⟨rfl, rfl⟩

end Ccp.C09
