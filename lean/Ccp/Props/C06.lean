import Ccp.Proofs.Edit
import Ccp.Proofs.EditLinks
import Ccp.Proofs.EditFrame
import Ccp.Proofs.EditMulti
import Ccp.Proofs.EditPrefix
import Ccp.Proofs.EditBanner
import Ccp.Proofs.EditForms
/-!
# C06 — edits change exactly the targeted lines

Property theorems only; helper lemmas and the specification vocabulary live in
`Ccp.Proofs.Edit` and `Ccp.Proofs.EditList`:

* `NoFilter s` := `s.auto = false ∨ s.cfg.ignoreBlank = false` — the commit that may follow
  the edit does not filter blank lines.  This one hypothesis covers both cases of the text
  effect: auto-commit off (the texts are what the list operation left), and auto-commit on
  without `ignore_blank_lines` (`bootstrap` keeps the texts, `bootstrap_keeps_texts`).
  With auto-commit on *and* `ignore_blank_lines` the texts after the step are one bootstrap
  of the auto-commit-off result — the same lines minus, possibly, blank ones
  (`auto_commit_step_texts`).
* `insertPos n k` / `popPos n k` — Python's index normalisation for `list.insert` / `list.pop`;
* `expandLine after x a m` := `if m then (if after then [a, x] else [x, a]) else [a]`;
* `matchCount n row` := number of `true` among the first `n` row entries;
* `idsOf items` := the committed line numbers carried by the list elements, in order;
  `IdsDistinct items` := `(idsOf items).Nodup`; `IdsSub new old` := `(idsOf new).Sublist (idsOf old)`;
* `Plain cfg ls` := no line of `ls` starts a banner and, under syntax ios, none starts a macro
  (then the final parents are C02's `specParent`); `shiftAfter e p` := `if p ≤ e then p else p + 1`
  (`Ccp.Proofs.EditFrame`); `rank keep j` := number of kept positions below `j` (`Ccp.Proofs.EditLinks`);
* `Forest`, `ancestors` are the C03 vocabulary;
* the vocabulary of the part on parent links (`PlainCommitted`, `PlainPayload`, `capturedBy`,
  `InsertFrame`, `MultiFrame`, `shiftAt`, `noIg`) is introduced where that part begins.

The last part is about `Ccp.Model.EditForms.stepX`: the other forms in which the editing calls take
their arguments (a `BaseCfgLine` for a text, a foreign line object as pattern), the rejections of
values that are neither, `ConfigList.remove`, a second `delete()` through a stale handle,
`factory=True` (`stepF`: no difference), and `classify_family_indent` called directly.

All other theorems are about `Ccp.Model.Edit.step`, for all states and payloads.  A state holds
a list of items (text + identity: the committed line number of the object, `none` for a
line created since the last commit); `s.texts` is the list of their texts.  An object
handle `h` is a committed line number.  The operations that find their object by
identity (object-level inserts, `replace_text`, `re_sub`) resolve it with `posOf` to its
current position `p` and work on states with uncommitted changes as well
(`handle_position`); `delete` and `append_to_family` index by the stored line number and
are only modelled on states without uncommitted changes.  A handle that cannot be
resolved is answered `dirtyHandle` — the harness skips such calls on both sides.  Regular
expressions are oracle data: `row[i]` says whether the regex matched line `i`, `reSub`
carries the substituted text.
-/
namespace Ccp.C06
open Ccp.Tree Ccp.Edit Ccp.Py

/-! ## what "one line added / one line changed, all others unchanged and in order" means -/

/-- A list of the form `take j ++ [x] ++ drop j` has exactly one more element, `x` sits at
`j`, removing position `j` gives back the old list, the lines before `j` keep their
position and the lines from `j` on move down by one. -/
theorem insertion_frame (old : List Str) (j : Nat) (x : Str) (hj : j ≤ old.length) :
    let new := old.take j ++ x :: old.drop j
    new.length = old.length + 1 ∧ new[j]? = some x ∧ new.eraseIdx j = old ∧
    (∀ m, m < j → new[m]? = old[m]?) ∧ (∀ m, j ≤ m → new[m + 1]? = old[m]?) :=
  inserted_frame old j x hj

/-- `List.set i x` changes position `i` only. -/
theorem replacement_frame (old : List Str) (i : Nat) (x : Str) (hi : i < old.length) :
    (old.set i x).length = old.length ∧ (old.set i x)[i]? = some x ∧
    ∀ m, m ≠ i → (old.set i x)[m]? = old[m]? := set_frame old i x hi

/-- Python's index normalisation of `list.insert(k, x)` on a list of length `n`. -/
theorem insertPos_spec (n : Nat) (k : Int) :
    insertPos n k ≤ n ∧
    (0 ≤ k → k ≤ n → (insertPos n k : Int) = k) ∧ ((n : Int) < k → insertPos n k = n) ∧
    (k < 0 → -(n : Int) ≤ k → (insertPos n k : Int) = n + k) ∧ (k < -(n : Int) → insertPos n k = 0) := by
  unfold insertPos
  split <;> omega

/-- Python's index normalisation of `list.pop(k)` for an index in range. -/
theorem popPos_spec (n : Nat) (k : Int) :
    (0 ≤ k → (popPos n k : Int) = k) ∧ (k < 0 → -(n : Int) ≤ k → (popPos n k : Int) = n + k) := by
  unfold popPos
  refine ⟨?_, ?_⟩ <;> split <;> omega

/-! ## list-level insert / append / pop -/

/-- **`ConfigList.insert(k, txt)`** always succeeds and is exactly `list.insert`: one line
added at the normalised position, everything else unchanged and in order
(`insertion_frame`). -/
theorem insert_spec (s : S) (k : Int) (txt : Str) (hnf : NoFilter s) :
    (step s (.insert k txt)).2 = .ok () ∧
    (step s (.insert k txt)).1.texts
      = s.texts.take (insertPos s.texts.length k) ++ txt :: s.texts.drop (insertPos s.texts.length k) := by
  refine ⟨rfl, ?_⟩
  simp only [Edit.step, edited_texts s hnf, pyInsert_map, fresh_text, ← pyInsert_eq]
  rfl

/-- **`ConfigList.append(txt)`** always succeeds and adds the line at the end. -/
theorem append_spec (s : S) (txt : Str) (hnf : NoFilter s) :
    (step s (.append txt)).2 = .ok () ∧ (step s (.append txt)).1.texts = s.texts ++ [txt] := by
  refine ⟨rfl, ?_⟩
  simp only [Edit.step, edited_texts s hnf, List.map_append, List.map_cons, List.map_nil, fresh_text]
  rfl

/-- **`ConfigList.pop(k)`**: in range (`-n ≤ k < n`) it removes exactly the line at the
normalised position; out of range it is an `IndexError` and the state is unchanged. -/
theorem pop_spec (s : S) (k : Int) (hnf : NoFilter s) :
    (-(s.texts.length : Int) ≤ k ∧ k < s.texts.length →
      (step s (.pop k)).2 = .ok () ∧
      (step s (.pop k)).1.texts = s.texts.eraseIdx (popPos s.texts.length k) ∧
      popPos s.texts.length k < s.texts.length) ∧
    (k < -(s.texts.length : Int) ∨ (s.texts.length : Int) ≤ k →
      step s (.pop k) = (s, .error .indexError)) := by
  constructor
  · intro h
    obtain ⟨h1, h2⟩ := pyPop_in_range s.texts k h
    rw [texts_length] at h
    obtain ⟨h3, _⟩ := pyPop_in_range s.items k h
    simp only [Edit.step, h3, edited_texts s hnf, map_eraseIdx', texts_length]
    exact ⟨trivial, rfl, by rw [texts_length] at h2; exact h2⟩
  · intro h
    rw [texts_length] at h
    simp only [Edit.step, pyPop_out_of_range s.items k h]

/-! ## list-level insert_before / insert_after (regex) -/

/-- the text effect shared by both directions: an explicit `List.flatMap` characterisation
(line `a` at index `i` becomes `[x, a]` / `[a, x]` when `row[i]` is true and stays `[a]`
otherwise — missing row entries count as no match), the length grows by the number of
matching lines, the old lines survive unchanged and in order, everything that is not a
copy of the payload is untouched, and the payload occurs exactly `matchCount` more often -/
theorem insertAtMatches_spec (after : Bool) (x : Str) (l : List Str) (row : List Bool) :
    insertAtMatches after x l row
      = l.zipIdx.flatMap (fun p => expandLine after x p.1 (row.getD p.2 false)) ∧
    (insertAtMatches after x l row).length = l.length + matchCount l.length row ∧
    l.Sublist (insertAtMatches after x l row) ∧
    (insertAtMatches after x l row).filter (· ≠ x) = l.filter (· ≠ x) ∧
    (insertAtMatches after x l row).count x = l.count x + matchCount l.length row :=
  ⟨insertAtMatches_eq_flatMap after x l row, insertAtMatches_length after x l row,
   insertAtMatches_sublist after x l row, insertAtMatches_filter after x l row,
   insertAtMatches_count after x l row⟩

/-- **list-level `insert_before(regex, txt)`**: with a non-empty regex and a payload that
is not a blank line under `ignore_blank_lines`, the new text list is the old one with
exactly one copy of the payload directly before every matching line
(`insertAtMatches_spec` with `after = false`). -/
theorem listInsertBefore_spec (s : S) (row : List Bool) (txt : Str) (hnf : NoFilter s)
    (hb : ¬ (isBlank txt = true ∧ s.cfg.ignoreBlank = true)) :
    (step s (.listInsBefore false row txt)).2 = .ok () ∧
    (step s (.listInsBefore false row txt)).1.texts = insertAtMatches false txt s.texts row := by
  rw [(step_listIns row hb).1]
  exact ⟨rfl, by rw [edited_texts s hnf, insertAtMatches_map, fresh_text, items_map_text]⟩

/-- **list-level `insert_after(regex, txt)`**: one copy directly after every matching line. -/
theorem listInsertAfter_spec (s : S) (row : List Bool) (txt : Str) (hnf : NoFilter s)
    (hb : ¬ (isBlank txt = true ∧ s.cfg.ignoreBlank = true)) :
    (step s (.listInsAfter false row txt)).2 = .ok () ∧
    (step s (.listInsAfter false row txt)).1.texts = insertAtMatches true txt s.texts row := by
  rw [(step_listIns row hb).2]
  exact ⟨rfl, by rw [edited_texts s hnf, insertAtMatches_map, fresh_text, items_map_text]⟩

/-- A regex that matches no line changes nothing. -/
theorem listInsert_no_match (after : Bool) (x : Str) (l : List Str) (row : List Bool)
    (h : matchCount l.length row = 0) : insertAtMatches after x l row = l := by
  have h1 := insertAtMatches_sublist after x l row
  have h2 := insertAtMatches_length after x l row
  exact (h1.eq_of_length (by omega)).symm

/-- The refusals of the list-level inserts: a blank payload under `ignore_blank_lines` is
`InvalidParameters`, an empty regex is `ValueError`; the state is unchanged. -/
theorem listInsert_errors (s : S) (e : Bool) (row : List Bool) (txt : Str) :
    (isBlank txt = true ∧ s.cfg.ignoreBlank = true →
      step s (.listInsBefore e row txt) = (s, .error .invalidParameters) ∧
      step s (.listInsAfter e row txt) = (s, .error .invalidParameters)) ∧
    (¬ (isBlank txt = true ∧ s.cfg.ignoreBlank = true) → e = true →
      step s (.listInsBefore e row txt) = (s, .error .valueError) ∧
      step s (.listInsAfter e row txt) = (s, .error .valueError)) := by
  refine ⟨fun ⟨h1, h2⟩ => ?_, fun hb he => ?_⟩
  · simp [Edit.step, h1, h2]
  · simp only [Edit.step, Bool.and_eq_true, hb, he, if_false, if_true, and_self]

/-! ## object-level insert_before / insert_after -/

/-- How an object handle `h` (the committed line number of the object) is resolved: `posOf`
returns the first position of the current list that holds that object; on a state without
uncommitted changes that satisfies C07's invariant it is the handle itself. -/
theorem handle_position (s : S) (h : Nat) :
    (∀ p, posOf s.items h = some p →
      p < s.texts.length ∧ (s.items[p]?).map Item.id = some (some h) ∧
      ∀ q, q < p → (s.items[q]?).map Item.id ≠ some (some h)) ∧
    (s.dirty = false → FreshInv s → posOf s.items h = if h < s.texts.length then some h else none) := by
  constructor
  · intro p hp
    have := posOf_some hp
    rw [texts_length]; exact this
  · intro hd hinv
    have h3 := (hinv hd).2.2
    have h4 := (hinv hd).2.1
    rw [h3, posOf_committed, h4]

/-- **Identities are tracked**: every operation either re-commits (the list then holds the
objects `0..n-1` of the new tree) or leaves a sub-sequence of the committed objects the
list held before — list operations move objects around and add fresh lines, they never
duplicate or invent a committed object.  Hence "the committed ids in the list are
pairwise distinct" (`IdsDistinct`) is preserved by every step. -/
theorem ids_track_objects (s : S) (op : Op) :
    ((∃ t, (step s op).1.items = committedItems t) ∨ IdsSub (step s op).1.items s.items) ∧
    (IdsDistinct s.items → IdsDistinct (step s op).1.items) :=
  ⟨step_ids s op, step_idsDistinct s op⟩

/-- … it holds initially, hence in every reachable state, committed or not … -/
theorem reachable_ids_distinct (cfg : Cfg) (auto : Bool) (width : Nat) (ls : List Str) (ops : List Op) :
    IdsDistinct (run (init cfg auto width ls) ops).items :=
  run_idsDistinct _ ops (idsDistinct_committed _)

/-- … and then an object is at no more than one position: the position `posOf` returns is
the only one holding the object `h`. -/
theorem handle_unique (s : S) (hd : IdsDistinct s.items) (h p q : Nat)
    (hp : (s.items[p]?).map Item.id = some (some h)) (hq : (s.items[q]?).map Item.id = some (some h)) :
    p = q := idsDistinct_unique hd hp hq

/-- **`obj.insert_before(txt)`** on the object `h`, currently at position `p` (also on a
state with uncommitted changes — the code finds the object by identity): exactly one
line is added, at position `p`, directly before the object's line (which moves to
`p + 1`); everything else is unchanged and in order. -/
theorem objInsertBefore_spec (s : S) (h p : Nat) (txt : Str) (hnf : NoFilter s)
    (hp : posOf s.items h = some p)
    (hb : ¬ (isBlank txt = true ∧ s.cfg.ignoreBlank = true)) :
    let new := (step s (.objInsBefore h txt)).1.texts
    (step s (.objInsBefore h txt)).2 = .ok () ∧
    new = s.texts.take p ++ txt :: s.texts.drop p ∧
    new.length = s.texts.length + 1 ∧ new[p]? = some txt ∧ new[p + 1]? = s.texts[p]? ∧
    new.eraseIdx p = s.texts := by
  have hf := inserted_frame s.texts p txt (Nat.le_of_lt (posOf_lt_texts hp))
  rw [step_objInsBefore hp hb]
  intro new
  have ht : new = s.texts.take p ++ txt :: s.texts.drop p := by
    show (autoCommit _).texts = _
    rw [edited_texts s hnf, items_insert_texts]
  rw [ht]
  exact ⟨rfl, rfl, hf.1, hf.2.1, hf.2.2.2.2 p (Nat.le_refl _), hf.2.2.1⟩

/-- **`obj.insert_after(txt)`**: exactly one line is added, at position `p + 1`, directly
after the object's line (which stays at `p`); everything else is unchanged and in order. -/
theorem objInsertAfter_spec (s : S) (h p : Nat) (txt : Str) (hnf : NoFilter s)
    (hp : posOf s.items h = some p)
    (hb : ¬ (isBlank txt = true ∧ s.cfg.ignoreBlank = true)) :
    let new := (step s (.objInsAfter h txt)).1.texts
    (step s (.objInsAfter h txt)).2 = .ok () ∧
    new = s.texts.take (p + 1) ++ txt :: s.texts.drop (p + 1) ∧
    new.length = s.texts.length + 1 ∧ new[p]? = s.texts[p]? ∧ new[p + 1]? = some txt ∧
    new.eraseIdx (p + 1) = s.texts := by
  have hf := inserted_frame s.texts (p + 1) txt (posOf_lt_texts hp)
  rw [step_objInsAfter hp hb]
  intro new
  have ht : new = s.texts.take (p + 1) ++ txt :: s.texts.drop (p + 1) := by
    show (autoCommit _).texts = _
    rw [edited_texts s hnf, items_insert_texts]
  rw [ht]
  exact ⟨rfl, rfl, hf.1, hf.2.2.2.1 p (Nat.lt_succ_self p), hf.2.1, hf.2.2.1⟩

/-- On a state without uncommitted changes satisfying C07's invariant (every reachable
such state) a handle below the length is its own position … -/
theorem committed_handle (s : S) (h : Nat) (hd : s.dirty = false) (hinv : FreshInv s)
    (hh : h < s.texts.length) : posOf s.items h = some h := by
  rw [(handle_position s h).2 hd hinv, if_pos hh]

/-- … so there the object-level inserts add exactly one line at `h` / `h + 1`, adjacent to
line `h`. -/
theorem objInsert_committed (s : S) (h : Nat) (txt : Str) (hnf : NoFilter s)
    (hd : s.dirty = false) (hinv : FreshInv s) (hh : h < s.texts.length)
    (hb : ¬ (isBlank txt = true ∧ s.cfg.ignoreBlank = true)) :
    (step s (.objInsBefore h txt)).1.texts = s.texts.take h ++ txt :: s.texts.drop h ∧
    (step s (.objInsAfter h txt)).1.texts = s.texts.take (h + 1) ++ txt :: s.texts.drop (h + 1) :=
  ⟨(objInsertBefore_spec s h h txt hnf (committed_handle s h hd hinv hh) hb).2.1,
   (objInsertAfter_spec s h h txt hnf (committed_handle s h hd hinv hh) hb).2.1⟩

/-- A blank payload under `ignore_blank_lines` is refused with `InvalidParameters`. -/
theorem objInsert_blank_refused (s : S) (h p : Nat) (txt : Str)
    (hp : posOf s.items h = some p)
    (hb : isBlank txt = true ∧ s.cfg.ignoreBlank = true) :
    step s (.objInsBefore h txt) = (s, .error .invalidParameters) ∧
    step s (.objInsAfter h txt) = (s, .error .invalidParameters) := by
  simp [Edit.step, hp, hb.1, hb.2]

/-! ## delete -/

/-- **`obj.delete()`** on line `i` of a committed state removes exactly the positions
`{i} ∪ all_children(i)` of the text list and nothing else: the remaining lines keep text
and order (`eraseAll` = keep the positions not listed). -/
theorem delete_spec (s : S) (i : Nat) (hnf : NoFilter s) (hd : s.dirty = false) (hi : i < s.texts.length) :
    (step s (.delete i)).2 = .ok () ∧
    (step s (.delete i)).1.texts
      = (s.texts.zipIdx.filter (fun p => !(i :: allChildren s.tree i).contains p.2)).map (·.1) ∧
    ((step s (.delete i)).1.texts).Sublist s.texts := by
  rw [step_delete hd hi]
  have ht : (autoCommit { s with items := eraseAll s.items (descendantsAndSelf s.tree i), dirty := true }).texts
      = eraseAll s.texts (descendantsAndSelf s.tree i) := by
    rw [edited_texts s hnf, eraseAll_map, items_map_text]
  refine ⟨rfl, ?_, ?_⟩
  · rw [ht, eraseAll_eq_filter]; rfl
  · rw [ht]; exact eraseAll_sublist _ _

/-- … and when the committed tree is a forest whose size is the number of lines (true in
every reachable committed state, `reachable_tree_ok`), the removed set is the line and
its descendants in the sense of C03 (`i` on the ancestor chain), and the list gets
shorter by exactly `1 + |all_children(i)|`. -/
theorem delete_spec_forest (s : S) (i : Nat) (hnf : NoFilter s) (hd : s.dirty = false)
    (hi : i < s.texts.length) (hf : Forest s.tree) (hsz : s.tree.size = s.texts.length) :
    (step s (.delete i)).1.texts
      = (s.texts.zipIdx.filter (fun p => decide (p.2 ≠ i ∧ i ∉ ancestors s.tree p.2))).map (·.1) ∧
    (step s (.delete i)).1.texts.length + 1 + (allChildren s.tree i).length = s.texts.length := by
  rw [step_delete hd hi]
  show (autoCommit _).texts = _ ∧ (autoCommit _).texts.length + 1 + _ = _
  rw [edited_texts s hnf, eraseAll_map, items_map_text]
  exact ⟨delete_filter_forest hf s.texts i, delete_length_forest hf s.texts i hsz hi⟩

/-! ## replace_text / re_sub -/

/-- **`obj.replace_text(before, after)`** on the object `h`, currently at position `p` (also
on a state with uncommitted changes): position `p` only changes, to `str.replace` of its
text (`replacement_frame`). -/
theorem replaceText_spec (s : S) (h p : Nat) (before after : Str) (hnf : NoFilter s)
    (hp : posOf s.items h = some p) :
    (step s (.replaceText h before after)).2 = .ok () ∧
    (step s (.replaceText h before after)).1.texts
      = s.texts.set p (pyReplace before after (s.texts.getD p [])) := by
  rw [step_replaceText before after hp]
  refine ⟨rfl, ?_⟩
  show (autoCommit _).texts = _
  rw [edited_texts s hnf, setText_texts]; rfl

/-- **`obj.re_sub(regex, repl)`** (with `newText = re.sub(regex, repl, text)` computed by the
caller) on the object `h` at position `p` of a non-stale state: position `p` only
changes, to the substituted text; a substitution that leaves the text as it is changes
nothing at all (not even a commit); on a stale state it refuses with
`NotImplementedError`. -/
theorem reSub_spec (s : S) (h p : Nat) (newText : Str) (hnf : NoFilter s)
    (hp : posOf s.items h = some p) :
    (s.stale = false → newText ≠ s.texts.getD p [] →
      (step s (.reSub h newText)).2 = .ok () ∧
      (step s (.reSub h newText)).1.texts = s.texts.set p newText) ∧
    (s.stale = false → newText = s.texts.getD p [] → step s (.reSub h newText) = (s, .ok ())) ∧
    (s.stale = true → step s (.reSub h newText) = (s, .error .notImplemented)) := by
  refine ⟨fun hs hne => ?_, fun hs he => ?_, fun hs => ?_⟩
  · rw [step_reSub hp hs hne]
    refine ⟨rfl, ?_⟩
    show (autoCommit _).texts = _
    rw [edited_texts s hnf, setText_texts]; rfl
  · simp only [Edit.step, hp, hs, Bool.false_eq_true, if_false, if_pos he]
  · simp only [Edit.step, hp, hs, if_true]

/-- On a committed state (`committed_handle`) `replace_text` / `re_sub` change line `h` itself. -/
theorem replaceText_committed (s : S) (h : Nat) (before after : Str) (hnf : NoFilter s)
    (hd : s.dirty = false) (hinv : FreshInv s) (hh : h < s.texts.length) :
    (step s (.replaceText h before after)).1.texts
      = s.texts.set h (pyReplace before after (s.texts.getD h [])) :=
  (replaceText_spec s h h before after hnf (committed_handle s h hd hinv hh)).2

/-! ## append_to_family -/

/-- **`obj.append_to_family(txt, indent, auto_indent)`**: whenever it succeeds, the state was
committed, the handle valid, and exactly one line — the payload after the explicit / auto
indentation of `familyText` — is inserted, at the index `appendIndex` computes (clipped to
the list length like `list.insert`); all other lines keep text and order
(`insertion_frame`).  The new line is at the target's indent level or exactly one level
deeper. -/
theorem appendToFamily_spec (s : S) (i : Nat) (txt : Str) (ind : Int) (ai : Bool) (hnf : NoFilter s)
    (hok : (step s (.appendToFamily i txt ind ai)).2 = .ok ()) :
    let txt' := familyText (indentOf s.tree i) s.width txt ind ai
    s.dirty = false ∧ i < s.texts.length ∧ ¬ (ai = true ∧ ind > 0) ∧
    ∃ idx, appendIndex s.tree s.width i txt' = .ok idx ∧
      (step s (.appendToFamily i txt ind ai)).1.texts
        = s.texts.take (min idx s.texts.length) ++ txt' :: s.texts.drop (min idx s.texts.length) ∧
      (cfi s.width (indentOf s.tree i) txt' = some 0 ∨ cfi s.width (indentOf s.tree i) txt' = some 1) := by
  intro txt'
  obtain ⟨h1, h2, h3, idx, h4, h5⟩ := step_appendToFamily_ok s i txt ind ai hok
  refine ⟨h1, by rw [texts_length]; exact h2, h3, idx, h4, ?_, appendIndex_level _ _ _ _ idx h4⟩
  rw [h5, edited_texts s hnf, pyInsert_map, items_map_text, pyInsert_eq, insertPos_natCast]
  rfl

/-- **Child-level append to a target that has children** (the new line is not at the
target's own indent): the line is one level deeper than the target and is inserted at
`familyEndpoint + 1`.  In a forest whose size is the number of lines (every reachable
committed state) that is a valid position, namely directly after the last line among the
target and its descendants. -/
theorem appendToFamily_child_level (s : S) (i : Nat) (txt : Str) (ind : Int) (ai : Bool) (hnf : NoFilter s)
    (hok : (step s (.appendToFamily i txt ind ai)).2 = .ok ())
    (hk : children s.tree i ≠ [])
    (h0 : cfi s.width (indentOf s.tree i) (familyText (indentOf s.tree i) s.width txt ind ai) ≠ some 0)
    (hf : Forest s.tree) (hsz : s.tree.size = s.texts.length) :
    let txt' := familyText (indentOf s.tree i) s.width txt ind ai
    let e := familyEndpoint s.tree i
    (step s (.appendToFamily i txt ind ai)).1.texts = s.texts.take (e + 1) ++ txt' :: s.texts.drop (e + 1) ∧
    e + 1 ≤ s.texts.length ∧ e ∈ i :: allChildren s.tree i ∧ (∀ j ∈ i :: allChildren s.tree i, j ≤ e) ∧
    cfi s.width (indentOf s.tree i) txt' = some 1 := by
  intro txt' e
  obtain ⟨_, h2, _, idx, h4, h5, _⟩ := appendToFamily_spec s i txt ind ai hnf hok
  obtain ⟨h6, h7⟩ := appendIndex_child_level _ _ _ _ idx hk h4 h0
  have h8 : e < s.tree.size := familyEndpoint_lt_size hf (by omega)
  have h9 := familyEndpoint_max hf i
  refine ⟨?_, by omega, h9.1, h9.2, h7⟩
  rw [h5, h6, Nat.min_eq_left (by omega)]

/-- **Same-indent append to a target that has children — known finding F10b.**  Intended
(and what the property asks for): the line goes after the whole family, i.e. at
`familyEndpoint + 1`.  What the code does, and what is proved here: it is inserted at
`i + |children(i)|`, which lies inside the family as soon as the target has a grandchild
(see the example below). -/
theorem appendToFamily_same_indent_partial (s : S) (i : Nat) (txt : Str) (ind : Int) (ai : Bool)
    (hnf : NoFilter s) (hok : (step s (.appendToFamily i txt ind ai)).2 = .ok ())
    (hk : children s.tree i ≠ [])
    (h0 : cfi s.width (indentOf s.tree i) (familyText (indentOf s.tree i) s.width txt ind ai) = some 0) :
    let txt' := familyText (indentOf s.tree i) s.width txt ind ai
    let j := min (i + (children s.tree i).length) s.texts.length
    (step s (.appendToFamily i txt ind ai)).1.texts = s.texts.take j ++ txt' :: s.texts.drop j := by
  intro txt' j
  obtain ⟨_, _, _, idx, h4, h5, _⟩ := appendToFamily_spec s i txt ind ai hnf hok
  rw [h5, appendIndex_same_indent _ _ _ _ idx hk h4 h0]

/-- **Append to a childless target**, as the code does it: a line at the target's indent
goes after the target's last sibling (or, without siblings, after the last line of that
level found by `last_family_linenum`); a line one level deeper goes after
`last_parent_linenums[0]`. -/
theorem appendToFamily_childless (s : S) (i : Nat) (txt : Str) (ind : Int) (ai : Bool)
    (hok : (step s (.appendToFamily i txt ind ai)).2 = .ok ()) (hk : children s.tree i = []) :
    let txt' := familyText (indentOf s.tree i) s.width txt ind ai
    ∃ idx, appendIndex s.tree s.width i txt' = .ok idx ∧
    ((cfi s.width (indentOf s.tree i) txt' = some 0 ∧
      ((siblings s.tree i ≠ [] ∧ idx = ((siblings s.tree i).getLast?).getD i + 1) ∨
       (siblings s.tree i = [] ∧ ∃ l, lastFamilyLinenum s.tree s.width i = some l ∧ idx = l + 1))) ∨
     (cfi s.width (indentOf s.tree i) txt' = some 1 ∧
      ∃ lp, lastParentLinenum0 s.tree s.width i = some lp ∧ idx = lp + 1)) := by
  intro txt'
  obtain ⟨_, _, _, idx, h4, _⟩ := step_appendToFamily_ok s i txt ind ai hok
  exact ⟨idx, h4, appendIndex_childless _ _ _ _ idx hk h4⟩

/-! ## errors and frame -/

/-- **Every refused operation leaves the whole state unchanged** (texts, tree, flags). -/
theorem errors_leave_state (s : S) (op : Op) (e : Err) (h : (step s op).2 = .error e) :
    (step s op).1 = s := step_error_unchanged s op e h

/-- A handle whose object is no longer in the list (deleted or popped since the last
commit), and — for `delete` / `append_to_family`, which index by the object's stored line
number — any handle on a state with uncommitted changes, is not executed (the model's
`dirtyHandle`; the harness skips the call on both sides). -/
theorem unresolved_handle_skipped (s : S) (h : Nat) (txt before after : Str) (ind : Int) (ai : Bool) :
    (posOf s.items h = none →
      step s (.objInsBefore h txt) = (s, .error .dirtyHandle) ∧
      step s (.objInsAfter h txt) = (s, .error .dirtyHandle) ∧
      step s (.replaceText h before after) = (s, .error .dirtyHandle) ∧
      step s (.reSub h txt) = (s, .error .dirtyHandle)) ∧
    (s.dirty = true ∨ s.texts.length ≤ h →
      step s (.delete h) = (s, .error .dirtyHandle) ∧
      step s (.appendToFamily h txt ind ai) = (s, .error .dirtyHandle)) := by
  constructor
  · intro hp
    simp only [Edit.step, hp, and_self]
  · intro hd
    rw [texts_length] at hd
    have hg : (s.dirty || decide (h ≥ s.items.length)) = true := by
      rcases hd with hd | hd <;> simp [hd]
    simp only [Edit.step, hg, if_true, and_self]

/-- **Frame**: no operation changes the options; with auto-commit off only `commit`
replaces the committed tree; `probe` changes nothing. -/
theorem others_unchanged (s : S) (op : Op) :
    (step s op).1.cfg = s.cfg ∧ (step s op).1.auto = s.auto ∧ (step s op).1.width = s.width ∧
    (s.auto = false → op ≠ .commit → (step s op).1.tree = s.tree) ∧
    (step s .probe).1 = s :=
  ⟨(step_frame s op).1, (step_frame s op).2.1, (step_frame s op).2.2,
   fun ha hop => step_tree_unchanged s op ha hop, rfl⟩

/-- The hypotheses `Forest s.tree` and `s.tree.size = s.texts.length` used above hold in
every state reached from a parse that has no uncommitted change (C07's invariant). -/
theorem reachable_tree_ok (cfg : Cfg) (auto : Bool) (width : Nat) (ls : List Str) (ops : List Op) :
    let s := run (init cfg auto width ls) ops
    s.dirty = false → Forest s.tree ∧ s.tree.size = s.texts.length := by
  intro s hd
  have h := run_fresh _ ops (init_fresh cfg auto width ls) hd
  refine ⟨?_, by rw [T.size, ← h.2.1]⟩
  rw [h.1]
  exact bootstrap_forest _ _

/-- The second case of `NoFilter`, spelled out: with auto-commit on and
`ignore_blank_lines` off, the commit after the edit keeps the texts. -/
theorem auto_commit_keeps_texts (s : S) (h : s.cfg.ignoreBlank = false) :
    (commit s).texts = s.texts ∧ NoFilter s := ⟨commit_texts_noignore s h, .inr h⟩

/-- **The remaining case: auto-commit on, any `ignore_blank_lines`.**  From a committed
state satisfying C07's invariant (every state reached with auto-commit on), an operation
answers as it does with auto-commit off, and leaves the texts that one bootstrap makes of
the texts the same operation leaves with auto-commit off (to which the theorems above
apply with `NoFilter` by its first case): a sublist of them in which every non-blank line
survives — only blank lines can disappear, and none does without `ignore_blank_lines`. -/
theorem auto_commit_step_texts (s : S) (op : Op) (ha : s.auto = true) (hd : s.dirty = false)
    (hinv : FreshInv s) :
    let manual := (step { s with auto := false } op).1.texts
    NoFilter { s with auto := false } ∧
    (step s op).2 = (step { s with auto := false } op).2 ∧
    (step s op).1.texts = (bootstrap s.cfg manual).texts ∧
    (step s op).1.texts.Sublist manual ∧
    (step s op).1.texts.filter (fun x => !isBlank x) = manual.filter (fun x => !isBlank x) ∧
    (s.cfg.ignoreBlank = false → (step s op).1.texts = manual) := by
  intro manual
  have h := auto_step_texts s op ha hd hinv
  have hb := bootstrap_texts s.cfg manual
  refine ⟨.inl rfl, h.2, h.1, ?_, ?_, ?_⟩
  · rw [h.1]; exact hb.1
  · rw [h.1]; exact hb.2
  · intro hi; rw [h.1]; exact bootstrap_texts_noignore s.cfg manual hi

/-! ## non-vacuity: a concrete 5-line config with a grandchild and a prefix pair -/

def exCfg : Cfg := { ios := true, delims := ['!'], ignoreBlank := false }

def exLines : List Str :=
  ["interface Eth1".toList, " ip address 1.1.1.1".toList, "  secondary".toList, " shutdown".toList,
   "interface Eth10".toList]

/-- auto-commit off / on -/
def exOff : S := init exCfg false 1 exLines
def exOn : S := init exCfg true 1 exLines

example : NoFilter exOff ∧ NoFilter exOn := ⟨.inl rfl, .inr rfl⟩
example : exOn.dirty = false ∧ exOn.tree.parents = [0, 0, 1, 0, 4] ∧ exOn.texts = exLines := by
  simp only [exOn, exLines, toList_lit]
  decide +kernel
example : Forest exOn.tree ∧ exOn.tree.size = exOn.texts.length :=
  reachable_tree_ok exCfg true 1 exLines [] rfl

/-- `insert(-1, "x")` lands at position 4 of 5 -/
example : insertPos 5 (-1) = 4 ∧
    (step exOff (.insert (-1) "x".toList)).1.texts =
      ["interface Eth1".toList, " ip address 1.1.1.1".toList, "  secondary".toList, " shutdown".toList,
       "x".toList, "interface Eth10".toList] := by
  simp only [exOff, exLines, toList_lit]
  decide +kernel
/-- `pop(-2)` is in range and removes position 3; `pop(5)` is out of range -/
example : (-(exOff.texts.length : Int) ≤ -2 ∧ (-2 : Int) < exOff.texts.length) ∧ popPos 5 (-2) = 3 ∧
    (step exOff (.pop (-2))).1.texts.length = 4 ∧ (step exOff (.pop 5)).2 = .error .indexError := by
  simp only [exOff, exLines, toList_lit]
  decide +kernel
/-- list-level insert_before on the rows of `^interface` : two copies -/
example : ¬ (isBlank "!".toList = true ∧ exOff.cfg.ignoreBlank = true) ∧
    matchCount 5 [true, false, false, false, true] = 2 ∧
    (step exOff (.listInsBefore false [true, false, false, false, true] "!".toList)).1.texts =
      ["!".toList, "interface Eth1".toList, " ip address 1.1.1.1".toList, "  secondary".toList,
       " shutdown".toList, "!".toList, "interface Eth10".toList] := by
  simp only [exOff, exLines, toList_lit]
  decide +kernel
/-- the refusals are reachable: `ignore_blank_lines` with a blank payload, an empty regex -/
example : (step (init { exCfg with ignoreBlank := true } true 1 exLines) (.listInsAfter false [true] " ".toList)).2
      = .error .invalidParameters ∧
    (step exOff (.listInsAfter true [] "x".toList)).2 = .error .valueError := by
  simp only [exOff, exLines, toList_lit]
  decide +kernel
/-- object-level insert next to `Eth1` does not touch `Eth10` (hypotheses of `objInsert*_spec`) -/
example : posOf exOn.items 0 = some 0 ∧
    (step exOn (.objInsAfter 0 " description x".toList)).1.texts =
      ["interface Eth1".toList, " description x".toList, " ip address 1.1.1.1".toList, "  secondary".toList,
       " shutdown".toList, "interface Eth10".toList] := by
  simp only [exOn, exLines, toList_lit]
  decide +kernel
/-- deleting line 1 removes it and its child (line 2) -/
example : allChildren exOn.tree 1 = [2] ∧ allChildren exOn.tree 0 = [1, 2, 3] ∧
    (step exOn (.delete 1)).1.texts =
      ["interface Eth1".toList, " shutdown".toList, "interface Eth10".toList] := by
  simp only [exOn, exLines, toList_lit]
  decide +kernel
/-- `delete_keeps_parents` on an example: deleting line 1 (and its child 2) — `shutdown`
moves from 3 to 1 and keeps parent 0, `Eth10` moves from 4 to 2 and stays a root -/
example : rank (fun j => !(descendantsAndSelf exOn.tree 1).contains j) 3 = 1 ∧
    rank (fun j => !(descendantsAndSelf exOn.tree 1).contains j) 4 = 2 ∧
    (step exOn (.delete 1)).1.tree.parents = [0, 0, 2] := by
  simp only [exOn, exLines, toList_lit]
  decide +kernel
/-- the exclusion is needed: a comment that was a root because it sat under a deeper line
gets attached when that line is deleted -/
example : let s := init exCfg true 1 ["r".toList, " a".toList, "  b".toList, " !x".toList]
    s.tree.parents = [0, 0, 1, 3] ∧ (step s (.delete 2)).1.tree.parents = [0, 0, 0] := by
  simp only [toList_lit]
  decide +kernel
/-- replace_text / re_sub on line 4; an unchanged substitution is a no-op -/
example : (step exOn (.replaceText 4 "Eth1".toList "Po".toList)).1.texts[4]? = some "interface Po0".toList ∧
    (step exOn (.reSub 4 "interface Po1".toList)).1.texts[4]? = some "interface Po1".toList ∧
    (step exOn (.reSub 4 "interface Eth10".toList)).2 = .ok () := by
  simp only [exOn, exLines, toList_lit]
  decide +kernel
/-- child-level append to line 0 (children 1 and 3, grandchild 2): after the family end 3 -/
example : children exOn.tree 0 = [1, 3] ∧ familyEndpoint exOn.tree 0 = 3 ∧
    cfi 1 (indentOf exOn.tree 0) (familyText (indentOf exOn.tree 0) 1 " mtu 9000".toList (-1) false) = some 1 ∧
    (step exOn (.appendToFamily 0 " mtu 9000".toList (-1) false)).2 = .ok () ∧
    (step exOn (.appendToFamily 0 " mtu 9000".toList (-1) false)).1.texts =
      ["interface Eth1".toList, " ip address 1.1.1.1".toList, "  secondary".toList, " shutdown".toList,
       " mtu 9000".toList, "interface Eth10".toList] := by
  simp only [exOn, exLines, toList_lit]
  decide +kernel
/-- the hypotheses of `appendToFamily_keeps_parents_width1` hold for this append, and its
conclusion read off: new line 4 is a child of 0, `Eth10` (old 4, new 5) is still a root -/
example : Plain exOn.cfg exOn.texts ∧ exOn.width = 1 ∧
    isBannerStart " mtu 9000".toList = false ∧ isMacroStart " mtu 9000".toList = false ∧
    isComment exOn.cfg " mtu 9000".toList = false ∧
    (step exOn (.appendToFamily 0 " mtu 9000".toList (-1) false)).1.tree.parents = [0, 0, 1, 0, 0, 5] ∧
    exOn.tree.parents = [0, 0, 1, 0, 4] := by
  simp only [exOn, exLines, toList_lit]
  decide +kernel
/-- the exclusion is needed: a comment directly after the insertion point that was a root
(it sat under a deeper line) becomes a child of the target when the new line is put above it -/
example : let s := init exCfg true 1 ["a".toList, " b".toList, "  c".toList, " !x".toList, "d".toList]
    s.tree.parents = [0, 0, 1, 3, 4] ∧ familyEndpoint s.tree 0 = 2 ∧
    (step s (.appendToFamily 0 " n".toList (-1) false)).1.texts
      = ["a".toList, " b".toList, "  c".toList, " n".toList, " !x".toList, "d".toList] ∧
    (step s (.appendToFamily 0 " n".toList (-1) false)).1.tree.parents = [0, 0, 1, 0, 0, 5] := by
  simp only [toList_lit]
  decide +kernel
/-- **F10b**: a same-indent append to line 0 lands at `0 + |children| = 2`, between
` ip address` and its child `  secondary`, which is thereby re-parented by the commit -/
example : cfi 1 (indentOf exOn.tree 0) (familyText (indentOf exOn.tree 0) 1 "interface Eth2".toList (-1) false) = some 0 ∧
    (step exOn (.appendToFamily 0 "interface Eth2".toList (-1) false)).2 = .ok () ∧
    (step exOn (.appendToFamily 0 "interface Eth2".toList (-1) false)).1.texts =
      ["interface Eth1".toList, " ip address 1.1.1.1".toList, "interface Eth2".toList, "  secondary".toList,
       " shutdown".toList, "interface Eth10".toList] ∧
    (step exOn (.appendToFamily 0 "interface Eth2".toList (-1) false)).1.tree.parents = [0, 0, 2, 2, 2, 5] := by
  simp only [exOn, exLines, toList_lit]
  decide +kernel
/-- childless target (line 3): same level goes after the last sibling, auto-indent one deeper -/
example : children exOn.tree 3 = [] ∧ siblings exOn.tree 3 = [1, 3] ∧
    (step exOn (.appendToFamily 3 " x".toList (-1) false)).1.texts[4]? = some " x".toList ∧
    (step exOn (.appendToFamily 3 "x".toList (-1) true)).1.texts[4]? = some "  x".toList := by
  simp only [exOn, exLines, toList_lit]
  decide +kernel
/-- `auto_commit_step_texts` with `ignore_blank_lines`: appending a blank line is filtered
away by the commit, a non-blank one survives -/
example : let s := init { exCfg with ignoreBlank := true } true 1 exLines
    s.auto = true ∧ s.dirty = false ∧
    (step { s with auto := false } (.append "  ".toList)).1.texts.length = 6 ∧
    (step s (.append "  ".toList)).1.texts = exLines ∧
    (step s (.append "end".toList)).1.texts = exLines ++ ["end".toList] := by
  simp only [exLines, toList_lit]
  decide +kernel
/-- object operations on a state with uncommitted changes (auto-commit off): after
`insert(0, "x")` the object with handle 0 sits at position 1 and is found there; after
it is popped, its handle no longer resolves -/
def exDirty : S := (step exOff (.insert 0 "x".toList)).1
example : exDirty.dirty = true ∧ posOf exDirty.items 0 = some 1 ∧ posOf exDirty.items 4 = some 5 ∧
    (step exDirty (.objInsBefore 0 "y".toList)).1.texts.take 3 = ["x".toList, "y".toList, "interface Eth1".toList] ∧
    (step exDirty (.replaceText 4 "Eth1".toList "Po".toList)).1.texts[5]? = some "interface Po0".toList ∧
    posOf (step exDirty (.pop 1)).1.items 0 = none ∧
    (step (step exDirty (.pop 1)).1 (.objInsAfter 0 "y".toList)).2 = .error .dirtyHandle := by
  simp only [exDirty, exOff, exLines, toList_lit]
  decide +kernel
/-- identities after uncommitted edits: the fresh line has none, the others keep theirs -/
example : idsOf exDirty.items = [0, 1, 2, 3, 4] ∧ exDirty.items.map Item.id = [none, some 0, some 1, some 2, some 3, some 4] ∧
    idsOf (step exDirty (.pop 1)).1.items = [1, 2, 3, 4] := by
  simp only [exDirty, exOff, exLines, toList_lit]
  decide +kernel
/-- `handle_position`, second part: on a committed state a handle is its own position -/
example : posOf exOn.items 3 = some 3 ∧ posOf exOn.items 5 = none := by
  simp only [exOn, exLines, toList_lit]
  decide +kernel
/-- refused: two levels deeper; `delete` through a handle on a dirty state -/
example : (step exOn (.appendToFamily 0 "   x".toList (-1) false)).2 = .error .notImplemented ∧
    (step (step exOff (.append "x".toList)).1 (.delete 0)).2 = .error .dirtyHandle := by
  simp only [exOn, exOff, exLines, toList_lit]
  decide +kernel

/-! ## parent links: the exact frame of an insertion, `append_to_family`, `delete`,
`ignore_blank_lines`, list-level inserts, `replace_text` / `re_sub`

Vocabulary (`Ccp.Proofs.EditLinks`, `Ccp.Proofs.EditFrame`, `Ccp.Proofs.EditMulti`):

* `PlainCommitted s` := no uncommitted change, C07's invariant `FreshInv`, auto-commit on, no
  line of the config starts a banner or (syntax ios) a macro — *with or without*
  `ignore_blank_lines` (such a state holds no blank line when the option is on,
  `committed_no_blank`);
* `PlainPayload s txt` := `txt` starts no banner / macro and is not blank under
  `ignore_blank_lines` (a blank one is dropped by the commit: `blank_payload_ignored`);
* `shiftAt c p` := `if p < c then p else p + 1`, the index shift of an insertion at `c`
  (`shiftAfter e = shiftAt (e + 1)`);
* `capturedBy infos x c j` : the old line `j ≥ c` is adopted by the line `x` inserted at `c`
  (read without reference to the tree by `captured_iff`);
* `InsertFrame s s' c txt` := the texts of `s'` are those of `s` with `txt` added at `c`; lines
  above `c` keep their parents; an old line `j ≥ c` (now at `j + 1`), other than a comment
  directly behind the new line, has parent `c` when captured and `shiftAt c (old parent)`
  otherwise;
* `insertMarks after n row` / `markFn` : which positions of the list after a list-level
  insert hold old lines; `sel keep 0` keeps those positions, `rank keep q` is the old
  position of the old line at new position `q`; `MultiFrame` is the corresponding frame.
-/

/-- **Who is captured** (tree-free reading of `capturedBy`): the old line `j` is adopted by
the line `x` inserted at `c` exactly when `x` is a configuration line indented less than `j`,
`j` is not a comment left unattached under a deeper line, and no configuration line between
the insertion point and `j` is indented less than `j` — i.e. `j` lies in the stretch
directly behind the new line, is deeper than it, and was attached above it (or nowhere). -/
theorem captured_iff (infos : List Info) (x : Info) (c j : Nat) (l : Info) (hl : infos[j]? = some l) :
    capturedBy infos x c j = true ↔
      x.isCfg = true ∧ x.indent < l.indent ∧ commentUnderDeeper infos j = false ∧
      ∀ m lm, c ≤ m → m < j → infos[m]? = some lm → lm.isCfg = true → l.indent ≤ lm.indent := by
  rw [capturedBy_eq_true hl, and_assoc]
  refine and_congr_right fun _ => and_congr_right fun _ => and_congr_right fun hc => ⟨fun h m lm hcm hmj hlm hcfg => ?_, fun h => ?_⟩
  · refine Nat.le_of_not_lt fun hlt => ?_
    have := specParent_of_candidate hl hc hlm hcfg hlt hmj
    omega
  · by_cases hne : specParent infos j = j
    · exact .inr hne
    · obtain ⟨_, _, hlt, lp, hp, hcfg, hlp⟩ := specParent_ne_self hl hne
      refine .inl (Nat.lt_of_not_le fun hcp => ?_)
      have := h _ lp hcp hlt hp hcfg
      omega

/-- a committed state over a config without banner / macro starts holds no blank line when
`ignore_blank_lines` is on, and its tree is the parse, with the option off, of its texts -/
theorem committed_no_blank (s : S) (h : PlainCommitted s) :
    (s.cfg.ignoreBlank = true → ∀ x ∈ s.texts, isBlank x = false) ∧
    s.tree = parse (noIg s.cfg) s.texts := by
  refine ⟨fun hi x hx => ?_, by rw [h.tree_eq]; exact parse_noIg s.cfg s.texts h.plain h.noBlank⟩
  simpa [nonBlank_eq] using h.noBlank hi x hx

/-- **what the commit does under `ignore_blank_lines`** on a config without banner / macro
starts: the tree is the one obtained, with the option off, from the non-blank lines -/
theorem commit_ignore_blank (cfg : Cfg) (ls : List Str) (hi : cfg.ignoreBlank = true) (hp : Plain cfg ls) :
    parse cfg ls = parse (noIg cfg) (ls.filter (fun x => !isBlank x)) :=
  parse_ignore_plain cfg ls hi hp

/-- **`ConfigList.insert(k, txt)`**: the parent frame of the insertion at the normalised
position. -/
theorem insert_parents (s : S) (k : Int) (txt : Str) (h : PlainCommitted s) (hx : PlainPayload s txt) :
    InsertFrame s (step s (.insert k txt)).1 (insertPos s.texts.length k) txt := by
  exact insertFrame_of_step s _ txt true _ h hx (insertPos_le _ _) (step_insert s k txt)

/-- **`obj.insert_before(txt)`**: the parent frame of the insertion at the object's position
`p` — the lines above `p` keep their parents; the object's line and the lines behind it keep
theirs (shifted) unless they are captured by the new line (`captured_iff`). -/
theorem objInsertBefore_parents (s : S) (h p : Nat) (txt : Str) (hc : PlainCommitted s) (hx : PlainPayload s txt)
    (hp : posOf s.items h = some p) :
    InsertFrame s (step s (.objInsBefore h txt)).1 p txt := by
  refine insertFrame_of_step s p txt s.stale _ hc hx (Nat.le_of_lt (posOf_lt_texts hp)) ?_
  rw [step_objInsBefore hp hx.not_blank]

/-- **`obj.insert_after(txt)`**: the parent frame of the insertion at `p + 1`. -/
theorem objInsertAfter_parents (s : S) (h p : Nat) (txt : Str) (hc : PlainCommitted s) (hx : PlainPayload s txt)
    (hp : posOf s.items h = some p) :
    InsertFrame s (step s (.objInsAfter h txt)).1 (p + 1) txt := by
  refine insertFrame_of_step s (p + 1) txt s.stale _ hc hx (posOf_lt_texts hp) ?_
  rw [step_objInsAfter hp hx.not_blank]

/-- **`obj.insert_before(txt)` above a configuration line that is not indented deeper than the
payload** (in particular: same indent) changes no parent at all — every old line keeps its
parent, index-shifted; and when both are at the same indent and the payload is not a
comment, the new line gets the parent of the object (it is a root when the object is). -/
theorem objInsertBefore_same_indent (s : S) (h p : Nat) (txt : Str) (hc : PlainCommitted s)
    (hx : PlainPayload s txt) (hp : posOf s.items h = some p)
    (hcfg : isConfigLine s.cfg (s.texts.getD p []) = true) (hle : indent (s.texts.getD p []) ≤ indent txt) :
    let s' := (step s (.objInsBefore h txt)).1
    (∀ j, j < p → parentOf s'.tree j = parentOf s.tree j) ∧
    (∀ j, p ≤ j → j < s.texts.length → parentOf s'.tree (j + 1) = shiftAt p (parentOf s.tree j)) ∧
    (indent txt = indent (s.texts.getD p []) → isComment s.cfg txt = false →
      parentOf s'.tree p = parentOf s.tree p) := by
  intro s'
  have hpl : p < s.texts.length := posOf_lt_texts hp
  have hs : s' = autoCommit _ := congrArg Prod.fst (step_objInsBefore hp hx.not_blank)
  obtain ⟨⟨_, f5, f6⟩, _, f3⟩ := auto_insert_frame s p txt s.stale hc hx (Nat.le_of_lt hpl)
  rw [← hs] at f3 f5 f6
  have hlc := info_getD s.cfg s.texts p hpl
  refine ⟨f5, fun j hcj hjl => ?_, fun heq hxc => ?_⟩
  · -- the line at `p` is a configuration line at most as deep as the new one: nothing is captured
    rw [f6 j hcj hjl (by rintro ⟨rfl, hcm⟩; rw [isCmt_of_cfg _ _ hcfg] at hcm; cases hcm),
      capturedBy_above _ (info s.cfg txt) p j _ hlc hcfg hle hcj]
    rfl
  · rw [f3 p (Nat.lt_succ_of_lt hpl), hc.parentOf_eq hpl]
    exact specParent_insert_new_sibling_above _ (info s.cfg txt) p _ hlc (isCmt_of_cfg _ _ hcfg) hxc heq

/-- **`obj.insert_after(txt)` with a configuration line at the indent of the object's line**
(a configuration line too): the lines that change parent are exactly the children of the
object — they become children of the new line; the new line is a sibling of the object (a
root when the object is one); every other line keeps its parent (a comment directly behind
the new line excepted). -/
theorem objInsertAfter_same_indent (s : S) (h p : Nat) (txt : Str) (hc : PlainCommitted s)
    (hx : PlainPayload s txt) (hp : posOf s.items h = some p)
    (hcfg : isConfigLine s.cfg (s.texts.getD p []) = true) (heq : indent txt = indent (s.texts.getD p []))
    (hxc : isConfigLine s.cfg txt = true) :
    let s' := (step s (.objInsAfter h txt)).1
    (∀ j, j ≤ p → parentOf s'.tree j = parentOf s.tree j) ∧
    (∀ j, p < j → j < s.texts.length → ¬ (j = p + 1 ∧ isComment s.cfg (s.texts.getD j []) = true) →
      parentOf s'.tree (j + 1) = if parentOf s.tree j = p then p + 1 else shiftAt (p + 1) (parentOf s.tree j)) ∧
    parentOf s'.tree (p + 1) = if parentOf s.tree p = p then p + 1 else parentOf s.tree p := by
  intro s'
  have hpl : p < s.texts.length := posOf_lt_texts hp
  have hs : s' = autoCommit _ := congrArg Prod.fst (step_objInsAfter hp hx.not_blank)
  obtain ⟨⟨_, f5, f6⟩, _, f3⟩ := auto_insert_frame s (p + 1) txt s.stale hc hx hpl
  rw [← hs] at f3 f5 f6
  have hlp := info_getD s.cfg s.texts p hpl
  refine ⟨fun j hj => f5 j (Nat.lt_succ_of_le hj), fun j hpj hjl hcm => ?_, ?_⟩
  · have hlj := info_getD s.cfg s.texts j hjl
    have hiff := capturedBy_below _ (info s.cfg txt) p j _ _ hlp hcfg (Nat.le_of_eq heq.symm) hpj hlj
    rw [← hc.parentOf_eq hjl] at hiff
    rw [f6 j hpj hjl hcm]
    by_cases hpar : parentOf s.tree j = p
    · -- a child of `p` is deeper than `p`, hence than the new line
      have e3 := (specTree_child hc.specTree (mem_children.mpr ⟨hc.size_eq ▸ hjl, hpar, Nat.ne_of_gt hpj⟩)).2.2.2.1
      rw [if_pos (hiff.mpr ⟨hxc, by show indent txt < _; rw [heq]; exact e3, hpar⟩), if_pos hpar]
    · rw [if_neg (fun hcap => hpar (hiff.mp hcap).2.2), if_neg hpar]
  · rw [f3 (p + 1) (Nat.succ_lt_succ hpl), hc.parentOf_eq hpl]
    exact specParent_insert_new_sibling_below _ (info s.cfg txt) p _ hlp (isCmt_of_cfg _ _ hcfg)
      (isCmt_of_cfg _ _ hxc) heq

/-- **list-level `insert_before(regex, txt)`**: the parent frame of a multiple insertion
(`MultiFrame`): the inserted copies removed, the old list is back; an old line at new
position `q` was at `rank keep q`; unless it is a comment directly behind a copy, or its new
parent is a copy, its old parent is the old position of its new parent. -/
theorem listInsertBefore_parents (s : S) (row : List Bool) (txt : Str) (hc : PlainCommitted s)
    (hx : PlainPayload s txt) :
    MultiFrame s (step s (.listInsBefore false row txt)).1 false row txt := by
  refine multiFrame_of_step s false row txt _ hc hx ?_
  rw [(step_listIns row hx.not_blank).1]

/-- **list-level `insert_after(regex, txt)`**: the same frame. -/
theorem listInsertAfter_parents (s : S) (row : List Bool) (txt : Str) (hc : PlainCommitted s)
    (hx : PlainPayload s txt) :
    MultiFrame s (step s (.listInsAfter false row txt)).1 true row txt := by
  refine multiFrame_of_step s true row txt _ hc hx ?_
  rw [(step_listIns row hx.not_blank).2]

/-- **list-level `insert_before` whose regex matches only configuration lines that are not
indented deeper than the payload** (in particular: same indent): no old line is adopted by a
copy — every old line's new parent is an old line, and its old parent is that line's old
position.  No exclusion: a line directly behind a copy is a matched line, not a comment. -/
theorem listInsertBefore_same_indent (s : S) (row : List Bool) (txt : Str) (hc : PlainCommitted s)
    (hx : PlainPayload s txt)
    (hQ : ∀ i, i < s.texts.length → row.getD i false = true →
      isConfigLine s.cfg (s.texts.getD i []) = true ∧ indent (s.texts.getD i []) ≤ indent txt) :
    let s' := (step s (.listInsBefore false row txt)).1
    let keep := markFn (insertMarks false s.texts.length row)
    ∀ q, q < s'.texts.length → keep q = true →
      keep (parentOf s'.tree q) = true ∧ parentOf s.tree (rank keep q) = rank keep (parentOf s'.tree q) := by
  intro s' keep q hq hk
  have hs : s' = autoCommit _ := congrArg Prod.fst (step_listIns row hx.not_blank).1
  obtain ⟨_, _, _, g4, g5, g7⟩ := multi_insert_spec s false row txt s' hc hx hs
  obtain ⟨_, _, f3⟩ := multiFrame_of_step s false row txt s' hc hx hs
  have hQ' : ∀ i a, (s.texts.map (info s.cfg))[i]? = some a → row.getD i false = true →
      a.isCfg = true ∧ a.indent ≤ (info s.cfg txt).indent := by
    intro i a ha hr
    have hi : i < s.texts.length := by simpa using (List.getElem?_eq_some_iff.mp ha).1
    rw [info_getD s.cfg s.texts i hi] at ha
    cases ha
    exact hQ i hi hr
  have hlen : (s.texts.map (info s.cfg)).length = s.texts.length := List.length_map _
  have hkeep : keep (parentOf s'.tree q) = true := by
    rw [g5 q hq]
    have := no_adoption_before (info s.cfg txt) (s.texts.map (info s.cfg)) row hQ' q (g4 ▸ hq) (by rw [hlen]; exact hk)
    rw [hlen] at this; exact this
  refine ⟨hkeep, (f3 q hq hk).2.2 ?_ hkeep⟩
  -- a line directly behind a copy is a matched line, hence a configuration line, not a comment
  rintro ⟨hcm, q', rfl, hk'⟩
  obtain ⟨_, _, a, n3, n4, _⟩ := insertBefore_next (info s.cfg txt)
    (fun a => a.isCfg = true ∧ a.indent ≤ (info s.cfg txt).indent) (s.texts.map (info s.cfg)) row hQ' q'
    (by rw [hlen]; exact hk')
  have hq2 : q' + 1 < (insertAtMatches false (info s.cfg txt) (s.texts.map (info s.cfg)) row).length := g4 ▸ hq
  rw [List.getElem?_eq_getElem hq2, g7 (q' + 1) hq2] at n3
  cases n3
  rw [isCmt_of_cfg _ _ n4] at hcm; cases hcm

/-- **`obj.replace_text(before, after)`**: the lines above the object's position keep their
parents whatever the new text is; when the new text has the indentation and the kind
(configuration line / comment / blank) of the old one, no line changes parent at all. -/
theorem replaceText_parents (s : S) (h p : Nat) (before after : Str) (hc : PlainCommitted s)
    (hp : posOf s.items h = some p)
    (hx : PlainPayload s (pyReplace before after (s.texts.getD p []))) :
    let new := pyReplace before after (s.texts.getD p [])
    let s' := (step s (.replaceText h before after)).1
    s'.texts = s.texts.set p new ∧
    (∀ j, j < p → parentOf s'.tree j = parentOf s.tree j) ∧
    (info s.cfg new = info s.cfg (s.texts.getD p []) → s'.tree.parents = s.tree.parents) := by
  exact replace_parents s p _ _ hc hx (posOf_lt_texts hp) (by rw [step_replaceText before after hp])

/-- **`obj.re_sub(regex, repl)`** that changes the text (non-stale state): the same frame. -/
theorem reSub_parents (s : S) (h p : Nat) (newText : Str) (hc : PlainCommitted s)
    (hp : posOf s.items h = some p) (hs : s.stale = false) (hne : newText ≠ s.texts.getD p [])
    (hx : PlainPayload s newText) :
    let s' := (step s (.reSub h newText)).1
    s'.texts = s.texts.set p newText ∧
    (∀ j, j < p → parentOf s'.tree j = parentOf s.tree j) ∧
    (info s.cfg newText = info s.cfg (s.texts.getD p []) → s'.tree.parents = s.tree.parents) := by
  exact replace_parents s p _ _ hc hx (posOf_lt_texts hp) (by rw [step_reSub hp hs hne])

/-- **every successful `append_to_family`**, whatever branch of the index arithmetic it took
(child level, same indent — F10b —, childless target): exactly the captured lines change
parent (`InsertFrame` at the index `appendIndex` computed). -/
theorem appendToFamily_parents (s : S) (i : Nat) (txt : Str) (ind : Int) (ai : Bool) (hc : PlainCommitted s)
    (hx : PlainPayload s (familyText (indentOf s.tree i) s.width txt ind ai))
    (hok : (step s (.appendToFamily i txt ind ai)).2 = .ok ()) :
    ∃ idx, appendIndex s.tree s.width i (familyText (indentOf s.tree i) s.width txt ind ai) = .ok idx ∧
      InsertFrame s (step s (.appendToFamily i txt ind ai)).1 (min idx s.texts.length)
        (familyText (indentOf s.tree i) s.width txt ind ai) := by
  obtain ⟨idx, h4, _, h5⟩ := step_appendToFamily_insert s i txt ind ai hok
  exact ⟨idx, h4, insertFrame_of_step s _ _ true _ hc hx (Nat.min_le_right _ _) h5⟩

/-- **A child-level `append_to_family` to a childless target**: the line goes directly below
the target and becomes its only child; no old line changes parent — with or without
`ignore_blank_lines`, for every payload one level deeper than the target (comment payloads
included), the one exclusion being, as before, a comment directly behind the insertion point.
The target has to be a configuration line: a comment or a blank line heads no family (the
new line is then attached to the nearest shallower configuration line above, and may capture
following lines — `appendToFamily_parents` says which). -/
theorem appendToFamily_childless_keeps_parents (s : S) (i : Nat) (txt : Str) (ind : Int) (ai : Bool)
    (hc : PlainCommitted s)
    (hx : PlainPayload s (familyText (indentOf s.tree i) s.width txt ind ai))
    (hok : (step s (.appendToFamily i txt ind ai)).2 = .ok ())
    (hk : children s.tree i = [])
    (h0 : cfi s.width (indentOf s.tree i) (familyText (indentOf s.tree i) s.width txt ind ai) ≠ some 0)
    (hcfg : isConfigLine s.cfg (s.texts.getD i []) = true) :
    let txt' := familyText (indentOf s.tree i) s.width txt ind ai
    let s' := (step s (.appendToFamily i txt ind ai)).1
    i < s.texts.length ∧
    s'.texts = s.texts.take (i + 1) ++ txt' :: s.texts.drop (i + 1) ∧
    parentOf s'.tree (i + 1) = i ∧
    (∀ q, q ∈ children s'.tree i ↔ q = i + 1) ∧
    (∀ j, j ≤ i → parentOf s'.tree j = parentOf s.tree j) ∧
    (∀ j, i < j → j < s.texts.length → ¬ (j = i + 1 ∧ isComment s.cfg (s.texts.getD j []) = true) →
      parentOf s'.tree (j + 1) = shiftAfter i (parentOf s.tree j)) := by
  intro txt' s'
  obtain ⟨idx, h4, hil, h5⟩ := step_appendToFamily_insert s i txt ind ai hok
  have hst := hc.specTree
  -- the index is `i + 1`, the payload is one level deeper
  have hidx : idx = i + 1 ∧ cfi s.width (indentOf s.tree i) txt' = some 1 := by
    rcases appendIndex_childless _ _ _ _ idx hk h4 with h | ⟨h1, lp, hlp, hlp'⟩
    · exact absurd h.1 h0
    · rw [lastParentLinenum0_childless hst.1 _ _ _ (hc.size_eq ▸ hil) hk hlp] at hlp'
      exact ⟨hlp', h1⟩
  have hlt : indent (s.texts.getD i []) < indent txt' := by
    rw [← hc.indentOf_eq]; exact (cfi_one _ _ _ hidx.2).1
  rw [hidx.1, Nat.min_eq_left hil] at h5
  obtain ⟨⟨f1, f5, f6⟩, f2, f3⟩ := auto_insert_frame s (i + 1) txt' true hc hx hil
  rw [← h5] at f1 f2 f3 f5 f6
  have hli := info_getD s.cfg s.texts i hil
  have hnochild : ∀ j, i < j → j < s.texts.length → specParent (s.texts.map (info s.cfg)) j ≠ i := by
    intro j hij hjl hsp
    have : j ∈ children s.tree i :=
      mem_children.mpr ⟨hc.size_eq ▸ hjl, (hc.parentOf_eq hjl).trans hsp, Nat.ne_of_gt hij⟩
    rw [hk] at this; cases this
  have hnew : parentOf s'.tree (i + 1) = i :=
    (f3 (i + 1) (Nat.succ_lt_succ hil)).trans (specParent_insert_new_child _ _ i _ hli hcfg hlt)
  refine ⟨hil, f1, hnew, fun q => ⟨fun hq => ?_, ?_⟩, fun j hj => f5 j (Nat.lt_succ_of_le hj), fun j h1 h2' h3 => ?_⟩
  · obtain ⟨q1, q2, q3⟩ := mem_children.mp hq
    rw [f2] at q1
    rw [f3 q q1] at q2
    exact specParent_insert_only_child _ (info s.cfg txt') i _ hli hcfg hlt
      (fun j a b => hnochild j a (by simpa using b)) q q3 (by simpa using q1) q2
  · rintro rfl
    exact mem_children.mpr ⟨f2 ▸ Nat.succ_lt_succ hil, hnew, Nat.succ_ne_self i⟩
  · have hcap : capturedBy (s.texts.map (info s.cfg)) (info s.cfg txt') (i + 1) j = false :=
      Bool.eq_false_iff.mpr fun hcap => hnochild j h1 h2' ((capturedBy_below _ (info s.cfg txt') i j _ _ hli hcfg
        (Nat.le_of_lt hlt) h1 (info_getD s.cfg s.texts j h2')).mp hcap).2.2
    rw [f6 j h1 h2' h3, hcap, shiftAfter_eq_shiftAt]
    rfl

/-- **No configuration-line child of the target of a successful child-level append is shallower
than the payload, for every indent width**: the call has classified the target and its last child
against the width, and the configuration-line children of a line are indented in non-increasing
order.  (With width 2, `a` / ` b` + `  n` is refused.) -/
theorem appendToFamily_children_anywidth (s : S) (i : Nat) (txt : Str) (ind : Int) (ai : Bool)
    (hc : PlainCommitted s) (hok : (step s (.appendToFamily i txt ind ai)).2 = .ok ())
    (hk : children s.tree i ≠ [])
    (h0 : cfi s.width (indentOf s.tree i) (familyText (indentOf s.tree i) s.width txt ind ai) ≠ some 0) :
    ∀ c, c ∈ children s.tree i → isConfigLine s.cfg (s.texts.getD c []) = true →
      indent (familyText (indentOf s.tree i) s.width txt ind ai) ≤ indent (s.texts.getD c []) := by
  obtain ⟨_, _, _, idx, h4, _⟩ := step_appendToFamily_ok s i txt ind ai hok
  exact appendToFamily_children_deep s i _ idx hc hk h4 h0

/-- **A child-level `append_to_family` to a target with children, in full**: with or without
`ignore_blank_lines`, for every indent width and every payload (comments included) the line
goes to `familyEndpoint + 1` and *no old line changes parent* (the comment directly behind the
insertion point excepted); a payload that is not a comment becomes a child of the target.
That no configuration-line child of the target is shallower than the payload, which this needs,
follows from the success of the call (`appendToFamily_children_anywidth`).  The exclusion is the
one of `InsertFrame` (the attachment of such a comment depends on the line above it, C02's legacy
rule; the Python oracle excludes comments as well). -/
theorem appendToFamily_keeps_parents_full (s : S) (i : Nat) (txt : Str) (ind : Int) (ai : Bool)
    (hc : PlainCommitted s)
    (hx : PlainPayload s (familyText (indentOf s.tree i) s.width txt ind ai))
    (hok : (step s (.appendToFamily i txt ind ai)).2 = .ok ())
    (hk : children s.tree i ≠ [])
    (h0 : cfi s.width (indentOf s.tree i) (familyText (indentOf s.tree i) s.width txt ind ai) ≠ some 0) :
    let txt' := familyText (indentOf s.tree i) s.width txt ind ai
    let e := familyEndpoint s.tree i
    let s' := (step s (.appendToFamily i txt ind ai)).1
    i ≤ e ∧ e < s.texts.length ∧
    s'.texts = s.texts.take (e + 1) ++ txt' :: s.texts.drop (e + 1) ∧
    (∀ j, j ≤ e → parentOf s'.tree j = parentOf s.tree j) ∧
    (∀ j, e < j → j < s.texts.length → ¬ (j = e + 1 ∧ isComment s.cfg (s.texts.getD j []) = true) →
      parentOf s'.tree (j + 1) = shiftAfter e (parentOf s.tree j)) ∧
    (isComment s.cfg txt' = false → parentOf s'.tree (e + 1) = i) := by
  intro txt' e s'
  obtain ⟨idx, h4, hil, h5⟩ := step_appendToFamily_insert s i txt ind ai hok
  obtain ⟨h6, h7⟩ := appendIndex_child_level _ _ _ _ idx hk h4 h0
  have hst := hc.specTree
  have he : e < s.texts.length :=
    hc.size_eq ▸ familyEndpoint_lt_size hst.1 (hc.size_eq ▸ hil)
  have hie : i ≤ e := (familyEndpoint_max hst.1 i).2 i (List.mem_cons_self ..)
  have hlt : indent (s.texts.getD i []) < indent txt' := by
    rw [← hc.indentOf_eq]; exact (cfi_one _ _ _ h7).1
  rw [h6, Nat.min_eq_left he] at h5
  obtain ⟨⟨f1, f5, f6⟩, _, f3⟩ := auto_insert_frame s (e + 1) txt' true hc hx he
  rw [← h5] at f1 f3 f5 f6
  have hli := info_getD s.cfg s.texts i hil
  -- the target has a child, so it is a configuration line
  have hcfg : isConfigLine s.cfg (s.texts.getD i []) = true :=
    (specTree_child hst (List.exists_mem_of_ne_nil _ hk).choose_spec).2.2.1
  refine ⟨hie, he, f1, fun j hj => f5 j (Nat.lt_succ_of_le hj), fun j h1 h2 h3 => ?_, fun hxc => ?_⟩
  · -- the family is a closed block: the new line behind it captures nothing
    rw [f6 j h1 h2 h3, capturedBy_closed _ (info s.cfg txt') i e j _ hli hcfg (Nat.le_of_lt hlt) hie
      (specTree_family_closed hst i _ hli hcfg) h1, shiftAfter_eq_shiftAt]
    rfl
  · -- no configuration line of the family is shallower than the new line, so its parent is the head
    rw [f3 (e + 1) (Nat.succ_lt_succ he)]
    refine specParent_insert_new_head _ (info s.cfg txt') i e _ hli hcfg hlt hie (by simpa using he) hxc
      (specTree_family_deep hst i _ _ hli hcfg fun c l hcm hl hcf => ?_)
    have hcl : c < s.texts.length := hc.size_eq ▸ (mem_children.mp hcm).1
    obtain rfl := Option.some.inj ((info_getD s.cfg s.texts c hcl).symm.trans hl)
    exact appendToFamily_children_deep s i txt' idx hc hk h4 h0 c hcm hcf

/-- For indent width 1 (every syntax but nxos) the same holds without reference to the call: a
child-level payload is indented exactly one deeper than the target, and every configuration-line
child of the target is indented deeper than the target. -/
theorem appendToFamily_children_width1 (s : S) (i : Nat) (txt' : Str)
    (hd : s.dirty = false) (hinv : FreshInv s) (hig : s.cfg.ignoreBlank = false) (hp : Plain s.cfg s.texts)
    (hw : s.width = 1) (h1 : cfi s.width (indentOf s.tree i) txt' = some 1) :
    ∀ c, c ∈ children s.tree i → isConfigLine s.cfg (s.texts.getD c []) = true →
      indent txt' ≤ indent (s.texts.getD c []) := by
  intro c hcm _
  obtain ⟨htree, htexts, _⟩ := hinv hd
  have hst := parse_specTree s.cfg s.texts hp (fun hi => by rw [hig] at hi; cases hi)
  rw [← htree] at hst
  obtain ⟨_, _, _, hlt, _⟩ := specTree_child hst hcm
  -- the payload is indented exactly one deeper than the target
  have := cfi_one_eq _ _ _ h1 (by rw [hw]; exact Nat.mod_one _)
  rw [indentOf, ← htexts, hw] at this
  omega

/-- **A child-level `append_to_family` keeps every existing parent and makes the new line a
child of the target**, with the hypotheses spelled out: no uncommitted change, C07's invariant,
auto-commit on, blank lines kept, no line of the config (nor the payload) starts a banner or —
under syntax ios — a macro, so that the links are those of the indentation rule (C02).  Target `i`
with children; payload `txt'` (after `familyText`) not at the target's own indent, not a comment.
(`Hc`, that no configuration-line child of `i` is shallower than the payload, holds whenever the
call succeeds.)  Then, with `e` the last line of `i`'s family: the texts are
`take (e+1) ++ [txt'] ++ drop (e+1)`, the new line's parent is `i`, every line up to `e` keeps its
parent, and every line after `e` keeps its parent, shifted by one where it lies after `e` — except
possibly a comment directly after the insertion point. -/
theorem appendToFamily_keeps_parents (s : S) (i : Nat) (txt : Str) (ind : Int) (ai : Bool)
    (hd : s.dirty = false) (hinv : FreshInv s) (ha : s.auto = true) (hig : s.cfg.ignoreBlank = false)
    (hp : Plain s.cfg s.texts)
    (hok : (step s (.appendToFamily i txt ind ai)).2 = .ok ())
    (hk : children s.tree i ≠ [])
    (h0 : cfi s.width (indentOf s.tree i) (familyText (indentOf s.tree i) s.width txt ind ai) ≠ some 0)
    (hb : isBannerStart (familyText (indentOf s.tree i) s.width txt ind ai) = false)
    (hm : s.cfg.ios = true → isMacroStart (familyText (indentOf s.tree i) s.width txt ind ai) = false)
    (hxc : isComment s.cfg (familyText (indentOf s.tree i) s.width txt ind ai) = false)
    (Hc : ∀ c, c ∈ children s.tree i → isConfigLine s.cfg (s.texts.getD c []) = true →
      indent (familyText (indentOf s.tree i) s.width txt ind ai) ≤ indent (s.texts.getD c [])) :
    let txt' := familyText (indentOf s.tree i) s.width txt ind ai
    let e := familyEndpoint s.tree i
    let s' := (step s (.appendToFamily i txt ind ai)).1
    i ≤ e ∧ e < s.texts.length ∧
    s'.texts = s.texts.take (e + 1) ++ txt' :: s.texts.drop (e + 1) ∧
    parentOf s'.tree (e + 1) = i ∧
    (∀ j, j ≤ e → parentOf s'.tree j = parentOf s.tree j) ∧
    (∀ j, e < j → j < s.texts.length → ¬ (j = e + 1 ∧ isComment s.cfg (s.texts.getD j []) = true) →
      parentOf s'.tree (j + 1) = shiftAfter e (parentOf s.tree j)) := by
  intro txt' e s'
  obtain ⟨r0, r1, r2, r4, r5, r3⟩ := appendToFamily_keeps_parents_full s i txt ind ai ⟨hd, hinv, ha, hp⟩
    ⟨hb, hm, fun hi => by rw [hig] at hi; cases hi⟩ hok hk h0
  exact ⟨r0, r1, r2, r3 hxc, r4, r5⟩

/-- `appendToFamily_keeps_parents` for indent width 1, without `Hc`. -/
theorem appendToFamily_keeps_parents_width1 (s : S) (i : Nat) (txt : Str) (ind : Int) (ai : Bool)
    (hd : s.dirty = false) (hinv : FreshInv s) (ha : s.auto = true) (hig : s.cfg.ignoreBlank = false)
    (hp : Plain s.cfg s.texts) (hw : s.width = 1)
    (hok : (step s (.appendToFamily i txt ind ai)).2 = .ok ())
    (hk : children s.tree i ≠ [])
    (h0 : cfi s.width (indentOf s.tree i) (familyText (indentOf s.tree i) s.width txt ind ai) ≠ some 0)
    (hb : isBannerStart (familyText (indentOf s.tree i) s.width txt ind ai) = false)
    (hm : s.cfg.ios = true → isMacroStart (familyText (indentOf s.tree i) s.width txt ind ai) = false)
    (hxc : isComment s.cfg (familyText (indentOf s.tree i) s.width txt ind ai) = false) :
    let txt' := familyText (indentOf s.tree i) s.width txt ind ai
    let e := familyEndpoint s.tree i
    let s' := (step s (.appendToFamily i txt ind ai)).1
    i ≤ e ∧ e < s.texts.length ∧
    s'.texts = s.texts.take (e + 1) ++ txt' :: s.texts.drop (e + 1) ∧
    parentOf s'.tree (e + 1) = i ∧
    (∀ j, j ≤ e → parentOf s'.tree j = parentOf s.tree j) ∧
    (∀ j, e < j → j < s.texts.length → ¬ (j = e + 1 ∧ isComment s.cfg (s.texts.getD j []) = true) →
      parentOf s'.tree (j + 1) = shiftAfter e (parentOf s.tree j)) := by
  obtain ⟨_, _, _, idx, h4, _⟩ := step_appendToFamily_ok s i txt ind ai hok
  have h1 := (appendIndex_child_level _ _ _ _ idx hk h4 h0).2
  exact appendToFamily_keeps_parents s i txt ind ai hd hinv ha hig hp hok hk h0 hb hm hxc
    (appendToFamily_children_width1 s i _ hd hinv hig hp hw h1)

/-- **A blank payload under `ignore_blank_lines`** (the point excluded by `PlainPayload`): the
append succeeds, the commit drops the line again — texts and tree are what they were. -/
theorem blank_payload_ignored (s : S) (i : Nat) (txt : Str) (ind : Int) (ai : Bool) (hc : PlainCommitted s)
    (hi : s.cfg.ignoreBlank = true)
    (hok : (step s (.appendToFamily i txt ind ai)).2 = .ok ())
    (hbl : isBlank (familyText (indentOf s.tree i) s.width txt ind ai) = true)
    (hb : isBannerStart (familyText (indentOf s.tree i) s.width txt ind ai) = false)
    (hm : s.cfg.ios = true → isMacroStart (familyText (indentOf s.tree i) s.width txt ind ai) = false) :
    (step s (.appendToFamily i txt ind ai)).1.texts = s.texts ∧
    (step s (.appendToFamily i txt ind ai)).1.tree = s.tree := by
  obtain ⟨idx, _, _, h5⟩ := step_appendToFamily_insert s i txt ind ai hok
  have hnb := hc.noBlank hi
  rw [h5]
  -- the non-blank lines of the new list are the old lines
  refine auto_commit_blank_noop s _ true hc hi ?_ ?_ <;> rw [items_insert_texts]
  · exact plain_of_mem s.cfg (fun y => mem_take_cons_drop) hc.plain hb hm
  · rw [List.filter_append, List.filter_cons, show nonBlank _ = false by rw [nonBlank_eq, hbl]; rfl,
      List.filter_eq_self.mpr fun x hx => hnb x (List.mem_of_mem_take hx),
      List.filter_eq_self.mpr fun x hx => hnb x (List.mem_of_mem_drop hx)]
    exact List.take_append_drop _ s.texts

/-- **`delete` keeps the parents of the surviving lines**, with or without `ignore_blank_lines`.
With `dead` = line `i` and its descendants, `keep j` := `j ∉ dead` and `rank keep j` := the
number of surviving lines before `j`: after `delete i` a surviving line `j` sits at
`rank keep j` with its old text, its old parent survives too, and its new parent is the new
position of its old parent — except possibly a comment whose directly preceding line was
deleted (its attachment depends on the line above it, C02's legacy rule). -/
theorem delete_keeps_parents_full (s : S) (i : Nat) (hc : PlainCommitted s) (hi : i < s.texts.length) :
    let dead := descendantsAndSelf s.tree i
    let keep : Nat → Bool := fun j => !dead.contains j
    let s' := (step s (.delete i)).1
    s'.texts = eraseAll s.texts dead ∧
    ∀ j, j < s.texts.length → keep j = true →
      s'.texts[rank keep j]? = s.texts[j]? ∧
      keep (parentOf s.tree j) = true ∧
      (¬ (isComment s.cfg (s.texts.getD j []) = true ∧ ∃ j', j = j' + 1 ∧ keep j' = false) →
        parentOf s'.tree (rank keep j) = rank keep (parentOf s.tree j)) := by
  intro dead keep s'
  have hf := hc.specTree.1
  have hsub := eraseAll_sublist s.texts dead
  have hp' := plain_sublist s.cfg hsub hc.plain
  have hnb' : s.cfg.ignoreBlank = true → ∀ x ∈ eraseAll s.texts dead, nonBlank x = true :=
    fun hi x hx => hc.noBlank hi x (hsub.subset hx)
  have hmap : (eraseAll s.items dead).map Item.text = eraseAll s.texts dead := by rw [eraseAll_map, items_map_text]
  obtain ⟨h1, h2⟩ := auto_commit_plain s hc.auto (eraseAll s.items dead) s.stale (hmap ▸ hp') (hmap ▸ hnb')
  have hstep : s' = autoCommit _ := congrArg Prod.fst (step_delete hc.clean hi)
  rw [hmap, ← hstep] at h1 h2
  have hsel : eraseAll s.texts dead = sel keep 0 s.texts := eraseAll_eq_sel s.texts dead
  refine ⟨h1, fun j hj hkj => ?_⟩
  have hget : (sel keep 0 s.texts)[rank keep j]? = s.texts[j]? := sel_getElem? keep s.texts j hj hkj
  have hrl : rank keep j < (eraseAll s.texts dead).length := by
    rw [hsel]
    exact (List.getElem?_eq_some_iff.mp (hget.trans (List.getElem?_eq_getElem hj))).1
  -- the parent of a survivor survives: a deleted parent would make the line a descendant of `i`
  have hkp : keep (parentOf s.tree j) = true := by
    by_cases hpj : parentOf s.tree j = j
    · rw [hpj]; exact hkj
    · have hlt : parentOf s.tree j < j := Nat.lt_of_le_of_ne (parentOf_le_of_forest hf j) hpj
      have hjd : j ∉ dead := by simpa [keep] using hkj
      have : parentOf s.tree j ∉ dead := fun hm => hjd (by
        simp only [dead, descendantsAndSelf, List.mem_cons] at hm ⊢
        right
        rw [mem_allChildren hf, ancestors_of_lt hlt]
        rcases hm with hm | hm
        · simp [hm]
        · exact List.mem_cons_of_mem _ ((mem_allChildren hf).mp hm))
      simpa [keep] using this
  refine ⟨by rw [h1, hsel]; exact hget, hkp, fun hex => ?_⟩
  rw [h2, parse_parentOf s.cfg _ hp' hnb' _ hrl, eraseAll_map, eraseAll_eq_sel,
    specParent_sel_kept keep _ j (by simpa using hj) hkj ?_ (by rw [← hc.parentOf_eq hj]; exact hkp),
    ← hc.parentOf_eq hj]
  rintro ⟨hcm, hq⟩
  refine hex ⟨?_, hq⟩
  rw [List.getD_eq_getElem?_getD, List.getElem?_eq_getElem hj]
  simpa [info] using hcm

/-- … with the hypotheses spelled out, blank lines kept: no uncommitted change, C07's invariant,
auto-commit on, no banner / macro start in the config. -/
theorem delete_keeps_parents (s : S) (i : Nat)
    (hd : s.dirty = false) (hinv : FreshInv s) (ha : s.auto = true) (hig : s.cfg.ignoreBlank = false)
    (hp : Plain s.cfg s.texts) (hi : i < s.texts.length) :
    let dead := descendantsAndSelf s.tree i
    let keep : Nat → Bool := fun j => !dead.contains j
    let s' := (step s (.delete i)).1
    s'.texts = eraseAll s.texts dead ∧
    ∀ j, j < s.texts.length → keep j = true →
      s'.texts[rank keep j]? = s.texts[j]? ∧
      keep (parentOf s.tree j) = true ∧
      (¬ (isComment s.cfg (s.texts.getD j []) = true ∧ ∃ j', j = j' + 1 ∧ keep j' = false) →
        parentOf s'.tree (rank keep j) = rank keep (parentOf s.tree j)) :=
  delete_keeps_parents_full s i ⟨hd, hinv, ha, hp⟩ hi

/-! ## non-vacuity of this part -/

/-- the example config under `ignore_blank_lines` -/
def exIb : S := init { exCfg with ignoreBlank := true } true 1 exLines

/-- the bundled hypotheses hold in the example states, with and without `ignore_blank_lines` -/
example : PlainCommitted exOn ∧ PlainCommitted exIb := by
  have hp : Plain exOn.cfg exOn.texts ∧ Plain exIb.cfg exIb.texts := by
    simp only [exOn, exIb, exLines, toList_lit]
    decide +kernel
  exact ⟨⟨rfl, init_fresh _ _ _ _, rfl, hp.1⟩, ⟨rfl, init_fresh _ _ _ _, rfl, hp.2⟩⟩
example : PlainPayload exOn "interface Eth2".toList ∧ PlainPayload exIb "  x".toList ∧
    ¬ PlainPayload exIb " ".toList := by
  simp only [exOn, exIb, exLines, toList_lit]
  decide +kernel
/-- `committed_no_blank` / `commit_ignore_blank`: blank input lines are gone after the parse,
and the tree is that of the non-blank lines -/
example : let s := init { exCfg with ignoreBlank := true } true 1 ["a".toList, "".toList, " b".toList, "  ".toList]
    s.texts = ["a".toList, " b".toList] ∧ s.tree.parents = [0, 0] ∧
    s.tree = parse (noIg s.cfg) ["a".toList, " b".toList] := by
  simp only [toList_lit]
  decide +kernel
/-- `insert_parents` / `captured_iff`: `insert(1, "x")` puts an unindented line between
`interface Eth1` and its children — lines 1 and 3 (old numbering) are captured, line 2 (whose
parent, line 1, lies behind the insertion point) and line 4 (a root) are not -/
example : (List.range 5).map (capturedBy (exLines.map (info exCfg)) (info exCfg "x".toList) 1)
      = [false, true, false, true, false] ∧
    (step exOn (.insert 1 "x".toList)).1.tree.parents = [0, 1, 1, 2, 1, 5] ∧
    shiftAt 1 1 = 2 ∧ shiftAt 1 0 = 0 := by
  simp only [exOn, exLines, toList_lit]
  decide +kernel
/-- `objInsertAfter_same_indent`: `interface Eth2` placed directly below `interface Eth1` takes
over its children (old lines 1 and 3), the grandchild (old 2) and `Eth10` keep their parents -/
example : posOf exOn.items 0 = some 0 ∧ isConfigLine exOn.cfg "interface Eth2".toList = true ∧
    indent "interface Eth2".toList = indent (exOn.texts.getD 0 []) ∧
    (step exOn (.objInsAfter 0 "interface Eth2".toList)).1.tree.parents = [0, 1, 1, 2, 1, 5] := by
  simp only [exOn, exLines, toList_lit]
  decide +kernel
/-- `objInsertBefore_same_indent`: `interface Eth9` placed directly above `interface Eth10`
changes no parent -/
example : posOf exOn.items 4 = some 4 ∧ isConfigLine exOn.cfg (exOn.texts.getD 4 []) = true ∧
    indent (exOn.texts.getD 4 []) ≤ indent "interface Eth9".toList ∧
    (step exOn (.objInsBefore 4 "interface Eth9".toList)).1.tree.parents = [0, 0, 1, 0, 4, 5] := by
  simp only [exOn, exLines, toList_lit]
  decide +kernel
/-- `listInsertBefore_same_indent` on the rows of `^interface` with the payload `!`: positions
0 and 5 of the new list hold the copies, the old lines keep their parents -/
example : insertMarks false 5 [true, false, false, false, true] = [false, true, true, true, true, false, true] ∧
    rank (markFn (insertMarks false 5 [true, false, false, false, true])) 6 = 4 ∧
    (step exOn (.listInsBefore false [true, false, false, false, true] "!".toList)).1.tree.parents
      = [0, 1, 1, 2, 1, 5, 6] := by
  simp only [exOn, exLines, toList_lit]
  decide +kernel
/-- `listInsertAfter_parents`: `insert_after(^interface, " x")` — no old line is adopted here
either (the copies are as deep as the children) -/
example : (step exOn (.listInsAfter false [true, false, false, false, true] " x".toList)).1.tree.parents
      = [0, 0, 0, 2, 0, 5, 5] := by
  simp only [exOn, exLines, toList_lit]
  decide +kernel
/-- `replaceText_parents` / `reSub_parents`: same indentation and kind, same parents -/
example : info exCfg "interface Po0".toList = info exCfg "interface Eth10".toList ∧
    (step exOn (.replaceText 4 "Eth1".toList "Po".toList)).1.tree.parents = exOn.tree.parents ∧
    (step exOn (.reSub 1 " no ip address".toList)).1.tree.parents = exOn.tree.parents := by
  simp only [exOn, exLines, toList_lit]
  decide +kernel
/-- `appendToFamily_childless_keeps_parents`: line 3 (` shutdown`) has no children and is a
configuration line; the auto-indented payload lands at 4 and is its only child — also under
`ignore_blank_lines` -/
example : children exOn.tree 3 = [] ∧ isConfigLine exOn.cfg (exOn.texts.getD 3 []) = true ∧
    (step exOn (.appendToFamily 3 "x".toList (-1) true)).2 = .ok () ∧
    (step exOn (.appendToFamily 3 "x".toList (-1) true)).1.tree.parents = [0, 0, 1, 0, 3, 5] ∧
    children (step exOn (.appendToFamily 3 "x".toList (-1) true)).1.tree 3 = [4] ∧
    (step exIb (.appendToFamily 3 "x".toList (-1) true)).1.tree.parents = [0, 0, 1, 0, 3, 5] := by
  simp only [exOn, exIb, exLines, toList_lit]
  decide +kernel
/-- the target must be a configuration line: below a comment the new line is attached to the
line above the comment, and captures what follows (`appendToFamily_parents`) -/
example : let s := init exCfg true 1 ["!y".toList, "  c".toList]
    s.tree.parents = [0, 1] ∧ (step s (.appendToFamily 0 " n".toList (-1) false)).2 = .ok () ∧
    (step s (.appendToFamily 0 " n".toList (-1) false)).1.tree.parents = [0, 1, 1] ∧
    capturedBy (s.texts.map (info exCfg)) (info exCfg " n".toList) 1 1 = true := by
  simp only [toList_lit]
  decide +kernel
/-- `appendToFamily_keeps_parents_full` / `appendToFamily_children_anywidth` with indent
width 2: a child at an odd indent makes the call fail, otherwise the new line is a child -/
example : let s := init { exCfg with ios := false } true 2 ["a".toList, " b".toList, "c".toList]
    children s.tree 0 = [1] ∧
    (step s (.appendToFamily 0 "  n".toList (-1) false)).2 = .error .notImplemented := by
  simp only [toList_lit]
  decide +kernel
example : let s := init { exCfg with ios := false } true 2 ["a".toList, "  b".toList, "    d".toList, "c".toList]
    (step s (.appendToFamily 0 "  n".toList (-1) false)).2 = .ok () ∧
    (step s (.appendToFamily 0 "  n".toList (-1) false)).1.tree.parents = [0, 0, 1, 0, 4] := by
  simp only [toList_lit]
  decide +kernel
/-- … and under `ignore_blank_lines`; a comment payload behind a deeper line stays unattached
while no old line moves -/
example : (step exIb (.appendToFamily 0 " mtu 9000".toList (-1) false)).1.tree.parents = [0, 0, 1, 0, 0, 5] ∧
    (let s := init exCfg true 1 ["a".toList, " b".toList, "  c".toList, "d".toList]
     (step s (.appendToFamily 0 " !n".toList (-1) false)).1.tree.parents = [0, 0, 1, 3, 4]) := by
  simp only [exIb, exLines, toList_lit]
  decide +kernel
/-- `blank_payload_ignored` -/
example : isBlank (familyText (indentOf exIb.tree 0) 1 " ".toList (-1) false) = true ∧
    (step exIb (.appendToFamily 0 " ".toList (-1) false)).2 = .ok () ∧
    (step exIb (.appendToFamily 0 " ".toList (-1) false)).1.texts = exIb.texts := by
  simp only [exIb, exLines, toList_lit]
  decide +kernel
/-- `delete_keeps_parents_full` under `ignore_blank_lines` -/
example : (step exIb (.delete 1)).1.tree.parents = [0, 0, 2] := by
  simp only [exIb, exLines, toList_lit]
  decide +kernel


/-! ## configs with banner / macro families: the lines above the edit -/

/-- **No edit changes the parent of a line above the edited position — in any config, banner
and macro families included.**  State: no uncommitted change, C07's invariant, auto-commit
on, blank lines kept; *no* restriction on the lines of the config or on the payload.  If the
step leaves the first `n` lines as they were (for an insertion at `c`: `n = c`; for
`append_to_family` at `familyEndpoint + 1`: the whole family; for `delete i` / a replacement
at `i`: `n = i`), these lines keep their parents: pass 1 looks backwards and a banner / macro
walk runs forwards from its start line. -/
theorem lines_above_keep_parents (s : S) (op : Op) (hd : s.dirty = false) (hinv : FreshInv s)
    (ha : s.auto = true) (hig : s.cfg.ignoreBlank = false) (n : Nat) (hn : n ≤ s.texts.length)
    (hpre : (step s op).1.texts.take n = s.texts.take n) :
    ∀ j, j < n → parentOf (step s op).1.tree j = parentOf s.tree j := by
  intro j hj
  rw [step_tree_parse s op hd hinv ha, (hinv hd).1]
  exact parse_parent_prefix s.cfg hig _ _ n hn hpre j hj

/-- a config with a banner family (line 0 with body 1, 2 and closing line 3): an insertion
below it leaves its links alone, and so does an insertion in the middle of the banner for the
lines above -/
def exBanner : S :=
  init exCfg true 1 ["banner motd ^".toList, " hi".toList, "x".toList, "^".toList, "interface X".toList, " shutdown".toList]
example : exBanner.tree.parents = [0, 0, 0, 0, 4, 4] ∧
    (step exBanner (.appendToFamily 4 " mtu 9000".toList (-1) false)).1.tree.parents = [0, 0, 0, 0, 4, 4, 4] ∧
    (step exBanner (.objInsBefore 2 "y".toList)).1.texts.take 2 = exBanner.texts.take 2 ∧
    (step exBanner (.objInsBefore 2 "y".toList)).1.tree.parents = [0, 0, 0, 0, 0, 5, 5] := by
  simp only [exBanner, toList_lit]
  decide +kernel


/-! ## configs with banner / macro families: the lines below an insertion at a closed position -/

/-- **One line inserted into a config with banner / macro families** (`InsertFrameW`).  State:
no uncommitted change, C07's invariant, auto-commit on, blank lines kept; the insertion point
is not inside a family body (`ClosedAt`: every banner / macro start above it finds its
terminator above it) and the payload starts no family.  Then the lines above keep their
parents, and an old line at or below the insertion point keeps its parent (index-shifted) or
is adopted by the new line — only when captured in the sense of `captured_iff`.  For
`ConfigList.insert(k, txt)`: -/
theorem insert_parents_families (s : S) (k : Int) (txt : Str)
    (hd : s.dirty = false) (hinv : FreshInv s) (ha : s.auto = true) (hig : s.cfg.ignoreBlank = false)
    (hcl : ClosedAt s.cfg s.texts (insertPos s.texts.length k))
    (hb : isBannerStart txt = false) (hm : s.cfg.ios = true → isMacroStart txt = false) :
    InsertFrameW s (step s (.insert k txt)).1 (insertPos s.texts.length k) txt := by
  exact insertFrameW_of_step s _ txt true _ hd hinv ha hig (insertPos_le _ _) hcl hb hm (step_insert s k txt)

/-- … for `obj.insert_before(txt)` / `obj.insert_after(txt)` on the object at position `p`: -/
theorem objInsert_parents_families (s : S) (h p : Nat) (txt : Str)
    (hd : s.dirty = false) (hinv : FreshInv s) (ha : s.auto = true) (hig : s.cfg.ignoreBlank = false)
    (hp : posOf s.items h = some p)
    (hb : isBannerStart txt = false) (hm : s.cfg.ios = true → isMacroStart txt = false) :
    (ClosedAt s.cfg s.texts p → InsertFrameW s (step s (.objInsBefore h txt)).1 p txt) ∧
    (ClosedAt s.cfg s.texts (p + 1) → InsertFrameW s (step s (.objInsAfter h txt)).1 (p + 1) txt) := by
  have hpl : p < s.texts.length := posOf_lt_texts hp
  have hnb : ¬ (isBlank txt = true ∧ s.cfg.ignoreBlank = true) := fun h => by rw [hig] at h; cases h.2
  exact ⟨fun hcl => insertFrameW_of_step s p txt s.stale _ hd hinv ha hig (Nat.le_of_lt hpl) hcl hb hm
      (by rw [step_objInsBefore hp hnb]),
    fun hcl => insertFrameW_of_step s (p + 1) txt s.stale _ hd hinv ha hig hpl hcl hb hm
      (by rw [step_objInsAfter hp hnb])⟩

/-- … and for every successful `append_to_family`: -/
theorem appendToFamily_parents_families (s : S) (i : Nat) (txt : Str) (ind : Int) (ai : Bool)
    (hd : s.dirty = false) (hinv : FreshInv s) (ha : s.auto = true) (hig : s.cfg.ignoreBlank = false)
    (hok : (step s (.appendToFamily i txt ind ai)).2 = .ok ())
    (hb : isBannerStart (familyText (indentOf s.tree i) s.width txt ind ai) = false)
    (hm : s.cfg.ios = true → isMacroStart (familyText (indentOf s.tree i) s.width txt ind ai) = false) :
    ∃ idx, appendIndex s.tree s.width i (familyText (indentOf s.tree i) s.width txt ind ai) = .ok idx ∧
      (ClosedAt s.cfg s.texts (min idx s.texts.length) →
        InsertFrameW s (step s (.appendToFamily i txt ind ai)).1 (min idx s.texts.length)
          (familyText (indentOf s.tree i) s.width txt ind ai)) := by
  obtain ⟨idx, h4, _, h5⟩ := step_appendToFamily_insert s i txt ind ai hok
  exact ⟨idx, h4, fun hcl => insertFrameW_of_step s _ _ true _ hd hinv ha hig (Nat.min_le_right _ _) hcl hb hm h5⟩

/-- the banner example: positions 4, 5, 6 (below the banner family 0–3) are closed, position 2
(inside the body) is not; a child appended to `interface X` and a line inserted above it
change no parent -/
example : closedAtB exBanner.cfg exBanner.texts 4 = true ∧ closedAtB exBanner.cfg exBanner.texts 6 = true ∧
    closedAtB exBanner.cfg exBanner.texts 2 = false ∧
    (step exBanner (.appendToFamily 4 " mtu 9000".toList (-1) false)).1.tree.parents = [0, 0, 0, 0, 4, 4, 4] ∧
    (step exBanner (.objInsBefore 4 "hostname r".toList)).1.tree.parents = [0, 0, 0, 0, 4, 5, 5] := by
  simp only [exBanner, toList_lit]
  decide +kernel
example : ClosedAt exBanner.cfg exBanner.texts 4 := by
  refine closedAt_of_check _ _ _ ?_
  simp only [exBanner, toList_lit]
  decide +kernel
/-- inside the body the hypothesis fails and so does the conclusion: a line holding the
delimiter ends the banner early, the lines behind it leave the family -/
example : (step exBanner (.objInsBefore 2 "^".toList)).1.tree.parents = [0, 0, 0, 3, 4, 5, 5] := by
  simp only [exBanner, toList_lit]
  decide +kernel

/-! ## the other input forms of the editing calls, their rejections, `remove`, a stale handle

`Ccp.Model.EditForms`: `stepX` takes the arguments in the forms the code accepts — a line text
as a `str` (`Arg.str`) or as a `BaseCfgLine` that is not an element of the list (`Arg.line`), any
other value (`Arg.other`) — and mirrors the order of the checks of each entry point.  The theorems
say how every form reduces to `step`, so that everything proved above carries over. -/

/-- **A `BaseCfgLine` payload is its text**: `ConfigList.insert`, `obj.insert_before/after` and
`append_to_family` do with a line object exactly what they do with the `str` of its text. -/
theorem line_payload_is_text (s : S) (t : Str) (k : Int) (h : Nat) (ind : Int) (ai : Bool) :
    stepX s (.insertA (some k) (.line t)) = liftR (step s (.insert k t)) ∧
    stepX s (.insertA (some k) (.str t)) = liftR (step s (.insert k t)) ∧
    stepX s (.objInsBeforeA h (.line t)) = liftR (step s (.objInsBefore h t)) ∧
    stepX s (.objInsBeforeA h (.str t)) = liftR (step s (.objInsBefore h t)) ∧
    stepX s (.objInsAfterA h (.line t)) = liftR (step s (.objInsAfter h t)) ∧
    stepX s (.objInsAfterA h (.str t)) = liftR (step s (.objInsAfter h t)) ∧
    stepX s (.appendToFamilyL h t ind ai) = liftR (step s (.appendToFamily h t ind ai)) :=
  ⟨rfl, rfl, rfl, rfl, rfl, rfl, rfl⟩

/-- **list-level `insert_before/after`, both arguments as `str`**: the operation of the first part
(`listInsertBefore_spec`, `listInsertAfter_spec`, `listInsert_errors`), the empty-regex flag being
"the pattern is the empty string". -/
theorem listInsert_str_forms (s : S) (p : Str) (row : List Bool) (t : Str) :
    stepX s (.listInsBeforeA (.str p) row (.str t)) = liftR (step s (.listInsBefore p.isEmpty row t)) ∧
    stepX s (.listInsAfterA (.str p) row (.str t)) = liftR (step s (.listInsAfter p.isEmpty row t)) := by
  constructor <;>
  · simp only [stepX, listInsA, Edit.step, Arg.text?, listInsCore, liftR]
    by_cases h1 : (isBlank t && s.cfg.ignoreBlank) = true
    · simp [h1]
    · by_cases h2 : p.isEmpty = true <;> simp [h1, h2]

/-- **a `BaseCfgLine` that is not in the list as `exist_val`**: its text is the regular expression
(`row` = the lines it matches) — also when that text is empty, which a `str` pattern may not be. -/
theorem listInsert_foreign_pattern (s : S) (p : Str) (row : List Bool) (t : Str) :
    stepX s (.listInsBeforeA (.line p) row (.str t)) = liftR (step s (.listInsBefore false row t)) ∧
    stepX s (.listInsAfterA (.line p) row (.str t)) = liftR (step s (.listInsAfter false row t)) := by
  constructor <;>
  · simp only [stepX, listInsA, Edit.step, Arg.text?, listInsCore, liftR]
    by_cases h1 : (isBlank t && s.cfg.ignoreBlank) = true <;> simp [h1]

/-- **a `BaseCfgLine` as `new_val` of a list-level insert**: the same as the `str` of its text,
whatever the pattern form — unless it is a blank line under `ignore_blank_lines`: the guard that
refuses such a `str` (`InvalidParameters`) looks at `str` payloads only, the line object is
inserted … -/
theorem listInsert_line_payload (s : S) (after : Bool) (pat : Arg) (row : List Bool) (t : Str) :
    (¬ (isBlank t = true ∧ s.cfg.ignoreBlank = true) →
      listInsA after s pat row (.line t) = listInsA after s pat row (.str t)) ∧
    (isBlank t = true ∧ s.cfg.ignoreBlank = true →
      listInsA after s pat row (.str t) = (s, .error (.base .invalidParameters)) ∧
      (pat = .line [] ∨ (∃ p, pat = .line p) ∨ (∃ p, pat = .str p ∧ p ≠ []) →
        listInsA after s pat row (.line t) = listInsCore after s row t)) := by
  constructor
  · intro hb
    simp only [listInsA, Bool.and_eq_true, hb, Arg.text?, Bool.false_eq_true]
  · rintro ⟨h1, h2⟩
    refine ⟨by simp [listInsA, h1, h2], ?_⟩
    rintro (rfl | ⟨p, rfl⟩ | ⟨p, rfl, hp⟩)
    · simp [listInsA, Arg.text?]
    · simp [listInsA, Arg.text?]
    · cases p with
      | nil => exact absurd rfl hp
      | cons c cs => simp [listInsA, Arg.text?]

/-- … and on a committed state over a config without banner / macro starts (auto-commit on) the
commit that follows drops every copy again: texts and tree are what they were. -/
theorem listInsert_blank_line_dropped (s : S) (after : Bool) (row : List Bool) (t : Str) (hc : PlainCommitted s)
    (hi : s.cfg.ignoreBlank = true) (hbl : isBlank t = true)
    (hb : isBannerStart t = false) (hm : s.cfg.ios = true → isMacroStart t = false) :
    (listInsCore after s row t).1.texts = s.texts ∧ (listInsCore after s row t).1.tree = s.tree :=
  auto_listIns_blank_noop s after row t hc hi hbl hb hm

/-- **Rejections**: a value that is neither a `str` nor a `BaseCfgLine` where a line text is
expected, an index that is not an `int`, a pattern that is neither — each is refused with the
exception class of its entry point (`ConfigList.insert`: `ValueError` for the index, checked
first, `TypeError` for the value; `obj.insert_before/after`: `NotImplementedError`; list-level
`insert_before/after`: `ValueError`; `ConfigList.remove`: `InvalidParameters` for a non-line,
`ValueError` for a line that is not in the list) and the whole state is unchanged. -/
theorem malformed_rejected (s : S) (k : Int) (v pat : Arg) (h p : Nat) (row : List Bool) (after : Bool) :
    stepX s (.insertA none v) = (s, .error (.base .valueError)) ∧
    stepX s (.insertA (some k) .other) = (s, .error .typeError) ∧
    (posOf s.items h = some p →
      stepX s (.objInsBeforeA h .other) = (s, .error (.base .notImplemented)) ∧
      stepX s (.objInsAfterA h .other) = (s, .error (.base .notImplemented))) ∧
    listInsA after s pat row .other = (s, .error (.base .valueError)) ∧
    ((∀ t, v = .str t → ¬ (isBlank t = true ∧ s.cfg.ignoreBlank = true)) →
      listInsA after s .other row v = (s, .error (.base .valueError)) ∧
      listInsA after s (.str []) row v = (s, .error (.base .valueError))) ∧
    stepX s (.remove .foreign) = (s, .error (.base .valueError)) ∧
    stepX s (.remove .other) = (s, .error (.base .invalidParameters)) := by
  refine ⟨rfl, rfl, fun hp => ?_, ?_, fun hv => ?_, rfl, rfl⟩
  · simp [stepX, Arg.text?, hp]
  · cases pat with
    | str q => cases q <;> simp [listInsA, Arg.text?]
    | line q => simp [listInsA, Arg.text?]
    | other => simp [listInsA]
  · cases v with
    | str t => simp [listInsA, hv t rfl]
    | line t => simp [listInsA]
    | other => simp [listInsA]

/-- **Every refused call leaves the whole state unchanged** — for the extended calls too; the one
exception is the double delete, whose first `delete()` has happened when the second is refused. -/
theorem errorsX_leave_state (s : S) (op : OpX) (e : ErrX) (h : (stepX s op).2 = .error e) :
    (stepX s op).1 = s ∨ ∃ i, op = .deleteTwice i ∧ (stepX s op).1 = (step s (.delete i)).1 := by
  -- "a refusal `r` leaves the state `s0`" holds of `(s0, _)`, of every success, and passes through `if`
  have ite : ∀ (s0 : S) (c : Prop) [Decidable c] (a b : S × Except ErrX Unit), (a.2 = .error e → a.1 = s0) →
      (b.2 = .error e → b.1 = s0) → (if c then a else b).2 = .error e → (if c then a else b).1 = s0 :=
    fun _ c _ a b ha hb => by split <;> assumption
  have lift : ∀ o : Op, (liftR (step s o)).2 = .error e → (liftR (step s o)).1 = s := by
    intro o ho
    cases hr : (step s o).2 with
    | ok u => simp [liftR, hr] at ho
    | error e' => exact step_error_unchanged s o e' hr
  have lins : ∀ after pat row v, (listInsA after s pat row v).2 = .error e →
      (listInsA after s pat row v).1 = s := by
    intro after pat row v
    unfold listInsA
    refine ite s _ _ _ (fun _ => rfl) (ite s _ _ _ (fun _ => rfl) ?_)
    cases v.text? with
    | none => exact fun _ => rfl
    | some t => exact nofun
  cases op with
  | base o => exact .inl (lift o h)
  | insertA k v =>
    cases k with
    | none => exact .inl rfl
    | some k =>
      refine .inl ?_
      revert h; simp only [stepX]
      cases v.text? with
      | none => exact fun _ => rfl
      | some t => exact lift _
  | objInsBeforeA i v | objInsAfterA i v =>
    refine .inl ?_
    revert h; simp only [stepX]
    cases v.text? with
    | none => cases posOf s.items i <;> exact fun _ => rfl
    | some t => exact lift _
  | listInsBeforeA pat row v | listInsAfterA pat row v => exact .inl (lins _ pat row v h)
  | appendToFamilyL i t ind ai => exact .inl (lift _ h)
  | remove v =>
    cases v with
    | member i => exact .inl (lift _ h)
    | foreign => exact .inl rfl
    | other => exact .inl rfl
  | deleteTwice i =>
    refine .inr ⟨i, rfl, ?_⟩
    revert h; simp only [stepX]
    cases (step s (.delete i)).2 with
    | error e' => exact fun _ => rfl
    | ok u => exact ite _ _ _ _ (fun _ => rfl) (ite _ _ _ _ (fun _ => rfl) nofun)

/-- **`ConfigList.remove(obj)`** for an object of the list is `obj.delete()` at list level: the
line and all its descendants go, nothing else — `delete_spec`, `delete_spec_forest` and
`delete_keeps_parents_full` read for `remove`. -/
theorem remove_is_delete (s : S) (i : Nat) :
    stepX s (.remove (.member i)) = liftR (step s (.delete i)) := rfl

theorem remove_spec (s : S) (i : Nat) (hnf : NoFilter s) (hd : s.dirty = false) (hi : i < s.texts.length)
    (hf : Forest s.tree) (hsz : s.tree.size = s.texts.length) :
    (stepX s (.remove (.member i))).2 = .ok () ∧
    (stepX s (.remove (.member i))).1.texts
      = (s.texts.zipIdx.filter (fun p => decide (p.2 ≠ i ∧ i ∉ ancestors s.tree p.2))).map (·.1) ∧
    (stepX s (.remove (.member i))).1.texts.length + 1 + (allChildren s.tree i).length = s.texts.length ∧
    ((stepX s (.remove (.member i))).1.texts).Sublist s.texts := by
  obtain ⟨h1, _, h3⟩ := delete_spec s i hnf hd hi
  obtain ⟨h4, h5⟩ := delete_spec_forest s i hnf hd hi hf hsz
  refine ⟨?_, h4, h5, h3⟩
  show (liftR (step s (.delete i))).2 = .ok ()
  simp [liftR, h1]

/-- **`delete()` twice through the same handle** (the handle keeps its old line number, text and
descendants).  `s`: no uncommitted change, C07's invariant, `i` a line.  With `s1` the state after
the first delete and `dead` = `i` and its old descendants:
* auto-commit off: the second call is always refused (`ConfigListItemDoesNotExist`), `s1` stays;
* auto-commit on: it is refused in the same way unless the line now at number `i` has the text
  the deleted line had; if it has, the stale line numbers `dead` are deleted once more — or, when
  one of them is past the end, the call is an `IndexError` and `s1` stays. -/
theorem deleteTwice_spec (s : S) (i : Nat) (hd : s.dirty = false) (hinv : FreshInv s) (hi : i < s.texts.length) :
    let s1 := (step s (.delete i)).1
    let dead := descendantsAndSelf s.tree i
    (s.auto = false → stepX s (.deleteTwice i) = (s1, .error (.base .doesNotExist))) ∧
    (s.auto = true → s1.texts[i]? ≠ some (s.texts.getD i []) →
      stepX s (.deleteTwice i) = (s1, .error (.base .doesNotExist))) ∧
    (s.auto = true → s1.texts[i]? = some (s.texts.getD i []) →
      (dead.any (fun j => j ≥ s1.texts.length) = true →
        stepX s (.deleteTwice i) = (s1, .error (.base .indexError))) ∧
      (dead.any (fun j => j ≥ s1.texts.length) = false →
        stepX s (.deleteTwice i)
          = (autoCommit { s1 with items := eraseAll s1.items dead, dirty := true }, .ok ()))) := by
  intro s1 dead
  have hok : (step s (.delete i)).2 = .ok () := by rw [step_delete hd hi]
  have hs1 : s1 = autoCommit { s with items := eraseAll s.items dead, dirty := true } :=
    congrArg Prod.fst (step_delete hd hi)
  have hitems : s.items = committedItems s.tree := (hinv hd).2.2
  have hunf : stepX s (.deleteTwice i)
      = if !presentEq s1.items i (s.texts.getD i []) then (s1, .error (.base .doesNotExist))
        else if dead.any (fun j => j ≥ s1.items.length) then (s1, .error (.base .indexError))
        else (autoCommit { s1 with items := eraseAll s1.items dead, dirty := true }, .ok ()) := by
    simp only [stepX, hok]; rfl
  -- with auto-commit on `s1` is committed: its elements are the lines of its texts, numbered
  have hpres : s.auto = true →
      presentEq s1.items i (s.texts.getD i []) = (s1.texts[i]? == some (s.texts.getD i [])) := by
    intro ha
    have hon : s1 = commit { s with items := eraseAll s.items dead, dirty := true } := hs1.trans (autoCommit_on _ ha)
    rw [S.texts, hon]
    show presentEq (committedItems _) _ _ = (((committedItems _).map Item.text)[i]? == _)
    rw [presentEq_committed, committedItems_texts]
  refine ⟨fun ha => ?_, fun ha hne => ?_, fun ha heq => ?_⟩
  · have : s1.items = eraseAll (committedItems s.tree) dead := by
      have hoff : s1 = { s with items := eraseAll s.items dead, dirty := true } := hs1.trans (autoCommit_off _ ha)
      rw [hoff, hitems]
    rw [hunf, this, presentEq_eraseAll_committed s.tree dead i _ (by simp [dead, descendantsAndSelf])]
    rfl
  · rw [hunf, hpres ha, show (s1.texts[i]? == some (s.texts.getD i [])) = false by simpa using hne]
    rfl
  · rw [hunf, hpres ha, show (s1.texts[i]? == some (s.texts.getD i [])) = true by simpa using heq, ← texts_length]
    exact ⟨fun h => by simp [h], fun h => by simp [h]⟩

/-- **The typed-model factory changes no editing call** (`stepF f` for a configuration parsed with `factory=f`): every
operation -- in every input form -- has the outcome and the effect it has without the factory, and so has every
history; everything proved about `step` / `stepX` above holds under `factory=True`.
(Before the repair `fix: ConfigList.insert() passes all_lines to config_line_factory() under factory=True` this was
`factory_insert_refused`: under the factory `ConfigList.insert` was refused with `InvalidParameters`, after the index
check and before the value check, and `append_to_family`, which inserts through it, never changed the list -- finding
F10e.) -/
theorem factory_neutral (f : Bool) (s : S) (op : OpX) (ops : List OpX) :
    stepF f s op = stepX s op ∧ runX f s ops = runX false s ops := by
  refine ⟨rfl, ?_⟩
  induction ops generalizing s with
  | nil => rfl
  | cons o os ih => simp only [runX, stepF]; exact ih _

/-- **`ConfigList.insert` under `factory=True`** -- with a `str` or a line object -- always succeeds and is exactly
`list.insert`: one line added at the normalised position, everything else unchanged and in order (`insert_spec`,
`insertion_frame`); an index that is not an `int` is still a `ValueError`, a value that is no text a `TypeError`. -/
theorem factory_insert_spec (s : S) (k : Int) (t : Str) (v : Arg) (hnf : NoFilter s) :
    (stepF true s (.base (.insert k t))).2 = .ok () ∧
    (stepF true s (.insertA (some k) (.str t))).2 = .ok () ∧
    (stepF true s (.insertA (some k) (.line t))).2 = .ok () ∧
    (stepF true s (.base (.insert k t))).1.texts
      = s.texts.take (insertPos s.texts.length k) ++ t :: s.texts.drop (insertPos s.texts.length k) ∧
    (stepF true s (.insertA (some k) (.str t))).1 = (stepF true s (.base (.insert k t))).1 ∧
    (stepF true s (.insertA (some k) (.line t))).1 = (stepF true s (.base (.insert k t))).1 ∧
    stepF true s (.insertA none v) = (s, .error (.base .valueError)) ∧
    stepF true s (.insertA (some k) .other) = (s, .error .typeError) :=
  ⟨rfl, rfl, rfl, (insert_spec s k t hnf).2, rfl, rfl, rfl, rfl⟩

/-- **`append_to_family` under `factory=True`** (payload a `str` or a line object) is the operation of
`appendToFamily_spec`: whenever it succeeds exactly one line -- the payload after the explicit / auto indentation --
is inserted at the index `appendIndex` computes, all other lines keep text and order; a refused call changes nothing. -/
theorem factory_appendToFamily_spec (s : S) (i : Nat) (txt : Str) (ind : Int) (ai : Bool) (hnf : NoFilter s) :
    stepF true s (.base (.appendToFamily i txt ind ai)) = liftR (step s (.appendToFamily i txt ind ai)) ∧
    stepF true s (.appendToFamilyL i txt ind ai) = liftR (step s (.appendToFamily i txt ind ai)) ∧
    ((stepF true s (.base (.appendToFamily i txt ind ai))).2 = .ok () →
      let txt' := familyText (indentOf s.tree i) s.width txt ind ai
      ∃ idx, appendIndex s.tree s.width i txt' = .ok idx ∧
        (stepF true s (.base (.appendToFamily i txt ind ai))).1.texts
          = s.texts.take (min idx s.texts.length) ++ txt' :: s.texts.drop (min idx s.texts.length)) ∧
    (∀ e, (stepF true s (.base (.appendToFamily i txt ind ai))).2 = .error e →
      (stepF true s (.base (.appendToFamily i txt ind ai))).1 = s) := by
  refine ⟨rfl, rfl, fun hok => ?_, fun e he => ?_⟩
  · have hok' : (step s (.appendToFamily i txt ind ai)).2 = .ok () := by
      have : (liftR (step s (.appendToFamily i txt ind ai))).2 = .ok () := hok
      revert this; simp only [liftR]; split <;> simp_all
    obtain ⟨_, _, _, idx, h4, h5, _⟩ := appendToFamily_spec s i txt ind ai hnf hok'
    exact ⟨idx, h4, h5⟩
  · rcases errorsX_leave_state s (.base (.appendToFamily i txt ind ai)) e he with h | ⟨j, hj, _⟩
    · exact h
    · cases hj

/-- **`classify_family_indent(arg)` called directly** on a line of indent `si`, indent width `w`:
only a `str` is accepted (a line object too is `InvalidParameters`); a text whose indent is no
multiple of the width is `NotImplementedError`; otherwise the answer `k` is the number of indent
levels between the two: `k * w = indent(text) - si` whenever that difference is a multiple of the
width (in general the quotient truncated towards zero). -/
theorem classify_direct (w si : Nat) (t : Str) :
    cfiArg w si (.line t) = .error (.base .invalidParameters) ∧
    cfiArg w si .other = .error (.base .invalidParameters) ∧
    (w = 0 ∨ indent t % w ≠ 0 → cfiArg w si (.str t) = .error (.base .notImplemented)) ∧
    (w ≠ 0 → indent t % w = 0 →
      cfiArg w si (.str t) = .ok (Int.tdiv ((indent t : Int) - si) w) ∧
      (((w : Int) ∣ (indent t : Int) - si) → Int.tdiv ((indent t : Int) - si) w * w = (indent t : Int) - si)) := by
  refine ⟨rfl, rfl, fun h => ?_, fun hw hm => ⟨?_, fun hdvd => ?_⟩⟩
  · simp [cfiArg, cfi_none w si t h]
  · simp [cfiArg, cfi_eq w si t hw hm]
  · exact Int.tdiv_mul_cancel hdvd

/-- **`replace_text` / `re_sub` on a line object that belongs to no configuration** change that
object's text with the same functions as inside a list (`replaceText_spec`, `reSub_spec`). -/
theorem detached_edit (t b a new : Str) :
    detStep t (.replaceText b a) = pyReplace b a t ∧ detStep t (.reSub new) = new := ⟨rfl, rfl⟩

/-! ### non-vacuity of this part -/

/-- line-object payloads on the example config: `insert(1, <line>)`, `insert_after(<line>)` on
line 1, a child appended to line 0 as a line object -/
example : (stepX exOn (.insertA (some 1) (.line "x".toList))).1.texts
      = ["interface Eth1".toList, "x".toList, " ip address 1.1.1.1".toList, "  secondary".toList,
         " shutdown".toList, "interface Eth10".toList] ∧
    (stepX exOn (.objInsAfterA 1 (.line " mtu 9".toList))).1.texts
      = ["interface Eth1".toList, " ip address 1.1.1.1".toList, " mtu 9".toList, "  secondary".toList,
         " shutdown".toList, "interface Eth10".toList] ∧
    (stepX exOn (.appendToFamilyL 0 " mtu 9".toList (-1) false)).1.texts
      = ["interface Eth1".toList, " ip address 1.1.1.1".toList, "  secondary".toList, " shutdown".toList,
         " mtu 9".toList, "interface Eth10".toList] := by
  simp only [exOn, exLines, toList_lit]
  decide +kernel
/-- a foreign line object with the text `Eth1` as pattern matches lines 0 and 4; with an empty text
it matches every line, while the empty `str` pattern is refused -/
example : (stepX exOn (.listInsBeforeA (.line "Eth1".toList) [true, false, false, false, true] (.str "!".toList))).1.texts
      = ["!".toList, "interface Eth1".toList, " ip address 1.1.1.1".toList, "  secondary".toList,
         " shutdown".toList, "!".toList, "interface Eth10".toList] ∧
    ((stepX exOn (.listInsAfterA (.line []) [true, true, true, true, true] (.str "!".toList))).1.texts).length = 10 ∧
    (stepX exOn (.listInsAfterA (.str []) [] (.str "!".toList))).2 = .error (.base .valueError) := by
  simp only [exOn, exLines, toList_lit]
  decide +kernel
/-- `listInsert_line_payload` / `listInsert_blank_line_dropped` under `ignore_blank_lines`: the blank
`str` is refused, the blank line object is accepted and dropped by the commit -/
example : (stepX exIb (.listInsBeforeA (.str "Eth".toList) [true, false, false, false, true] (.str " ".toList))).2
      = .error (.base .invalidParameters) ∧
    (stepX exIb (.listInsBeforeA (.str "Eth".toList) [true, false, false, false, true] (.line " ".toList))).2 = .ok () ∧
    (stepX exIb (.listInsBeforeA (.str "Eth".toList) [true, false, false, false, true] (.line " ".toList))).1.texts
      = exIb.texts := by
  simp only [exIb, exLines, toList_lit]
  decide +kernel
example : isBlank " ".toList = true ∧ isBannerStart " ".toList = false ∧ isMacroStart " ".toList = false := by
  simp only [toList_lit]
  decide +kernel
/-- `malformed_rejected`: the hypothesis `posOf = some p` holds for every line of a committed state -/
example : posOf exOn.items 3 = some 3 ∧
    stepX exOn (.objInsBeforeA 3 .other) = (exOn, .error (.base .notImplemented)) := by
  simp only [exOn, exLines, toList_lit]
  decide +kernel
/-- `remove` of line 1 takes its child with it -/
example : (stepX exOn (.remove (.member 1))).1.texts
      = ["interface Eth1".toList, " shutdown".toList, "interface Eth10".toList] := by
  simp only [exOn, exLines, toList_lit]
  decide +kernel
/-- `deleteTwice_spec`, all four outcomes: on `a, a` the second line moves to number 0 and is deleted
by the second call; on `a, _b, a` the stale child number 1 is past the end (`IndexError`); a handle
whose place is taken by another text, and every handle with auto-commit off, is refused -/
example :
    (stepX (init exCfg true 1 ["a".toList, "a".toList]) (.deleteTwice 0)).1.texts = [] ∧
    (stepX (init exCfg true 1 ["a".toList, "a".toList]) (.deleteTwice 0)).2 = .ok () ∧
    (stepX (init exCfg true 1 ["a".toList, " b".toList, "a".toList]) (.deleteTwice 0)).2
      = .error (.base .indexError) ∧
    (stepX (init exCfg true 1 ["a".toList, " b".toList, "a".toList]) (.deleteTwice 0)).1.texts = ["a".toList] ∧
    (stepX exOn (.deleteTwice 1)).2 = .error (.base .doesNotExist) ∧
    (stepX (init exCfg false 1 ["a".toList, "a".toList]) (.deleteTwice 0)).2 = .error (.base .doesNotExist) ∧
    (stepX (init exCfg false 1 ["a".toList, "a".toList]) (.deleteTwice 0)).1.texts = ["a".toList] := by
  simp only [exOn, exLines, toList_lit]
  decide +kernel
example : FreshInv exOn ∧ exOn.dirty = false := ⟨init_fresh _ _ _ _, rfl⟩
/-- `factory_insert_spec` / `factory_appendToFamily_spec` on the example config (`NoFilter exOn` holds, see above):
under `factory=True` `insert(1, "x")` and a child appended to line 0 do what they do without the factory (before the
repair of F10e both were refused with `InvalidParameters` and the list stayed as it was) -/
example : (stepF true exOn (.base (.insert 1 "x".toList))).2 = .ok () ∧
    (stepF true exOn (.base (.insert 1 "x".toList))).1.texts
      = ["interface Eth1".toList, "x".toList, " ip address 1.1.1.1".toList, "  secondary".toList,
         " shutdown".toList, "interface Eth10".toList] ∧
    (stepF true exOn (.base (.appendToFamily 0 " mtu 9".toList (-1) false))).2 = .ok () ∧
    (stepF true exOn (.appendToFamilyL 0 " mtu 9".toList (-1) false)).1.texts
      = ["interface Eth1".toList, " ip address 1.1.1.1".toList, "  secondary".toList, " shutdown".toList,
         " mtu 9".toList, "interface Eth10".toList] ∧
    stepF true exOn (.base (.appendToFamily 0 " mtu 9".toList 1 true)) = (exOn, .error (.base .notImplemented)) := by
  simp only [exOn, exLines, toList_lit]
  decide +kernel
/-- `classify_direct`: from a line of indent 1, width 1: three levels deeper, one level shallower;
width 2: an odd indent is refused, 4 against 2 is one level -/
example : cfiArg 1 1 (.str "    x".toList) = .ok 3 ∧ cfiArg 1 1 (.str "x".toList) = .ok (-1) ∧
    cfiArg 2 2 (.str "   x".toList) = .error (.base .notImplemented) ∧ cfiArg 2 2 (.str "    x".toList) = .ok 1 ∧
    cfiArg 1 1 (.line "x".toList) = .error (.base .invalidParameters) := ⟨rfl, rfl, rfl, rfl, rfl⟩

end Ccp.C06
