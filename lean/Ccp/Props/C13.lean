import Ccp.Proofs.IPVal
import Ccp.Proofs.IPValX
import Ccp.Proofs.Py
/-!
# C13 — address objects obey ordering, equality, hashing and arithmetic laws

`lt/gt/eq/ne/hash/add/sub/setLen/setOffset/getOffset` are `__lt__`, `__gt__`, `__eq__`,
`__ne__`, `__hash__`, `__add__`, `__sub__`, the `prefixlen` setter and the `network_offset`
setter / getter of `IPv4Obj` and `IPv6Obj` (the two classes share this logic; the family
constants are the parameter `f`).  `Valid f x` is the class invariant.  Helper lemmas live in
`Ccp.Proofs.IPVal` and `Ccp.Proofs.IPValX`; the facts about decimal texts are those of `Ccp.Proofs.Py`.
-/
namespace Ccp.C13
open Ccp.IPVal

/-- `__lt__` is the lexicographic order on `(network number, prefix length, host address)` -/
theorem lt_is_lex (x y : Obj) :
    lt x y = true ↔
      x.net < y.net ∨ (x.net = y.net ∧ (x.len < y.len ∨ (x.len = y.len ∧ x.ip < y.ip))) :=
  lt_iff_lex x y

/-- **strict total order**: irreflexive, asymmetric, transitive, and for objects satisfying the
class invariant exactly one of `x < y`, `x == y`, `y < x` holds -/
theorem lt_strict_total (f : Fam) :
    (∀ x : Obj, lt x x = false) ∧
    (∀ x y : Obj, lt x y = true → lt y x = false) ∧
    (∀ x y z : Obj, lt x y = true → lt y z = true → lt x z = true) ∧
    (∀ x y : Obj, Valid f x → Valid f y →
      (lt x y = true ∧ eq x y = false ∧ lt y x = false) ∨
      (lt x y = false ∧ eq x y = true ∧ lt y x = false) ∨
      (lt x y = false ∧ eq x y = false ∧ lt y x = true)) := by
  simp only [lt_iff_lex, lt_false_iff]
  refine ⟨lex_irrefl, lex_asymm, lex_trans, fun x y vx vy => ?_⟩
  -- `==` is equality of valid objects, and a strict order never relates equal ones
  simp only [← Bool.not_eq_true, eq_iff_same f x y vx vy]
  rcases lex_tri x y with h | ⟨h1, h2, h3⟩ | h
  · exact .inl ⟨h, fun e => lex_irrefl y (e ▸ h), lex_asymm x y h⟩
  · have e : x = y := by cases x; cases y; simp only at h1 h2 h3; rw [h1, h2, h3]
    exact .inr (.inl ⟨e ▸ lex_irrefl x, e, e ▸ lex_irrefl x⟩)
  · exact .inr (.inr ⟨lex_asymm y x h, fun e => lex_irrefl y (e ▸ h), h⟩)

/-- `__gt__` is `__lt__` with the operands exchanged -/
theorem gt_is_flip (x y : Obj) : gt x y = lt y x := gt_eq_lt_flip x y

/-- `__eq__`: same address and same prefix length (for valid objects: the same object);
`__ne__` is its negation -/
theorem eq_iff (f : Fam) (x y : Obj) :
    (eq x y = true ↔ x.ip = y.ip ∧ x.len = y.len) ∧
    (Valid f x → Valid f y → (eq x y = true ↔ x = y)) ∧
    ne x y = !(eq x y) :=
  ⟨eq_iff_fields x y, fun vx vy => eq_iff_same f x y vx vy, rfl⟩

/-- equal objects hash equal, whatever the string hash and the address rendering are -/
theorem eq_hash (H : Py.Str → Int) (render : Nat → Py.Str) (x y : Obj) (h : eq x y = true) :
    IPVal.hash H render x = IPVal.hash H render y := by
  obtain ⟨h1, h2⟩ := (eq_iff_fields x y).mp h
  unfold IPVal.hash; rw [h1, h2]

/-- **sorting**: `sorted(objs)` is a permutation of `objs` in which no element is less than an
earlier one; an object inside another one (C12) with a strictly longer prefix compares greater,
so more specific prefixes come after less specific ones -/
theorem sort_specific_after (f : Fam) :
    (∀ l : List Obj, (sorted l).Perm l ∧ (sorted l).Pairwise (fun a b => lt b a = false)) ∧
    (∀ y x : Obj, Valid f y → Valid f x → contains4 f y x = true → y.len < x.len →
      lt y x = true ∧ gt x y = true) := by
  constructor
  · -- `mergeSort` wants `fun a b => !(lt b a)` transitive and total
    refine fun l => ⟨List.mergeSort_perm l _, ?_⟩
    have := List.pairwise_mergeSort (le := fun a b => !(lt b a))
      (fun a b c => by
        simp only [Bool.not_eq_eq_eq_not, Bool.not_true, lt_false_iff]
        exact fun h1 h2 h => (lex_negtrans c b a h).elim h2 h1)
      (fun a b => by
        simp only [Bool.or_eq_true, Bool.not_eq_eq_eq_not, Bool.not_true, lt_false_iff]
        exact (Classical.em (LexLt b a)).symm.imp_right (lex_asymm b a)) l
    exact this.imp fun h => by simpa using h
  · intro y x vy vx hc hl
    have := (lt_iff_lex y x).mpr (specific_after f y x vy vx ((contains4_iff_prefix f y x vy vx).mp hc) hl)
    exact ⟨this, (gt_eq_lt_flip x y).trans this⟩

/-- the longest-match idiom of the class docstring: walking a list in descending order
(`sorted(..., reverse=True)`), the first route containing `x` has the longest prefix among all
routes containing `x` -/
theorem longest_match_first (f : Fam) (rt : List Obj) (x r : Obj)
    (hv : ∀ q ∈ rt, Valid f q) (vx : Valid f x)
    (hs : rt.Pairwise (fun a b => lt a b = false))
    (hf : rt.find? (fun q => contains4 f q x) = some r) :
    ∀ r' ∈ rt, contains4 f r' x = true → r'.len ≤ r.len := by
  induction rt with
  | nil => simp at hf
  | cons a t ih =>
    rw [List.pairwise_cons] at hs
    intro r' hr' hc'
    by_cases ha : contains4 f a x = true
    · simp only [List.find?_cons, ha, Option.some.injEq] at hf
      subst hf
      rcases List.mem_cons.mp hr' with rfl | hmem
      · exact Nat.le_refl _
      · -- a longer `r'` containing `x` would lie inside `a`, hence sort after it
        refine Nat.le_of_not_lt fun hlt => (lt_false_iff a r').mp (hs.1 r' hmem) ?_
        have va := hv a (List.mem_cons_self ..)
        have vr' := hv r' hr'
        exact specific_after f a r' va vr' (nested_of_common f a r' x
          ((contains4_iff_prefix f a x va vx).mp ha) ((contains4_iff_prefix f r' x vr' vx).mp hc')
          (Nat.le_of_lt hlt)) hlt
    · simp only [List.find?_cons, Bool.eq_false_iff.mpr ha] at hf
      rcases List.mem_cons.mp hr' with rfl | hmem
      · exact absurd hc' ha
      · exact ih (fun q hq => hv q (List.mem_cons_of_mem _ hq)) hs.2 hf r' hmem hc'

/-- `x + n` and `x - n` succeed exactly when the result is an address (`0 … MAXINT`); the result
has that address, the same prefix length, and satisfies the invariant.  Outside: `RequirementFailure`
(`add_overflow_raises`, `sub_underflow_raises` are the two `¬` cases). -/
theorem add_sub_spec (f : Fam) (ok : f.Ok) (x : Obj) (n : Int) (vx : Valid f x) :
    (0 ≤ (x.ip : Int) + n ∧ (x.ip : Int) + n ≤ 2 ^ f.w - 1 →
      add f x n = .ok (ofIpLen f ((x.ip : Int) + n).toNat x.len)) ∧
    (¬ (0 ≤ (x.ip : Int) + n ∧ (x.ip : Int) + n ≤ 2 ^ f.w - 1) →
      add f x n = .error .requirementFailure) ∧
    (0 ≤ (x.ip : Int) - n ∧ (x.ip : Int) - n ≤ 2 ^ f.w - 1 →
      sub f x n = .ok (ofIpLen f ((x.ip : Int) - n).toNat x.len)) ∧
    (¬ (0 ≤ (x.ip : Int) - n ∧ (x.ip : Int) - n ≤ 2 ^ f.w - 1) →
      sub f x n = .error .requirementFailure) := by
  have hm : (f.maxInt : Int) = 2 ^ f.w - 1 := by
    rw [ok.maxInt_eq, Int.natCast_sub (Nat.two_pow_pos _), Int.natCast_pow]; rfl
  have a := add_eq f x n vx.len_le
  have s := add_eq f x (-n) vx.len_le
  rw [← sub_eq_add_neg, ← Int.sub_eq_add_neg] at s
  rw [hm] at a s
  exact ⟨fun h => a.trans (if_pos h), fun h => a.trans (if_neg h),
    fun h => s.trans (if_pos h), fun h => s.trans (if_neg h)⟩

theorem add_overflow_raises (f : Fam) (ok : f.Ok) (x : Obj) (n : Int) (vx : Valid f x)
    (h : (x.ip : Int) + n > 2 ^ f.w - 1 ∨ (x.ip : Int) + n < 0) :
    add f x n = .error .requirementFailure :=
  (add_sub_spec f ok x n vx).2.1 fun ⟨h0, h1⟩ => h.elim (Int.not_lt.mpr h1) (Int.not_lt.mpr h0)

theorem sub_underflow_raises (f : Fam) (ok : f.Ok) (x : Obj) (n : Int) (vx : Valid f x)
    (h : (x.ip : Int) - n < 0 ∨ (x.ip : Int) - n > 2 ^ f.w - 1) :
    sub f x n = .error .requirementFailure :=
  (add_sub_spec f ok x n vx).2.2.2 fun ⟨h0, h1⟩ => h.elim (Int.not_lt.mpr h0) (Int.not_lt.mpr h1)

/-- adding and then subtracting the same integer gives back the object; the prefix length never
changes and the intermediate object satisfies the invariant -/
theorem add_sub_cancel (f : Fam) (ok : f.Ok) (x y : Obj) (n : Int) (vx : Valid f x)
    (h : add f x n = .ok y) : sub f y n = .ok x ∧ y.len = x.len ∧ Valid f y := by
  rw [add_eq f x n vx.len_le] at h
  split at h
  · next hr =>
    cases h
    obtain ⟨m, hm⟩ := Int.eq_ofNat_of_zero_le hr.1
    have hip : (x.ip : Int) ≤ f.maxInt := Int.ofNat_le.mpr (ok.le_maxInt_iff.mpr vx.ip_lt)
    rw [hm] at hr ⊢
    rw [Int.toNat_natCast]
    refine ⟨?_, rfl, valid_ofIpLen f m _ (ok.le_maxInt_iff.mp (Int.ofNat_le.mp hr.2)) vx.len_le⟩
    -- on the way back `m - n` is `x.ip` again, in range since `x` is valid, with `x`'s own length
    rw [sub_eq_add_neg, add_eq f (ofIpLen f m x.len) _ vx.len_le]
    show (if 0 ≤ (m : Int) + -n ∧ (m : Int) + -n ≤ f.maxInt
      then Except.ok (ofIpLen f ((m : Int) + -n).toNat x.len) else _) = _
    rw [← hm, Int.add_neg_cancel_right, if_pos ⟨Int.natCast_nonneg _, hip⟩, Int.toNat_natCast, vx.eq_ofIpLen]
  · cases h

/-- the `prefixlen` setter keeps the host address, sets the length, re-establishes the invariant;
outside `0 … w` it raises `NetmaskValueError` (and nothing is assigned) -/
theorem set_len_keeps_ip (f : Fam) (x : Obj) (arg : Int) (hip : x.ip < 2 ^ f.w) :
    (0 ≤ arg ∧ arg ≤ (f.w : Int) →
      ∃ y, setLen f x arg = .ok y ∧ y.ip = x.ip ∧ (y.len : Int) = arg ∧ Valid f y) ∧
    (¬ (0 ≤ arg ∧ arg ≤ (f.w : Int)) → setLen f x arg = .error .netmaskValueError) := by
  refine ⟨fun h => ⟨_, if_pos h, rfl, Int.toNat_of_nonneg h.1,
    valid_ofIpLen f _ _ hip (Int.toNat_le.mpr h.2)⟩, fun h => if_neg h⟩

/-- the `network_offset` setter, for every integer `k`: accepted iff `0 ≤ k` and `k` does not
exceed the last address of the network; then the host address becomes `network + k`, network and
prefix length are unchanged and the invariant holds; otherwise (negative, or past the last
address) `AddressValueError` and nothing is assigned. -/
theorem set_offset_sets_ip (f : Fam) (x : Obj) (vx : Valid f x) (k : Int) :
    (0 ≤ k ∧ k ≤ (asDecimalBroadcast f x : Int) - (x.net : Int) →
      ∃ y, setOffset f x k = .ok y ∧ (y.ip : Int) = (x.net : Int) + k ∧ y.net = x.net ∧
        y.len = x.len ∧ Valid f y) ∧
    (¬ (0 ≤ k ∧ k ≤ (asDecimalBroadcast f x : Int) - (x.net : Int)) →
      setOffset f x k = .error .addressValueError) := by
  refine ⟨fun h => ?_, fun h => if_neg h⟩
  obtain ⟨n, rfl⟩ := Int.eq_ofNat_of_zero_le h.1
  have hin : InNet f x (x.net + n) := ⟨Nat.le_add_right .., by have := h.2; omega⟩
  have vy := valid_of_inNet f x vx _ hin
  refine ⟨{ x with ip := x.net + n }, ?_, Int.natCast_add .., rfl, rfl, vy⟩
  have hle : 0 ≤ (asDecimalNetwork x : Int) + n ∧ (asDecimalNetwork x : Int) + n ≤ (allOnes f : Nat) :=
    ⟨Int.natCast_nonneg (x.net + n), Int.ofNat_le.mpr (Nat.le_sub_one_of_lt vy.ip_lt)⟩
  unfold setOffset addressOfInt
  refine (if_pos h).trans ?_
  rw [if_pos hle]
  rfl

/-- the `network_offset` getter returns `ip - network`, except that it raises `RequirementFailure`
on the last address of a network of four or more addresses -/
theorem get_offset_spec (f : Fam) (ok : f.Ok) (x : Obj) (vx : Valid f x) :
    getOffset f x =
      if x.len + 2 ≤ f.w ∧ x.ip = asDecimalBroadcast f x then .error .requirementFailure
      else .ok ((x.ip : Int) - (x.net : Int)) := by
  have hin : InNet f x x.ip := (inNet_iff f x vx _).mpr rfl
  unfold InNet asDecimalBroadcast at hin
  unfold getOffset asDecimalBroadcast
  rw [numhosts_spec f ok x vx.len_le]
  simp only [bind, Except.bind, asDecimal, asDecimalNetwork]
  by_cases h1 : x.len + 2 ≤ f.w
  · -- `numhosts` is the block size less two: only the last address exceeds it
    have h4 : 2 ^ 2 ≤ 2 ^ (f.w - x.len) := Nat.pow_le_pow_right (by decide) (Nat.le_sub_of_add_le' h1)
    rw [if_pos h1]
    exact ite_congr (propext (by omega)) (fun _ => rfl) (fun _ => rfl)
  · -- one or two addresses, and `numhosts` is at least one: the offset never exceeds it
    have h2 : 2 ^ (f.w - x.len) ≤ 2 ^ 1 := Nat.pow_le_pow_right (by decide) (by omega)
    have h3 : 1 ≤ (if x.len + 1 = f.w then 2 else 1) := by split <;> decide
    rw [if_neg h1, if_neg (show ¬ (_ ∧ _) from fun h => h1 h.1)]
    generalize (if x.len + 1 = f.w then 2 else 1) = nh at h3 ⊢
    exact if_neg (by omega)

/-- every way of obtaining an object establishes or preserves the class invariant -/
theorem invariant_preserved (f : Fam) (ok : f.Ok) :
    (∀ ip len, ip < 2 ^ f.w → len ≤ f.w → Valid f (ofIpLen f ip len)) ∧
    (∀ n y, ofInt f n = .ok y → Valid f y) ∧
    (∀ x n y, Valid f x → add f x n = .ok y → Valid f y) ∧
    (∀ x n y, Valid f x → sub f x n = .ok y → Valid f y) ∧
    (∀ x l y, Valid f x → setLen f x l = .ok y → Valid f y) ∧
    (∀ x (k : Int) y, Valid f x → setOffset f x k = .ok y → Valid f y) := by
  refine ⟨valid_ofIpLen f, ?_, ?_, ?_, ?_, ?_⟩
  · intro n y h
    unfold ofInt at h
    split at h
    · next hr =>
      cases h
      exact valid_ofIpLen f _ _ (ok.le_maxInt_iff.mp (Int.toNat_le.mpr hr.2)) (Nat.le_refl _)
    · cases h
  · intro x n y vx h; exact (add_sub_cancel f ok x y n vx h).2.2
  · intro x n y vx h; exact (add_sub_cancel f ok x y (-n) vx h).2.2
  · intro x l y vx h
    unfold setLen at h
    split at h
    · next hr => cases h; exact valid_ofIpLen f _ _ vx.ip_lt (Int.toNat_le.mpr hr.2)
    · cases h
  · intro x k y vx h
    by_cases hk : 0 ≤ k ∧ k ≤ (asDecimalBroadcast f x : Int) - (x.net : Int)
    · obtain ⟨y', hy, _, _, _, vy⟩ := (set_offset_sets_ip f x vx k).1 hk
      rw [hy] at h; cases h; exact vy
    · rw [(set_offset_sets_ip f x vx k).2 hk] at h; cases h

/-- the family constants of the generated tables satisfy what the proofs assume -/
theorem families_ok : v4.Ok ∧ v6.Ok ∧ v4.w = 32 ∧ v6.w = 128 := ⟨v4_ok, v6_ok, by decide, by decide⟩

-- non-vacuity
-- same network, different prefix lengths and hosts: 10.0.0.0/8 < 10.0.0.0/24 < 10.0.0.5/24
example : lt (ofIpLen v4 0x0a000000 8) (ofIpLen v4 0x0a000000 24) = true
    ∧ lt (ofIpLen v4 0x0a000000 24) (ofIpLen v4 0x0a000005 24) = true := by decide +kernel
example : Valid v4 (ofIpLen v4 0x0a000005 24) := by decide +kernel
-- F18 input: 255.255.255.255 - 0 is the maximum address
example : sub v4 (ofIpLen v4 0xffffffff 32) 0 = .ok (ofIpLen v4 0xffffffff 32) := by decide +kernel
example : add v4 (ofIpLen v4 0xffffffff 32) 1 = .error .requirementFailure := by decide +kernel
example : add v4 (ofIpLen v4 0x0a000005 24) 251 = .ok (ofIpLen v4 0x0a000100 24) := by decide +kernel
example : (add v6 (ofIpLen v6 5 64) (-5)).toOption = some (ofIpLen v6 0 64) := by decide +kernel
example : sub v6 (ofIpLen v6 5 64) 6 = .error .requirementFailure := by decide +kernel
example : setLen v4 (ofIpLen v4 0x0a000005 24) 33 = .error .netmaskValueError := by decide +kernel
example : setLen v4 (ofIpLen v4 0x0a000005 24) 16 = .ok (ofIpLen v4 0x0a000005 16) := by decide +kernel
example : setOffset v4 (ofIpLen v4 0x0a000005 24) 255 = .ok (ofIpLen v4 0x0a0000ff 24) := by decide +kernel
example : setOffset v4 (ofIpLen v4 0x0a000005 24) 256 = .error .addressValueError := by decide +kernel
-- F41 input (repaired): 10.0.0.5/24 with `network_offset = -1` is rejected
example : setOffset v4 (ofIpLen v4 0x0a000005 24) (-1) = .error .addressValueError := by decide +kernel
example : getOffset v4 (ofIpLen v4 0x0a0000ff 24) = .error .requirementFailure := by decide +kernel
example : getOffset v4 (ofIpLen v4 0x0a0000fe 24) = .ok 254 := by decide +kernel

/-! ## The other operands, setter names and argument types

`ltX / gtX / eqX / neX self val` are the operators for any two operands (`Ccp.Model.IPValX`): a non-empty
object of either family, the empty object `IPv4Obj()` / `IPv6Obj()`, or a `str`; the answer is a truth
value or the exception class that escapes.  `setLenBy / setLenStr / setOffsetStr` are the setters under
their four names and with `str` arguments. -/

open Ccp.IPValX in
/-- **on two non-empty objects the general operators are the ones of the theorems above** — for `<`, `>`,
`==` also across the two families (the comparison is numeric on (network, length, address)); `!=` is the
negation of `==` within a family.  (`IPv4Obj != IPv6Obj` is `True` whatever `==` says: `__ne__` answers
`True` for every operand that is not an `IPv4Obj`.) -/
theorem opsX_on_objects (a b : Arg) (x y : Obj) (ha : objOf a = some x) (hb : objOf b = some y) :
    ltX a b = some (.ok (lt x y)) ∧ gtX a b = some (.ok (gt x y)) ∧ eqX a b = some (.ok (eq x y)) ∧
    (neX (.obj4 x) (.obj4 y) = some (.ok (ne x y)) ∧ neX (.obj6 x) (.obj6 y) = some (.ok (ne x y)) ∧
     neX (.obj6 x) (.obj4 y) = some (.ok (ne x y)) ∧ neX (.obj4 x) (.obj6 y) = some (.ok true)) := by
  rcases objOf_eq_some ha with rfl | rfl <;> rcases objOf_eq_some hb with rfl | rfl <;>
    exact ⟨rfl, rfl, rfl, rfl, rfl, rfl, rfl⟩

open Ccp.IPValX in
/-- **ordering an empty object or a `str` raises**: `<` and `>` raise `ValueError` as soon as one operand is
an empty object or no address object at all -/
theorem ordering_rejects (a b : Arg) (ha : a ≠ .other) (h : objOf a = none ∨ objOf b = none) :
    ltX a b = some (.error .valueError) ∧ gtX a b = some (.error .valueError) := by
  unfold ltX gtX
  rw [if_neg ha, if_neg ha]
  rcases h with h | h
  · rw [h]; exact ⟨rfl, rfl⟩
  · rw [h]; cases objOf a <;> exact ⟨rfl, rfl⟩

open Ccp.IPValX in
/-- **equality with empty objects, per family**: two empty objects are equal, an empty and a non-empty one
are not (in either order), `!=` is the negation, nothing raises -/
theorem eqX_empty (x : Obj) :
    (eqX .empty4 .empty4 = some (.ok true) ∧ eqX .empty4 (.obj4 x) = some (.ok false) ∧
      eqX (.obj4 x) .empty4 = some (.ok false)) ∧
    (neX .empty4 .empty4 = some (.ok false) ∧ neX .empty4 (.obj4 x) = some (.ok true) ∧
      neX (.obj4 x) .empty4 = some (.ok true)) ∧
    (eqX .empty6 .empty6 = some (.ok true) ∧ eqX .empty6 (.obj6 x) = some (.ok false) ∧
      eqX (.obj6 x) .empty6 = some (.ok false)) ∧
    (neX .empty6 .empty6 = some (.ok false) ∧ neX .empty6 (.obj6 x) = some (.ok true) ∧
      neX (.obj6 x) .empty6 = some (.ok true)) :=
  ⟨⟨rfl, rfl, rfl⟩, ⟨rfl, rfl, rfl⟩, ⟨rfl, rfl, rfl⟩, ⟨rfl, rfl, rfl⟩⟩

open Ccp.IPValX in
/-- **a `str` is never equal to a non-empty object** (`==` is `False`, `!=` is `True`, no exception) -/
theorem eqX_str (x : Obj) :
    eqX (.obj4 x) .other = some (.ok false) ∧ neX (.obj4 x) .other = some (.ok true) ∧
    eqX (.obj6 x) .other = some (.ok false) ∧ neX (.obj6 x) .other = some (.ok true) :=
  ⟨rfl, rfl, rfl, rfl⟩

open Ccp.IPValX in
/-- **`hash()`, `int()`, `__index__()` and the four names of the prefix length** on a non-empty object:
`hash` returns, `int` is the address, `prefixlen = masklen = masklength = prefixlength` -/
theorem unary_on_objects (a : Arg) (x : Obj) (ha : objOf a = some x) (name : LenName) :
    hashX a = some (.ok ()) ∧ intX a = some (.ok x.ip) ∧ getLenX name a = some (.ok (some x.len)) := by
  rcases objOf_eq_some ha with rfl | rfl <;> exact ⟨rfl, rfl, rfl⟩

open Ccp.IPValX in
/-- **the other names of the setter**: `masklen`, `masklength` and (IPv4) `prefixlength` assign exactly as
`prefixlen` does — so `set_len_keeps_ip` holds for them: the address is kept, the length set, the invariant
re-established, anything outside `0 … w` raises `NetmaskValueError`.  `IPv6Obj.prefixlength` has no setter:
`AttributeError`, nothing assigned. -/
theorem alias_setters (fam : Nat) (name : LenName) (x : Obj) (arg : Int)
    (h : ¬ (name = .prefixlength ∧ fam = 6)) :
    setLenBy fam name x arg = liftE (setLen (famOfNat fam) x arg) ∧
    setLenBy 6 .prefixlength x arg = .error .attributeError := by
  simp [setLenBy, h]

open Ccp.IPValX in
/-- **`str` arguments**: assigning the decimal text of `n` to a length setter is assigning `n`; assigning
the decimal text of an integer `k` (negative ones included) to `network_offset` is assigning `k` — so
`set_len_keeps_ip` / `set_offset_sets_ip` cover these spellings. -/
theorem str_arguments (fam : Nat) (name : LenName) (x : Obj) (n : Nat) (k : Int) :
    setLenStr fam name x (Py.toDec n) = setLenBy fam name x (n : Int) ∧
    setOffsetStr fam x (Py.intToDec k) = liftE (setOffset (famOfNat fam) x k) := by
  constructor
  · unfold setLenStr setLenBy
    split
    · rfl
    · simp [List.all_eq_true.mpr (Py.toDec_digits n), Py.ofDigits_toDec]
  · simp [setOffsetStr, Py.pyInt_intToDec]

open Ccp.IPValX in
/-- **what the setters and operators reject by type**: a text that is not all digits is no prefix length
(`NetmaskValueError`), a text that is no integer literal is no offset (`ValueError`), a `float` offset
raises `NotImplementedError`, a non-`int` operand of `+` / `-` raises `ValueError` -/
theorem type_rejections (fam : Nat) (name : LenName) (x : Obj) (t : Py.Str)
    (hn : ¬ (name = .prefixlength ∧ fam = 6)) :
    (t.all Py.isDigit = false → setLenStr fam name x t = .error (.base .netmaskValueError)) ∧
    (Py.pyInt t = none → setOffsetStr fam x t = .error .valueError) ∧
    setOffsetOther = .error (.base .notImplemented) ∧ arithNonInt = .error .valueError := by
  refine ⟨fun h => ?_, fun h => ?_, rfl, rfl⟩
  · simp [setLenStr, hn, h]
  · simp [setOffsetStr, h]

-- non-vacuity: across families `==` is numeric and `!=` from the IPv4 side is always true; ordering an empty object raises;
-- hash(IPv6Obj()) raises while hash(IPv4Obj()) returns; a leading zero, a sign, a blank
open Ccp.IPValX in
example : eqX (.obj4 (ofIpLen v4 1 8)) (.obj6 (ofIpLen v6 1 8)) = some (.ok true) ∧
    neX (.obj4 (ofIpLen v4 1 8)) (.obj6 (ofIpLen v6 1 8)) = some (.ok true) ∧
    ltX .empty4 (.obj4 (ofIpLen v4 1 8)) = some (.error .valueError) ∧
    eqX (.obj6 (ofIpLen v6 1 8)) .empty4 = some (.error .valueError) ∧
    eqX .empty4 (.obj6 (ofIpLen v6 1 8)) = some (.error .attributeError) ∧
    hashX .empty6 = some (.error .attributeError) ∧ hashX .empty4 = some (.ok ()) := by decide +kernel
open Ccp.IPValX in
example : setLenStr 4 .masklen (ofIpLen v4 0x0a000005 24) "016".toList = .ok (ofIpLen v4 0x0a000005 16) ∧
    setLenStr 4 .masklen (ofIpLen v4 0x0a000005 24) "+16".toList = .error (.base .netmaskValueError) ∧
    setLenStr 6 .prefixlength (ofIpLen v6 5 64) "16".toList = .error .attributeError ∧
    setOffsetStr 4 (ofIpLen v4 0x0a000005 24) " 7 ".toList = .ok (ofIpLen v4 0x0a000007 24) ∧
    setOffsetStr 4 (ofIpLen v4 0x0a000005 24) "-1".toList = .error (.base .addressValueError) ∧
    setOffsetStr 4 (ofIpLen v4 0x0a000005 24) "x".toList = .error .valueError := by decide +kernel

end Ccp.C13
