import Ccp.Proofs.Search
import Ccp.Proofs.SearchForms
import Ccp.Proofs.ExceptEq
/-!
# C04 — searches return exactly the matching lines, ordered and de-duplicated

Property theorems only; the specification (`IsChain`, `chains`, `Desc`, `Below`, `padded`,
`Forest`) and the helper lemmas live in `Ccp.Proofs.Search`.

Every theorem is for all trees `t` (any texts, any parent function — no well-formedness is
needed unless `Forest t` is listed) and all oracle rows (`hit r i` = "regex r matches line i",
computed by Python's `re` in the correspondence runs).  `Forest t` (`parentOf t i ≤ i`) is
needed exactly where `all_children` is involved (`recurse := true`).

What `chains` means is fixed by `mem_chains` (membership = `IsChain`) and `chains_sorted`
(strictly ascending in the lexicographic order of line numbers), restated here.
-/
namespace Ccp.C04
open Ccp.Tree Ccp.Search Ccp.SearchForms

/-- `chains t rs` holds exactly the tuples (c₀,…,c_k) with `c₀` a line matching row 0 and each
next element a direct child of the previous one matching its row … -/
theorem chains_mem (t : T) (rs : List Row) (cs : List Nat) : cs ∈ chains t rs ↔ IsChain t rs cs :=
  mem_chains t rs cs

/-- … in strictly ascending lexicographic order (hence without duplicates) -/
theorem chains_ordered (t : T) (rs : List Row) :
    (chains t rs).Pairwise (· < ·) ∧ (chains t rs).Nodup :=
  ⟨chains_sorted t rs, (chains_sorted t rs).imp fun {a b} h (e : a = b) => List.lt_irrefl b (e ▸ h)⟩

/-- `find_objects` returns the ascending list of the matching lines, reversed on request;
never a duplicate, never a line outside the config. -/
theorem findObjects_spec (t : T) (r : Row) :
    (findObjects t r false).Pairwise (· < ·) ∧
    (∀ i, i ∈ findObjects t r false ↔ i < t.size ∧ hit r i = true) ∧
    findObjects t r true = (findObjects t r false).reverse ∧
    (∀ rev, (findObjects t r rev).Nodup) ∧
    (∀ rev i, i ∈ findObjects t r rev → i < t.size ∧ hit r i = true) := by
  have hs : (findObjects t r false).Pairwise (· < ·) := findLineObj_sorted t r
  refine ⟨hs, mem_findObjects t r false, rfl, fun rev => ?_, fun rev i => (mem_findObjects t r rev i).mp⟩
  cases rev
  · exact sorted_nodup hs
  · exact List.pairwise_reverse.mpr ((sorted_nodup hs).imp Ne.symm)

/-- the list form of `find_objects` takes exactly one expression -/
theorem findObjects_list_spec (t : T) (rs : List Row) (rev : Bool) :
    findObjectsList t rs rev =
      match rs with
      | [r] => .ok (findObjects t r rev)
      | _ => .error .invalidParameters := by
  unfold findObjectsList; rfl

/-- **Branch growth = chain enumeration.**  For at least two expressions,
`find_object_branches(empty_branches=False)` returns exactly the chains of direct
parent→child lines matching expression i at depth i, in lexicographic order of line numbers,
reversed on request.  (An off-by-one in the growth loop, a lost fork or a wrong `None` filter
breaks the proof of `findObjectBranches_eq`.) -/
theorem branches_eq_chains (t : T) (rs : List Row) (h : 2 ≤ rs.length) (rev : Bool) :
    findObjectBranches t rs false rev =
      .ok (if rev then ((chains t rs).map (·.map some)).reverse else (chains t rs).map (·.map some)) :=
  findObjectBranches_eq t h false rev

/-- with `empty_branches=True` the result is the list of maximal partial chains padded with
`None` (`padded`), reversed on request -/
theorem branches_padded_spec (t : T) (rs : List Row) (h : 2 ≤ rs.length) (rev : Bool) :
    findObjectBranches t rs true rev =
      .ok (if rev then (padded t rs).reverse else padded t rs) :=
  findObjectBranches_eq t h true rev

/-- the two results are consistent: dropping the rows that contain a `None` from the padded
list leaves the chains -/
theorem padded_complete_rows (t : T) (rs : List Row) (h : 2 ≤ rs.length) :
    (padded t rs).filter (fun b => !hasNone b) = (chains t rs).map (·.map some) := by
  have _ := h  -- not needed: this holds for any number of expressions
  exact padded_complete t rs

/-- fewer than two expressions are refused -/
theorem branches_too_short (t : T) (rs : List Row) (h : rs.length < 2) (e rev : Bool) :
    findObjectBranches t rs e rev = .error .valueError := by
  match rs, h with
  | [], _ => rfl
  | [_], _ => rfl

/-- `find_parent_objects([r0, r1, …], reverse)` = ascending duplicate-free list of the first
components of the chains, reversed on request -/
theorem findParent_list_spec (t : T) (rs : List Row) (h : 2 ≤ rs.length) :
    ∃ l, findParentObjectsList t rs false = .ok l ∧ l.Pairwise (· < ·) ∧ l.Nodup ∧
      (∀ i, i ∈ l ↔ ∃ cs ∈ chains t rs, cs.head? = some i) ∧
      findParentObjectsList t rs true = .ok l.reverse :=
  ⟨_, findParentObjectsList_eq t h false, sortDedup_sorted _, sorted_nodup (sortDedup_sorted _),
    fun i => (mem_sortDedup _ i).trans List.mem_filterMap, findParentObjectsList_eq t h true⟩

/-- `find_child_objects([r0, r1, …], reverse)` = ascending duplicate-free list of the last
components of the chains, reversed on request -/
theorem findChild_list_spec (t : T) (rs : List Row) (h : 2 ≤ rs.length) :
    ∃ l, findChildObjectsList t rs false = .ok l ∧ l.Pairwise (· < ·) ∧ l.Nodup ∧
      (∀ i, i ∈ l ↔ ∃ cs ∈ chains t rs, cs.getLast? = some i) ∧
      findChildObjectsList t rs true = .ok l.reverse :=
  ⟨_, findChildObjectsList_eq t h false, sortDedup_sorted _, sorted_nodup (sortDedup_sorted _),
    fun i => (mem_sortDedup _ i).trans List.mem_filterMap, findChildObjectsList_eq t h true⟩

/-- a list of one expression is `find_objects` with the same `reverse` (a chain of length 1 is a
matching line); the empty list is refused -/
theorem list_form_short (t : T) (r : Row) (rev : Bool) :
    findParentObjectsList t [r] rev = .ok (findObjects t r rev) ∧
    findChildObjectsList t [r] rev = .ok (findObjects t r rev) ∧
    findParentObjectsList t [] rev = .error .valueError ∧
    findChildObjectsList t [] rev = .error .valueError :=
  ⟨rfl, rfl, rfl, rfl⟩

/-- `find_parent_objects(p, c, recurse)`: exactly the lines matching `p` that have some direct
(`recurse=False`) or any-depth (`recurse=True`) child matching `c`; ascending, reversed on request -/
theorem findParent_two_arg_spec (t : T) (prow crow : Row) (recurse : Bool)
    (hf : recurse = true → Forest t) :
    (findParentObjects2 t prow crow recurse false).Pairwise (· < ·) ∧
    (∀ p, p ∈ findParentObjects2 t prow crow recurse false ↔
      p < t.size ∧ hit prow p = true ∧ ∃ c, Below t recurse p c ∧ hit crow c = true) ∧
    findParentObjects2 t prow crow recurse true =
      (findParentObjects2 t prow crow recurse false).reverse := by
  have h := findObjects_filter_spec t prow (fun p => !(reSearchChildren t p crow recurse).isEmpty)
  simp only [Bool.not_eq_true', reSearchChildren_nonempty t recurse hf] at h
  exact h

/-- `find_parent_objects_wo_child(p, c, recurse)`: exactly the lines matching `p` with **no**
direct / any-depth child matching `c` -/
theorem woChild_spec (t : T) (prow crow : Row) (recurse : Bool) (hf : recurse = true → Forest t) :
    (findParentObjectsWoChild2 t prow crow recurse false).Pairwise (· < ·) ∧
    (∀ p, p ∈ findParentObjectsWoChild2 t prow crow recurse false ↔
      p < t.size ∧ hit prow p = true ∧ ¬ ∃ c, Below t recurse p c ∧ hit crow c = true) ∧
    findParentObjectsWoChild2 t prow crow recurse true =
      (findParentObjectsWoChild2 t prow crow recurse false).reverse := by
  have h := findObjects_filter_spec t prow (fun p => (reSearchChildren t p crow recurse).isEmpty)
  simp only [← reSearchChildren_nonempty t recurse hf, Bool.not_eq_false] at h ⊢
  exact h

/-- `find_child_objects(p, c, recurse, reverse)`: exactly the lines matching `c` that are a direct /
any-depth child of some line matching `p`; ascending and duplicate free, reversed on request -/
theorem findChild_two_arg_spec (t : T) (prow crow : Row) (recurse : Bool)
    (hf : recurse = true → Forest t) :
    (findChildObjects2 t prow crow recurse false).Pairwise (· < ·) ∧
    (findChildObjects2 t prow crow recurse false).Nodup ∧
    (∀ c, c ∈ findChildObjects2 t prow crow recurse false ↔
      hit crow c = true ∧ ∃ p, p < t.size ∧ hit prow p = true ∧ Below t recurse p c) ∧
    findChildObjects2 t prow crow recurse true =
      (findChildObjects2 t prow crow recurse false).reverse := by
  refine ⟨sortDedup_sorted _, sorted_nodup (sortDedup_sorted _), fun c => ?_, ?_⟩
  · simp only [findChildObjects2, Bool.false_eq_true, if_false, mem_sortDedup, List.mem_flatMap,
      findObjects, mem_findLineObj, mem_reSearchChildren t recurse hf]
    exact ⟨fun ⟨p, ⟨h1, h2⟩, h3, h4⟩ => ⟨h4, p, h1, h2, h3⟩, fun ⟨h4, p, h1, h2, h3⟩ => ⟨p, ⟨h1, h2⟩, h3, h4⟩⟩
  · -- the set built from the reversed list of parents is the same set
    refine congrArg List.reverse (sorted_ext (sortDedup_sorted _) (sortDedup_sorted _) fun c => ?_)
    simp only [findChildObjects2, mem_sortDedup, List.mem_flatMap, findObjects, if_true, List.mem_reverse,
      Bool.false_eq_true, if_false]

/-- `find_parent_objects([p, c], reverse)` = `find_parent_objects(p, c, recurse=False, reverse)`,
for either value of `reverse` and for rows computed under any flag reading (the same
`escape_chars` / `ignore_ws` treatment is applied to the expressions in both forms, so both
consult the same rows `p`, `c`) -/
theorem list_form_agrees_parent (t : T) (p c : Row) (rev : Bool) :
    findParentObjectsList t [p, c] rev = .ok (findParentObjects2 t p c false rev) := by
  obtain ⟨l, hl, hs, _, hm, hr⟩ := findParent_list_spec t [p, c] (by simp)
  obtain ⟨hs2, hm2, hr2⟩ := findParent_two_arg_spec t p c false (by simp)
  have hEq : l = findParentObjects2 t p c false false := by
    refine sorted_ext hs hs2 fun i => ?_
    rw [hm, hm2]
    simp only [mem_chains, isChain_pair, Below, Bool.false_eq_true, if_false]
    constructor
    · rintro ⟨_, ⟨i', k, rfl, h1, h2, h3, h4⟩, hh⟩
      cases hh
      exact ⟨h1, h2, k, h3, h4⟩
    · rintro ⟨h1, h2, k, h3, h4⟩
      exact ⟨[i, k], ⟨i, k, rfl, h1, h2, h3, h4⟩, rfl⟩
  cases rev
  · rw [hl, hEq]
  · rw [hr, hr2, hEq]

/-- `find_child_objects([p, c], reverse)` = `find_child_objects(p, c, recurse=False, reverse)` -/
theorem list_form_agrees_child (t : T) (p c : Row) (rev : Bool) :
    findChildObjectsList t [p, c] rev = .ok (findChildObjects2 t p c false rev) := by
  obtain ⟨l, hl, hs, _, hm, hr⟩ := findChild_list_spec t [p, c] (by simp)
  obtain ⟨hs2, _, hm2, hr2⟩ := findChild_two_arg_spec t p c false (by simp)
  have hEq : l = findChildObjects2 t p c false false := by
    refine sorted_ext hs hs2 fun k => ?_
    rw [hm, hm2]
    simp only [mem_chains, isChain_pair, Below, Bool.false_eq_true, if_false]
    constructor
    · rintro ⟨_, ⟨i, k', rfl, h1, h2, h3, h4⟩, hh⟩
      cases hh
      exact ⟨h4, i, h1, h2, h3⟩
    · rintro ⟨h4, i, h1, h2, h3⟩
      exact ⟨[i, k], ⟨i, k, rfl, h1, h2, h3, h4⟩, rfl⟩
  cases rev
  · rw [hl, hEq]
  · rw [hr, hr2, hEq]

/-- a list of one expression agrees with `find_objects` under the same `reverse` -/
theorem list_form_agrees_single (t : T) (r : Row) (rev : Bool) :
    findParentObjectsList t [r] rev = findObjectsList t [r] rev ∧
    findChildObjectsList t [r] rev = findObjectsList t [r] rev := ⟨rfl, rfl⟩

/-- **Finding F07.**  Full statement (false of the code and of the model):
`∀ p c p1, findParentObjectsWoChildList t [p, c] p1 false rev = .ok (findParentObjectsWoChild2 t p c false rev)`.
What holds: the list form is the two-argument form with the child row replaced by the row `p1`
of the *second character of the parent expression*; the row of `c` is never consulted; it raises
`IndexError` when the parent expression is shorter than two characters.  So the two forms agree
exactly when `p1` happens to be the row of `c`. -/
theorem list_form_agrees_woChild_partial (t : T) (p c : Row) (recurse rev : Bool) :
    (∀ p1, findParentObjectsWoChildList t [p, c] (some p1) recurse rev =
      .ok (findParentObjectsWoChild2 t p p1 recurse rev)) ∧
    findParentObjectsWoChildList t [p, c] (some c) recurse rev =
      .ok (findParentObjectsWoChild2 t p c recurse rev) ∧
    findParentObjectsWoChildList t [p, c] none recurse rev = .error .indexError :=
  ⟨fun _ => rfl, rfl, rfl⟩

/-- `parse.re_search_children(r, recurse)`: the matching roots, or every matching line -/
theorem rootSearch_spec (t : T) (r : Row) :
    (∀ rec_, (reSearchChildrenRoot t r rec_).Pairwise (· < ·)) ∧
    (∀ i, i ∈ reSearchChildrenRoot t r true ↔ i < t.size ∧ hit r i = true) ∧
    (∀ i, i ∈ reSearchChildrenRoot t r false ↔ i < t.size ∧ hit r i = true ∧ parentOf t i = i) := by
  have h := findObjects_filter_spec t r (fun i => parentOf t i == i)
  refine ⟨fun rec_ => ?_, mem_findLineObj t r, fun i => (h.2.1 i).trans (by simp only [beq_iff_eq])⟩
  cases rec_
  · exact h.1
  · exact findLineObj_sorted t r

/-- `obj.has_child_with(r, all_children)` is true exactly when some direct / any-depth child
matches — whatever the texts are (after the repair FC04d a matching `""` child counts) -/
theorem hasChildWith_spec (t : T) (p : Nat) (crow : Row) (allCh : Bool)
    (hf : allCh = true → Forest t) :
    hasChildWith t p crow allCh = true ↔ ∃ c, Below t allCh p c ∧ hit crow c = true := by
  rw [← reSearchChildren_nonempty t allCh hf]
  unfold hasChildWith reSearchChildren
  cases (offspring t allCh p).filter (hit crow) <;> simp

/-! ### other spellings of the arguments and the `search_safe` guard (`Ccp.SearchForms`)

The functions of `Ccp.Search` take rows; `Ccp.SearchForms` models what the code does with the
arguments *before* it searches: a compiled `re.Pattern`, a `BaseCfgLine`, a tuple, a missing or
ill-typed argument, and the refusal while an uncommitted `ConfigList.insert` is pending.  The
theorems say that none of these spellings changes an answer (they agree with the `str` / list form
or are refused with an error), so the specifications above apply to them verbatim. -/

/-- **All-`str` arguments, nothing pending: the argument handling adds nothing.** -/
theorem forms_str_agree (t : T) (o : Opts) (hp : o.pend = false) (p c : Row) (rs : List Row) (p1 : Option Row) (tup : Bool) :
    findObjectsF t (.one (strArg p)) o = .ok (findObjects t p o.rev) ∧
    findObjectsF t (.list (rs.map strArg)) o = liftErr (findObjectsList t rs o.rev) ∧
    findObjectBranchesF t tup rs o = liftErr (findObjectBranches t rs o.emp o.rev) ∧
    findParentObjectsListF t rs o = liftErr (findParentObjectsList t rs o.rev) ∧
    findParentObjects2F t (strArg p) (strArg c) o = .ok (findParentObjects2 t p c o.rec_ o.rev) ∧
    findChildObjectsF t (.one (strArg p)) (strArg c) o = .ok (findChildObjects2 t p c o.rec_ o.rev) ∧
    findChildObjectsF t (.list (rs.map strArg)) (strArg c) o = liftErr (findChildObjectsList t rs o.rev) ∧
    findParentObjectsWoChildF t (.one (strArg p)) (strArg c) p1 o = .ok (findParentObjectsWoChild2 t p c o.rec_ o.rev) ∧
    findParentObjectsWoChildF t (.list (rs.map strArg)) { kind := .none } p1 o =
      liftErr (findParentObjectsWoChildList t rs p1 o.rec_ o.rev) ∧
    reSearchChildrenRootF t (strArg p) o = .ok (reSearchChildrenRoot t p o.rec_) := by
  have hn : ¬ o.pend = true := ne_true_of_eq_false hp
  refine ⟨findObjectsArg_str t p _ _ _ hp, ?_, if_neg hn, if_neg hn, ?_, ?_, ?_, ?_, ?_, ?_⟩
  · match rs with
    | [] | _ :: _ :: _ => rfl
    | [r] => exact findObjectsArg_str t r _ _ _ hp
  · simp [findParentObjects2F, hp]
  · simp [findChildObjectsF, hp]
  · match rs with
    | [] => simp [findChildObjectsF, findChildObjectsList, liftErr, FErr.ofSearch, hp]
    | [r] => simp [findChildObjectsF, findObjectsArg, findChildObjectsList, liftErr, hp]
    | r :: r' :: l => simp [findChildObjectsF, hp, Function.comp_def]
  · simp [findParentObjectsWoChildF, woChildCore, hp]
  · match rs, p1 with
    | [], _ | [_], _ | _ :: _ :: _ :: _, _ | [_, _], none => rfl
    | [r, r'], some x => simp [findParentObjectsWoChildF, findParentObjectsWoChildList, woChildCore, liftErr, hp]
  · rw [reSearchChildrenRootF, findObjectsArg_str t p _ _ _ hp]; rfl

/-- **A compiled `re.Pattern` answers like the `str` with the same row** wherever it is accepted
(no `ignore_ws`, no `escape_chars`): `find_objects` (also as the one element of a list), either
argument of `find_parent_objects_wo_child`, the child of `find_child_objects`,
`CiscoConfParse.re_search_children`, `has_child_with`, `obj.re_search`, `obj.re_search_children`. -/
theorem pattern_form_agrees (t : T) (o : Opts) (hw : o.ws = false) (hx : o.esc = false) (p c : Row)
    (p1 : Option Row) (i : Nat) :
    findObjectsF t (.one (patArg p)) o = findObjectsF t (.one (strArg p)) o ∧
    findObjectsF t (.list [patArg p]) o = findObjectsF t (.one (strArg p)) o ∧
    (∀ a ∈ [strArg p, patArg p], ∀ b ∈ [strArg c, patArg c],
      findParentObjectsWoChildF t (.one a) b p1 o = findParentObjectsWoChildF t (.one (strArg p)) (strArg c) p1 o) ∧
    findChildObjectsF t (.one (strArg p)) (patArg c) o = findChildObjectsF t (.one (strArg p)) (strArg c) o ∧
    reSearchChildrenRootF t (patArg p) o = reSearchChildrenRootF t (strArg p) o ∧
    hasChildWithF t i (patArg c) o = hasChildWithF t i (strArg c) o ∧
    reSearchF t i (patArg p) o = reSearchF t i (strArg p) o ∧
    reSearchChildrenObjF t i (patArg c) o = reSearchChildrenObjF t i (strArg c) o := by
  -- with `ignore_ws` and `escape_chars` off, no check that tells a pattern from a `str` is reached
  obtain ⟨ex, ws, esc, rev, rec_, emp, pend⟩ := o
  obtain rfl : ws = false := hw
  obtain rfl : esc = false := hx
  refine ⟨rfl, rfl, fun a ha b hb => ?_, rfl, rfl, rfl, rfl, rfl⟩
  simp only [List.mem_cons, List.mem_nil_iff, or_false] at ha hb
  rcases ha with rfl | rfl <;> rcases hb with rfl | rfl <;> rfl

/-- … and it is *refused*, never mis-read, where the expression would have to be rewritten:
`ignore_ws` → `ValueError`, `escape_chars` → `TypeError` (unless the refusal for a pending insert or
an earlier check comes first); as the `parentspec` of the two-argument `find_parent_objects` /
`find_child_objects` it is refused with `InvalidParameters`; as the first element of the list form of
`find_parent_objects_wo_child` it raises `TypeError` (`parentspec[1]` of a compiled pattern, F07). -/
theorem pattern_form_refused (t : T) (o : Opts) (hp : o.pend = false) (p c : Row) :
    (o.esc = true → findObjectsF t (.one (patArg p)) o = .error .typeError) ∧
    (o.esc = false → o.ws = true → findObjectsF t (.one (patArg p)) o = .error .valueError) ∧
    (o.esc = false → findParentObjects2F t (patArg p) (strArg c) o = .error .invalidParameters) ∧
    (o.esc = false → findChildObjectsF t (.one (patArg p)) (strArg c) o = .error .invalidParameters) ∧
    -- F07 again: the list form of wo-child subscripts its first element
    (∀ b ∈ [strArg c, patArg c], ∀ p1, findParentObjectsWoChildF t (.list [patArg p, b]) { kind := .none } p1 o = .error .typeError) := by
  obtain ⟨ex, ws, esc, rev, rec_, emp, pend⟩ := o
  obtain rfl : pend = false := hp
  refine ⟨?_, ?_, ?_, ?_, fun b hb p1 => ?_⟩
  · rintro (rfl : esc = true); rfl
  · rintro (rfl : esc = false) (rfl : ws = true); rfl
  · rintro (rfl : esc = false); rfl
  · rintro (rfl : esc = false); rfl
  · simp only [List.mem_cons, List.mem_nil_iff, or_false] at hb
    rcases hb with rfl | rfl <;> rfl

/-- **A tuple answers like the list** where a tuple is accepted: `find_object_branches` (of `str`
expressions: the model has no other) and `find_child_objects` (any elements), for any flags and state. -/
theorem tuple_form_agrees (t : T) (o : Opts) (rs : List Row) (l : List Arg) (c : Arg) :
    findObjectBranchesF t true rs o = findObjectBranchesF t false rs o ∧
    findChildObjectsF t (.tuple l) c o = findChildObjectsF t (.list l) c o := ⟨rfl, rfl⟩

/-- a `BaseCfgLine` as `parentspec` of `find_child_objects` / `find_parent_objects_wo_child` is read as
its text (the row of `obj.text` used as an expression), when `escape_chars` is off -/
theorem line_as_parentspec (t : T) (o : Opts) (hx : o.esc = false) (r : Row) (n : Nat) (txt : Ccp.Py.Str) (c : Arg)
    (p1 : Option Row) :
    findChildObjectsF t (.one (lineArg r n txt)) c o = findChildObjectsF t (.one (strArg r)) c o ∧
    findParentObjectsWoChildF t (.one (lineArg r n txt)) c p1 o = findParentObjectsWoChildF t (.one (strArg r)) c p1 o := by
  obtain ⟨ex, ws, esc, rev, rec_, emp, pend⟩ := o
  obtain rfl : esc = false := hx
  exact ⟨rfl, rfl⟩

/-- `find_objects(obj)` returns the lines equal to `obj` — the line `obj.linenum` if it carries `obj.text`,
nothing otherwise; `exactmatch` and `reverse` change nothing -/
theorem findObjects_line_spec (t : T) (o : Opts) (hp : o.pend = false) (hw : o.ws = false) (hx : o.esc = false)
    (r : Row) (n : Nat) (txt : Ccp.Py.Str) :
    ∃ l, findObjectsF t (.one (lineArg r n txt)) o = .ok l ∧
      (∀ i, i ∈ l ↔ i = n ∧ n < t.size ∧ t.texts.getD n [] = txt) ∧ l.length ≤ 1 := by
  exact ⟨revIf o.rev (eqLines t (lineArg r n txt)), by simp [findObjectsF, findObjectsArg, hp, hw, hx],
    fun i => (mem_revIf ..).trans (mem_eqLines ..), Nat.le_trans (Nat.le_of_eq (length_revIf ..)) (length_eqLines ..)⟩

/-- **While an insert is pending no search answers.**  Every API answers with an error — the
`NotImplementedError` of the `search_safe` guard, or the error of an argument check that comes
before the guard — for all arguments and flags.  `has_child_with` consults the guard per examined
child: it refuses on every line that has offspring (and answers `False` without looking on a line that
has none). -/
theorem pending_refused (t : T) (o : Opts) (hp : o.pend = true) (f : First) (c a : Arg) (rs : List Row)
    (p1 : Option Row) (tup : Bool) (i : Nat) :
    (∀ l, findObjectsF t f o ≠ .ok l) ∧
    findObjectBranchesF t tup rs o = .error .notImplementedError ∧
    findParentObjectsListF t rs o = .error .notImplementedError ∧
    (∀ l, findParentObjects2F t a c o ≠ .ok l) ∧
    findChildObjectsF t f c o = .error .notImplementedError ∧
    (∀ l, findParentObjectsWoChildF t f c p1 o ≠ .ok l) ∧
    (∀ l, reSearchChildrenRootF t a o ≠ .ok l) ∧
    reSearchF t i a o = .error .notImplementedError ∧
    reSearchChildrenObjF t i a o = .error .notImplementedError ∧
    ((offspring t o.rec_ i).isEmpty = false → hasChildWithF t i a o = .error .notImplementedError) := by
  refine ⟨ne_ok_of_refused (findObjectsF_pending t f o hp), if_pos hp, if_pos hp,
    ne_ok_of_refused (findParentObjects2F_pending t a c o hp), if_pos hp,
    ne_ok_of_refused (findParentObjectsWoChildF_pending t f c p1 o hp),
    ne_ok_of_refused (reSearchChildrenRootF_pending t a o hp), if_pos hp, if_pos hp, fun h => ?_⟩
  rw [hasChildWithF, h, hp]; rfl

/-- the line-object methods: `obj.re_search(r)` matches exactly when the row says so, and
`obj.re_search_children(r, recurse)` returns exactly the direct / any-depth children matching `r` -/
theorem objSearch_spec (t : T) (o : Opts) (hp : o.pend = false) (hf : o.rec_ = true → Forest t) (p : Nat) (r : Row) :
    reSearchF t p (strArg r) o = .ok (hit r p) ∧
    ∃ l, reSearchChildrenObjF t p (strArg r) o = .ok l ∧
      ∀ c, c ∈ l ↔ Below t o.rec_ p c ∧ hit r c = true := by
  refine ⟨by simp [reSearchF, hp], reSearchChildren t p r o.rec_, by simp [reSearchChildrenObjF, hp], ?_⟩
  intro c
  exact mem_reSearchChildren t o.rec_ hf p r c

/-- **`regex_groups=True`.**  For `empty_branches=False` the rows are those of the complete chains -- exactly the
N-tuples of chains of direct parent-to-child lines matching expression `i` at depth `i` that the property speaks of --
and for `empty_branches=True` one row per maximal partial chain (`padded`); in chain order, reversed on request.
Each row has one cell per expression; the cell of a missing line is `(None,)`, the cell of line `i` holds the
capture groups of the expression on its text (`-` for a group that did not participate), or the line itself when the
expression has no groups; every cell is a tuple (`Branch.__init__`).
(Before the repair `fix: find_object_branches(regex_groups=True) drops partial branches unless empty_branches=True`
the padded rows came back for either value of `empty_branches`, because the `None` filter ran after the conversion to
cells and never fired -- finding FC04f.) -/
theorem branches_groups (t : T) (rs : List Row) (h : 2 ≤ rs.length) (g : GroupTable) (rev : Bool) :
    findObjectBranchesGroups t rs g false rev false =
      .ok (if rev then (((chains t rs).map (·.map some)).map (rowCells g)).reverse
           else ((chains t rs).map (·.map some)).map (rowCells g)) ∧
    findObjectBranchesGroups t rs g true rev false =
      .ok (if rev then ((padded t rs).map (rowCells g)).reverse else (padded t rs).map (rowCells g)) ∧
    (∀ b : Branch, (rowCells g b).length = b.length ∧ ∀ c ∈ rowCells g b, c.isTuple = true) ∧
    (∀ idx, cellOf g idx none = ⟨true, [.none]⟩) ∧
    (∀ idx i, groupsAt g idx i = some [] → cellOf g idx (some i) = ⟨false, [.line i]⟩) ∧
    (∀ idx i x xs, groupsAt g idx i = some (x :: xs) →
      cellOf g idx (some i) = ⟨true, (x :: xs).map itemOf⟩) := by
  refine ⟨?_, ?_, ?_, fun _ => rfl, ?_, ?_⟩
  · simp [findObjectBranchesGroups, findObjectBranches_eq t h]
  · simp [findObjectBranchesGroups, findObjectBranches_eq t h]
  · intro b
    refine ⟨by simp [rowCells], ?_⟩
    intro c hc
    simp only [rowCells, List.mem_map] at hc
    obtain ⟨ie, _, rfl⟩ := hc
    rfl
  · intro idx i hg; simp [cellOf, hg]
  · intro idx i x xs hg; simp [cellOf, hg]

/-! ### non-vacuity: a concrete tree

```
0  a          (root)
1   b         child of 0
2    c        child of 1
3   b         child of 0 (duplicate text)
4  a          (root, no children)
5   ""        child of 4 with the empty text
```
-/
def exT : T :=
  { texts := ["a".toList, " b".toList, "  c".toList, " b".toList, "a".toList, []],
    parents := [0, 0, 1, 0, 4, 4], keep := [false, false, false, false, false, false] }

def rowA : Row := [true, false, false, false, true, false]
def rowB : Row := [false, true, false, true, false, false]
def rowC : Row := [false, false, true, false, false, false]
def rowE : Row := [false, false, false, false, false, true]   -- `^$`

example : Forest exT := by
  intro i
  match i with
  | 0 | 1 | 2 | 3 | 4 | 5 => decide
  | n + 6 => simp [parentOf, exT]

example : chains exT [rowA, rowB] = [[0, 1], [0, 3]] := by decide +kernel
example : chains exT [rowA, rowB, rowC] = [[0, 1, 2]] := by decide +kernel
example : findObjectBranches exT [rowA, rowB, rowC] false false = .ok [[some 0, some 1, some 2]] := by decide +kernel
example : findObjectBranches exT [rowA, rowB, rowC] true false =
    .ok [[some 0, some 1, some 2], [some 0, some 3, none], [some 4, none, none]] := by decide +kernel
example : findObjectBranches exT [rowC, rowC, rowC] true true = .ok [[some 2, none, none]] := by decide +kernel
example : findObjectBranches exT [[], rowC, rowC] true true = .ok [[none, none, none]] := by decide +kernel
example : findObjects exT rowB true = [3, 1] := by decide +kernel
example : findParentObjectsList exT [rowA, rowB] false = .ok [0] := by decide +kernel
example : findChildObjectsList exT [rowA, rowB] false = .ok [1, 3] := by decide +kernel
example : findParentObjects2 exT rowA rowC true false = [0] ∧ findParentObjects2 exT rowA rowC false false = [] := by decide +kernel
example : findChildObjects2 exT rowA rowB false true = [3, 1] := by decide +kernel
example : findChildObjectsList exT [rowA, rowB] true = .ok [3, 1] := by decide +kernel
example : findParentObjectsWoChild2 exT rowA rowB false true = [4] := by decide +kernel
example : reSearchChildrenRoot exT rowB false = [] ∧ reSearchChildrenRoot exT rowB true = [1, 3] := by decide +kernel
/-- F07 witness: with `p1` ≠ the row of `c` the list form differs from the two-argument form -/
example : findParentObjectsWoChildList exT [rowA, rowB] (some rowC) false false = .ok [0, 4] ∧
    findParentObjectsWoChild2 exT rowA rowB false false = [4] := by decide +kernel
/-- line 4 has a child with the empty text matching `^$`; it counts -/
example : hasChildWith exT 4 rowE false = true ∧ (5 ∈ children exT 4 ∧ hit rowE 5 = true) := by decide +kernel
example : hasChildWith exT 0 rowC true = true ∧ hasChildWith exT 0 rowC false = false := by decide +kernel

/-! non-vacuity of the argument-form theorems (hypotheses `pend = false`, `ws = false`, `esc = false`, `pend = true`) -/
example : findObjectsF exT (.one (patArg rowB)) { rev := true } = .ok [3, 1] := by decide +kernel
example : findObjectsF exT (.list [patArg rowB]) {} = .ok [1, 3] := by decide +kernel
example : findObjectsF exT (.one (patArg rowB)) { ws := true } = .error .valueError := by decide +kernel
example : findObjectsF exT (.one (patArg rowB)) { esc := true } = .error .typeError := by decide +kernel
example : findObjectsF exT (.one (lineArg [] 3 " b".toList)) { exact := true, rev := true } = .ok [3] := by decide +kernel
example : findObjectsF exT (.one (lineArg [] 2 " b".toList)) {} = .ok [] := by decide +kernel
example : findObjectBranchesF exT true [rowA, rowB, rowC] {} = .ok [[some 0, some 1, some 2]] := by decide +kernel
example : findChildObjectsF exT (.tuple [strArg rowA, strArg rowB]) { kind := .none } { rev := true } = .ok [3, 1] := by decide +kernel
example : findChildObjectsF exT (.one (lineArg rowA 0 "a".toList)) (patArg rowB) {} = .ok [1, 3] := by decide +kernel
example : findParentObjectsWoChildF exT (.one (patArg rowA)) (patArg rowB) none {} = .ok [4] := by decide +kernel
example : findParentObjects2F exT (patArg rowA) (strArg rowB) {} = .error .invalidParameters := by decide +kernel
example : findParentObjectsWoChildF exT (.list [patArg rowA, strArg rowB]) { kind := .none } none {} = .error .typeError := by decide +kernel
example : findObjectsF exT (.one (strArg rowB)) { pend := true } = .error .notImplementedError := by decide +kernel
example : findObjectsF exT (.list [strArg rowA, strArg rowB]) { pend := true } = .error .invalidParameters := by decide +kernel
example : hasChildWithF exT 0 (strArg rowB) { pend := true } = .error .notImplementedError ∧
    hasChildWithF exT 2 (strArg rowB) { pend := true } = .ok false := by decide +kernel
example : reSearchChildrenObjF exT 0 (strArg rowC) { rec_ := true } = .ok [2] ∧
    reSearchChildrenObjF exT 0 (strArg rowC) {} = .ok [] ∧ reSearchF exT 3 (patArg rowB) {} = .ok true := by decide +kernel

def exG : GroupTable := [[some [], none, none, none, some [], none],
      [none, some [some "b".toList, none], none, some [some "b".toList, none], none, none],
      [none, none, some [], none, none, none]]
/-- `empty_branches=False`: only the complete chain `0, 1, 2` (before the repair of FC04f the three padded rows below
came back here as well) -/
example : findObjectBranchesGroups exT [rowA, rowB, rowC] exG false false false =
    .ok [[⟨true, [.line 0]⟩, ⟨true, [.str "b".toList, .none]⟩, ⟨true, [.line 2]⟩]] := by decide +kernel
example : findObjectBranchesGroups exT [rowA, rowB, rowC] exG true false false =
    .ok [[⟨true, [.line 0]⟩, ⟨true, [.str "b".toList, .none]⟩, ⟨true, [.line 2]⟩],
         [⟨true, [.line 0]⟩, ⟨true, [.str "b".toList, .none]⟩, ⟨true, [.none]⟩],
         [⟨true, [.line 4]⟩, ⟨true, [.none]⟩, ⟨true, [.none]⟩]] := by decide +kernel

end Ccp.C04
