import Ccp.Proofs.Diff
import Ccp.Proofs.DiffCli
/-!
# C10 — the diff transforms the old config into the new one; the rollback is its mirror

Property theorems only; helper lemmas live in `Ccp.Proofs.Diff` and `Ccp.Proofs.DiffCli`, the model and
the short specification vocabulary (`paths`, `isRem`, `target`, `applyCmd`, `apply`, `Distinct`, `Plain`)
in `Ccp.Model.Diff`, the command line in `Ccp.Model.DiffCli`.

**Partial**: the theorems cover the *plain fragment* of hier_config — no line starts with the
negation prefix `no ` (`Plain`), siblings have different texts (`Distinct`; the loader guarantees
it, `loaded_distinct`), and none of hier_config's per-OS rewriting rules applies (that part of
the fragment is not visible in the model: the model simply has no such rules; the harness
derives the exclusion list from the installed library).

A configuration denotes the set `paths cfg` of its hierarchical lines (a line with the texts of
its ancestors).  The commands of a diff are the hierarchical lines of the delta tree,
`paths (diff old new)`, in output order; `render` prints exactly these, one per line, two
blanks per ancestor.
-/
namespace Ccp.C10
open Ccp.Diff Ccp.Py

/-- **Transformation.** Applying the commands of the diff, in order, to the hierarchical lines
of the old configuration yields exactly the hierarchical lines of the new one. -/
theorem apply_diff (old new : Forest) (dO : Distinct old) (dN : Distinct new)
    (pO : Plain old) (pN : Plain new) (p : Path) :
    p ∈ apply (paths (diff old new)) (paths old) ↔ p ∈ paths new :=
  apply_diff_mem dO dN pO pN p

/-- **Additions are necessary.** A command that is not a removal is a line of the new
configuration, and if the old configuration already has that line then the command is only the
section header of a deeper command of the same diff. -/
theorem adds_absent (old new : Forest) (dO : Distinct old) (pO : Plain old)
    (c : Path) (hc : c ∈ paths (diff old new)) (hr : isRem c = false) :
    c ∈ paths new ∧ (c ∈ paths old → ∃ x, c ++ [x] ∈ paths (diff old new)) :=
  add_spec dO pO hc hr

/-- **Removals are necessary and exact.** A removal names a line that the old configuration
has and the new one lacks; and every line of the old configuration that the new one lacks is
that line or lies below it, for some removal of the diff. -/
theorem removes_present_and_gone (old new : Forest) (dO : Distinct old) (dN : Distinct new)
    (pO : Plain old) (pN : Plain new) :
    (∀ c ∈ paths (diff old new), isRem c = true → target c ∈ paths old ∧ target c ∉ paths new) ∧
    (∀ p ∈ paths old, p ∉ paths new →
      ∃ c ∈ paths (diff old new), isRem c = true ∧ target c <+: p) :=
  ⟨fun _ hc hr => rem_spec dN pO pN hc hr, fun _ hp hn => gone_removed dO pO hp hn⟩

/-- **Self.** The diff (and the rollback) of a configuration with itself is empty. -/
theorem diff_self_nil (cfg : Forest) (d : Distinct cfg) :
    getDiff (cfg, cfg) = [] ∧ getRollback (cfg, cfg) = [] := by
  simp [getDiff, getRollback, diff_self d, render, renderF]

/-- **Mirror.** The rollback from old to new is the diff from new to old. -/
theorem rollback_mirror (old new : Forest) : getRollback (old, new) = getDiff (new, old) := rfl

/-- Every loaded configuration has pairwise different siblings, so the `Distinct` hypotheses
above hold for whatever text `Diff()` is given. -/
theorem loaded_distinct (text : Str) : Distinct (loadTree text) := loadTree_distinct text

/-- **Input forms.** A list and a tuple of lines, the lines joined by the line separator as one
string (provided that string is not the name of an existing file), a path `p` (one line) of a
file holding that text, all denote the same pair of configurations; an absent side (`None`)
is the empty list / tuple / string. -/
theorem forms_agree (fs : Str → Option Str) (l : List Str) (p : Str) (side : Input) (syn : Str)
    (hnofile : fs (join linesep l) = none)
    (hfile : fs p = some (join linesep l)) (hp : (splitlines p).length = 1) :
    let viaList := init fs (.list l) side syn
    init fs (.tuple l) side syn = viaList ∧
    init fs (.str (join linesep l)) side syn = viaList ∧
    init fs (.str p) side syn = viaList ∧
    init fs side (.tuple l) syn = init fs side (.list l) syn ∧
    init fs side (.str (join linesep l)) syn = init fs side (.list l) syn ∧
    init fs side (.str p) syn = init fs side (.list l) syn ∧
    init fs .none side syn = init fs (.list []) side syn ∧
    init fs side .none syn = init fs side (.list []) syn := by
  have h1 : normalise fs (.str (join linesep l)) = normalise fs (.list l) := by
    simp only [normalise, hnofile]; split <;> rfl
  have h2 : normalise fs (.str p) = normalise fs (.list l) := by
    simp only [normalise, hp, if_true, hfile]
  have h3 : normalise fs (.tuple l) = normalise fs (.list l) := rfl
  have h4 : normalise fs .none = normalise fs (.list []) := rfl
  simp only [init, h1, h2, h3, h4, and_self]

/-- **The printed diff is its command list.** `render` prints one command per line, two blanks
per ancestor; reading those lines back with the loader's own indentation rule recovers exactly
`paths delta`, in order.  So the `paths (diff old new)` of the theorems above are the commands a
reader of `get_diff()` sees.  (Hypothesis: the texts are ones the loader stores.) -/
theorem printed_commands (delta : Forest) (hN : ∀ p ∈ paths delta, ∀ t ∈ p, NormalText t) :
    linePaths [] ((render delta).filterMap normLine) = paths delta :=
  linePaths_render delta hN

/-! ### the command line: `ccp diff [-m METHOD] [-s SYNTAX] FILE FILE` (model `Ccp.Model.DiffCli`) -/

/-- **`ccp diff` prints the API result.**  With both files present (texts `a`, `b`) and an accepted syntax, the
lines appended to `CliApplication.stdout` are those of `Diff(a, b, syntax).get_diff()` — with `-m diff` and without
`-m` — resp. `.get_rollback()` with `-m rollback`; without `-s` the syntax is `ios`.  So every theorem above about
`getDiff` / `getRollback` of the loaded pair is a theorem about what `ccp diff` prints. -/
theorem cli_diff_is_api (fs : Str → Option Str) (f0 f1 a b syn : Str)
    (h0 : fs f0 = some a) (h1 : fs f1 = some b) (hs : syntaxes.contains syn = true) :
    cliDiff fs f0 f1 none (some syn) = ((init fs (.str a) (.str b) syn).map getDiff).mapError .diff ∧
    cliDiff fs f0 f1 (some "diff".toList) (some syn) = ((init fs (.str a) (.str b) syn).map getDiff).mapError .diff ∧
    cliDiff fs f0 f1 (some "rollback".toList) (some syn) = ((init fs (.str a) (.str b) syn).map getRollback).mapError .diff ∧
    cliDiff fs f0 f1 none none = cliDiff fs f0 f1 (some "diff".toList) (some "ios".toList) := by
  have hss : parseSyntax (some syn) = some syn := by simp only [parseSyntax, hs, if_true]
  exact ⟨cliDiff_ok (m := .diff) h0 h1 rfl hss, cliDiff_ok (m := .diff) h0 h1 parseMethod_diff hss,
    cliDiff_ok (m := .rollback) h0 h1 parseMethod_rollback hss,
    (cliDiff_ok (m := .diff) h0 h1 rfl rfl).trans (cliDiff_ok h0 h1 parseMethod_diff parseSyntax_ios).symm⟩

/-- **Mirror on the command line.** `ccp diff -m rollback OLD NEW` prints what `ccp diff -m diff NEW OLD` prints (or
fails in the same way), for every file system and every `-s`. -/
theorem cli_rollback_mirror (fs : Str → Option Str) (f0 f1 : Str) (syn : Option Str) :
    cliDiff fs f0 f1 (some "rollback".toList) syn = cliDiff fs f1 f0 (some "diff".toList) syn :=
  cliDiff_mirror parseMethod_rollback parseMethod_diff

/-- a `-m` / `-s` value outside the argparse choices ends the process before any file is read; with accepted
options a missing file is a FileNotFoundError -/
theorem cli_rejects (fs : Str → Option Str) (f0 f1 : Str) (m s : Option Str) :
    (parseMethod m = none ∨ parseSyntax s = none → cliDiff fs f0 f1 m s = .error .systemExit) ∧
    (parseMethod m ≠ none → parseSyntax s ≠ none → (fs f0 = none ∨ fs f1 = none) →
      cliDiff fs f0 f1 m s = .error .fileNotFound) := by
  constructor
  · intro h
    unfold cliDiff
    rcases h with h | h
    · rw [h]
    · rw [h]; cases parseMethod m <;> rfl
  · intro hm hs hf
    unfold cliDiff
    cases hm' : parseMethod m with
    | none => exact absurd hm' hm
    | some mm =>
      cases hs' : parseSyntax s with
      | none => exact absurd hs' hs
      | some ss =>
        rcases hf with h | h
        · simp only [h]
        · simp only [h]; cases fs f0 <;> rfl

/-! ### non-vacuity: concrete configurations meeting the hypotheses -/

private def oldText : Str :=
  "host R1\nint Gi1\n mtu 1500\n speed  10\nrouter ospf 1\n net 10.0.0.0\n  cost 5\nline vty 0\n".toList
private def newText : Str :=
  "host R1\r\nint Gi1\r\n    mtu 9000\r\n    speed 10\r\nline vty 0\r\n  login\r\nint Gi1\r\n    bw 10".toList

-- what the real `Diff(oldText, newText).get_diff()` / `.get_rollback()` print
example : getDiff (loadTree oldText, loadTree newText) =
    ["no router ospf 1", "int Gi1", "  no mtu 1500", "  mtu 9000", "  bw 10", "line vty 0",
     "  login"].map String.toList := by
  unfold oldText newText
  simp only [List.map, toList_lit]
  decide +kernel

example : getRollback (loadTree oldText, loadTree newText) =
    ["int Gi1", "  no mtu 9000", "  no bw 10", "  mtu 1500", "router ospf 1", "  net 10.0.0.0",
     "    cost 5", "line vty 0", "  no login"].map String.toList := by
  unfold oldText newText
  simp only [List.map, toList_lit]
  decide +kernel

-- the hypotheses of `apply_diff` hold for these two (the repeated `int Gi1` section was merged,
-- `speed  10` and `speed 10` are the same line)
example : Plain (loadTree oldText) ∧ Plain (loadTree newText) := by
  unfold Plain oldText newText
  simp only [toList_lit]
  decide +kernel

-- a removal whose target is a whole section; an addition below a shared header
example : (["router ospf 1".toList, "net 10.0.0.0".toList] : Path) ∈ paths (loadTree oldText) ∧
    isRem ["no router ospf 1".toList] = true ∧
    target ["no router ospf 1".toList] = ["router ospf 1".toList] ∧
    (["int Gi1".toList, "mtu 9000".toList] : Path) ∈ paths (diff (loadTree oldText) (loadTree newText)) := by
  unfold oldText newText
  simp only [toList_lit]
  decide +kernel

-- `apply` on a small instance: `no b` removes `b` and the line below it (not `bb`), the other
-- commands add their line (a line added twice is still one member of the set)
example : apply ([["no b"], ["a"], ["a", "c"]].map (·.map String.toList))
      ([["a"], ["b"], ["b", "x"], ["bb"]].map (·.map String.toList)) =
    [["a"], ["bb"], ["a"], ["a", "c"]].map (·.map String.toList) := by decide +kernel

-- the texts of the example delta are normal (hypothesis of `printed_commands`)
example : ∀ p ∈ paths (diff (loadTree oldText) (loadTree newText)), ∀ t ∈ p, NormalText t := by
  unfold NormalText oldText newText
  simp only [toList_lit]
  decide +kernel

-- the diff of a non-empty configuration with itself
example : getDiff (loadTree oldText, loadTree oldText) = [] := by
  unfold oldText
  simp only [toList_lit]
  decide +kernel

-- forms: the hypotheses of `forms_agree` are satisfiable (a file system holding one file)
example : ∃ (fs : Str → Option Str) (l : List Str) (p : Str),
    fs (join linesep l) = none ∧ fs p = some (join linesep l) ∧ (splitlines p).length = 1 ∧ l.length = 2 :=
  ⟨fun q => if q = "/tmp/a.cfg".toList then some "a\n b".toList else none,
   ["a".toList, " b".toList], "/tmp/a.cfg".toList, by decide +kernel, by decide +kernel, by decide +kernel, rfl⟩

-- `cli_diff_is_api` / `cli_rollback_mirror`: two files, what `ccp diff -m rollback -s nxos f0 f1` prints
private def fs2 : Str → Option Str := fun p =>
  if p = "f0".toList then some "int Gi1\n mtu 1500\n".toList else if p = "f1".toList then some "int Gi1\n mtu 9000\n".toList else none
example : (cliDiff fs2 "f0".toList "f1".toList (some "rollback".toList) (some "nxos".toList)).toOption
    = some ["int Gi1".toList, "  no mtu 9000".toList, "  mtu 1500".toList] := by
  unfold fs2
  simp only [toList_lit]
  decide +kernel
example : (match cliDiff fs2 "f0".toList "f1".toList (some "undo".toList) none with | .error .systemExit => true | _ => false) = true ∧
    (match cliDiff fs2 "f0".toList "nowhere".toList none none with | .error .fileNotFound => true | _ => false) = true := by
  decide +kernel

end Ccp.C10
