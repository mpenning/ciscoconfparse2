import Ccp.Proofs.Pwd
/-!
# C17 — Cisco password helpers: type 7 decrypts to the original; type 5/8/9 have the Cisco format and verify

Property theorems only; helper lemmas live in `Ccp.Proofs.Pwd`.

**Partial.**  Everything below is proved for all inputs except one clause of the property: that the
43 (type 8/9) or 22 (type 5) hash characters *are* PBKDF2-HMAC-SHA256 / scrypt / MD5-crypt output.
The key-derivation functions are opaque parameters (`Pbkdf2`, `Scrypt`, `Md5Crypt`) of the model;
what is proved is which arguments they are called with (`kdf_params` for the generated numerals,
`type8_verifies_partial` and its two companions for the call) and how their answer is laid out (`type8_format`,
`type9_format`, `type5_format`).  The bytes themselves are recomputed from the embedded salt with independent code
on every run of the check (harness/props/c17.py).
-/
namespace Ccp.C17
open Ccp.Pwd Ccp.Py

/-- The key table inside `decrypt_type_7` is the well-known type-7 key (53 entries) and the
wrap-around modulus in the code is the key length. -/
theorem xlat_tables_equal :
    Gen.xlatImpl = xlatRef ∧ Gen.xlatModulus = xlatRef.length ∧ xlatRef.length = 53 := by
  rw [xlatRef_eq]; decide

/-- The numerals in the `pbkdf2_hmac` / `scrypt.hash` / `md5_crypt.using` calls and the salt loops are
the ones the property names. -/
theorem kdf_params :
    (Gen.type8Algo = "sha256" ∧ Gen.type8Rounds = 20000 ∧ Gen.type8Dklen = 32) ∧
    (Gen.type9N = 16384 ∧ Gen.type9r = 1 ∧ Gen.type9p = 1 ∧ Gen.type9Buflen = 32) ∧
    (Gen.type8SaltLen = 14 ∧ Gen.type9SaltLen = 14 ∧ Gen.type5SaltLen = 4) := by decide

/-- The table behind `b64table`: both alphabets have 64 distinct symbols, the first is the RFC 4648
alphabet `base64.b64encode` writes, the second is Cisco's `./0-9A-Za-z`, and the translation sends the i-th standard symbol to the i-th
Cisco symbol — a bijection between the two 64-symbol sets. -/
theorem b64_translation_bijective :
    Gen.stdB64.length = 64 ∧ Gen.ciscoB64.length = 64 ∧ Gen.stdB64.Nodup ∧ Gen.ciscoB64.Nodup ∧
    Gen.stdB64 = b64Rfc ∧ Gen.ciscoB64 = ciscoRef ∧
    Gen.stdB64.map (fun n => (translate (Char.ofNat n)).toNat) = Gen.ciscoB64 ∧
    (∀ a ∈ Gen.stdB64, ∀ b ∈ Gen.stdB64,
      translate (Char.ofNat a) = translate (Char.ofNat b) → a = b) ∧
    (∀ y ∈ Gen.ciscoB64, ∃ x ∈ Gen.stdB64, (translate (Char.ofNat x)).toNat = y) := by
  have hn : Gen.ciscoB64.Nodup := by decide +kernel
  have hm := hn
  rw [← b64_translate] at hm
  refine ⟨rfl, rfl, hm.of_map _ fun _ _ h e => h (e ▸ rfl), hn, b64Rfc_eq.symm, ciscoRef_eq.symm, b64_translate,
    fun a ha b hb h => inj_of_nodup_map hm a ha b hb (congrArg Char.toNat h), fun y hy => ?_⟩
  rw [← b64_translate] at hy
  exact List.mem_map.mp hy

/-- `pwd_check` accepts exactly the passwords whose length is within the generated bounds and none of
whose characters is in the generated `invalid_chars` set. -/
theorem pwd_check_spec (p : Str) :
    pwdCheck p = .ok () ↔
      (Gen.pwdMinLen ≤ p.length ∧ p.length ≤ Gen.pwdMaxLen) ∧ ∀ c ∈ p, c.toNat ∉ Gen.pwdInvalidChars := by
  unfold pwdCheck
  by_cases h1 : (p.length > Gen.pwdMaxLen || p.length < Gen.pwdMinLen) = true
  · simp only [h1, if_true]
    constructor
    · intro h; cases h
    · intro h; simp at h1; omega
  · by_cases h2 : p.any isInvalidChar = true
    · simp only [h1, h2, if_true]
      constructor
      · intro h; cases h
      · rintro ⟨_, h⟩
        obtain ⟨c, hc, hbad⟩ := List.any_eq_true.mp h2
        exact absurd (by simpa [isInvalidChar] using hbad) (h c hc)
    · simp only [h1, h2]
      refine ⟨fun _ => ⟨by simp at h1; omega, ?_⟩, fun _ => rfl⟩
      intro c hc hbad
      exact h2 (List.any_eq_true.mpr ⟨c, hc, by simpa [isInvalidChar] using hbad⟩)

/-- The generated upper limit is 127, a lower limit (none today) excludes at most the empty password,
and the generated set contains `?` and `"` (it also contains the
backslash of the raw string `r"?\""`; the property does not ask for that and nothing here depends
on it). -/
theorem pwd_check_table :
    Gen.pwdMaxLen = 127 ∧ Gen.pwdMinLen ≤ 1 ∧ ('?').toNat ∈ Gen.pwdInvalidChars ∧ ('"').toNat ∈ Gen.pwdInvalidChars := by
  decide

/-- Passwords longer than 127 characters or containing `?` or a double quote are rejected
(by `pwd_check`, hence by every `encrypt_type_*`). -/
theorem pwd_check_rejects (p : Str) (h : p.length > 127 ∨ '?' ∈ p ∨ '"' ∈ p) :
    pwdCheck p = .error .invalidPassword := by
  have hne : pwdCheck p ≠ .ok () := by
    intro hok
    obtain ⟨⟨_, hl⟩, hc⟩ := (pwd_check_spec p).mp hok
    obtain ⟨hmax, _, hq, hd⟩ := pwd_check_table
    rcases h with h | h | h
    · omega
    · exact hc _ h hq
    · exact hc _ h hd
  revert hne
  unfold pwdCheck
  split
  · intro _; rfl
  · split
    · intro _; rfl
    · intro hne; exact absurd rfl hne

theorem encrypt_rejects (p : Str) (h : p.length > 127 ∨ '?' ∈ p ∨ '"' ∈ p)
    (k7 : Nat) (k8 : Pbkdf2) (k9 : Scrypt) (k5 : Md5Crypt) (salt : Str) :
    encryptType7 k7 p = .error .invalidPassword ∧ encryptType8 k8 salt p = .error .invalidPassword ∧
    encryptType9 k9 salt p = .error .invalidPassword ∧ encryptType5 k5 salt p = .error .invalidPassword := by
  simp [encryptType7, encryptType8, encryptType9, encryptType5, pwd_check_rejects p h]

example : pwdCheck "a?b".toList = .error .invalidPassword := by decide +kernel
example : pwdCheck (List.replicate 128 'x') = .error .invalidPassword := by decide +kernel
example : pwdCheck (List.replicate 127 'x') = .ok () := by decide +kernel

/-- **Reference encodings decode.**  For every salt that fits in two decimal digits (the 53 salts of
an independent encoder and the 16 salts 0..15 passlib draws are among them) and every non-empty
byte string, the library's `decrypt_type_7` walk over its own table returns the bytes, one
character per byte.  No length bound: the key index wraps modulo 53 on both sides. -/
theorem decrypt_encrypt_bytes (salt : Nat) (p : Bytes) (hs : salt < 100) (hne : p ≠ [])
    (hb : ∀ b ∈ p, b < 256) : decrypt7 (encrypt7 salt p) = .ok (p.map Char.ofNat) := by
  obtain ⟨a, b, hd, ha, hbn, hint⟩ := dec2_shape salt hs
  have hlen : (encrypt7 salt p).length % 2 = 0 := by
    simp [encrypt7, hd, length_xorBody]; omega
  have htw := takeWhile_all notNl _ (notNl_xorBody p salt)
  have hbody : (xorBody salt p).isEmpty = false := by
    cases p with
    | nil => exact absurd rfl hne
    | cons x xs => simp [xorBody, hex2]
  unfold decrypt7
  rw [if_neg (by omega)]
  simp only [encrypt7, hd, List.cons_append, List.nil_append, splitHead, ha, hbn, Bool.and_self,
    if_true, htw, hbody, Bool.false_eq_true, if_false, hint]
  exact decPairs_xorBody p salt hb

/-- **Round trip on text.**  What is needed of the password is exactly: non-empty and every
character below 128 (so that its UTF-8 bytes are its code points). -/
theorem decrypt_encrypt (salt : Nat) (p : Str) (hs : salt < 100) (hne : p ≠ [])
    (hascii : ∀ c ∈ p, c.toNat < 128) : decrypt7 (encrypt7 salt (encodeUtf8 p)) = .ok p := by
  rw [encodeUtf8_ascii p hascii]
  have := decrypt_encrypt_bytes salt (p.map Char.toNat) hs (by simpa using hne)
    (by intro b hb; obtain ⟨c, hc, rfl⟩ := List.mem_map.mp hb; have := hascii c hc; omega)
  simpa [Function.comp_def] using this

/-- **The library's own pair.**  Every non-empty ASCII password that `pwd_check` accepts is encoded by
`encrypt_type_7` (whatever salt passlib draws) into a string that `decrypt_type_7` maps back to it. -/
theorem decrypt_encrypt_lib (salt : Nat) (p : Str) (hs : salt < 16) (hok : pwdCheck p = .ok ())
    (hne : p ≠ []) (hascii : ∀ c ∈ p, c.toNat < 128) :
    ∃ ep, encryptType7 salt p = .ok ep ∧ decrypt7 ep = .ok p :=
  ⟨_, by simp [encryptType7, hok], decrypt_encrypt salt p (by omega) hne hascii⟩

/-- the property's input set: length 1..127 over printable ASCII minus `?` and `"` -/
def InQuantifier (p : Str) : Prop :=
  1 ≤ p.length ∧ p.length ≤ 127 ∧ ∀ c ∈ p, 32 ≤ c.toNat ∧ c.toNat ≤ 126 ∧ c ≠ '?' ∧ c ≠ '"'

/-- On the property's input set every password the helper accepts round-trips with every two-digit salt.
(By `pwd_check_spec` it accepts those without a character of the generated set beyond `?` and `"`; today
that is the backslash.) -/
theorem decrypt_encrypt_quantifier (salt : Nat) (p : Str) (hs : salt < 100) (hq : InQuantifier p)
    (hok : pwdCheck p = .ok ()) :
    ∃ ep, encryptType7 salt p = .ok ep ∧ decrypt7 ep = .ok p := by
  obtain ⟨h1, _, hc⟩ := hq
  refine ⟨_, by simp [encryptType7, hok], decrypt_encrypt salt p hs ?_ ?_⟩
  · intro h; simp [h] at h1
  · intro c hcm; have := hc c hcm; omega

-- non-vacuity: a 60-character password with salt 52 (the key index wraps twice)
example : decrypt7 (encrypt7 52 (encodeUtf8 (List.replicate 30 'a' ++ List.replicate 30 '~')))
    = .ok (List.replicate 30 'a' ++ List.replicate 30 '~') := by decide +kernel
example : encrypt7 8 (encodeUtf8 "cisco".toList) = "0822455D0A16".toList := by
  simp only [toList_lit]; decide +kernel
-- sharpness of the hypotheses: the empty password and a non-ASCII password do not round-trip
example : decrypt7 (encrypt7 5 (encodeUtf8 [])) = .error .attributeError := by decide +kernel
example : decrypt7 (encrypt7 8 (encodeUtf8 "é".toList)) = .ok "Ã©".toList := by decide +kernel
-- the decoder's escapes: odd length and non-numeric salt answer "", a lone digit pair raises
example : decrypt7 "08224".toList = .ok [] := by decide +kernel
example : decrypt7 "xx224F".toList = .ok [] := by decide +kernel
example : decrypt7 "08".toList = .error .attributeError := by decide +kernel

/-- **Type 8 layout.**  For every PBKDF2 that returns `dklen` bytes, every salt the fourteen-step loop can
build and every accepted password, the output is `$8$` + the 14 salt characters + `$` + 43
characters of the Cisco alphabet, and splitting on `$` gives back the salt and the hash. -/
theorem type8_format (kdf : Pbkdf2) (hk : ∀ algo pw s r n, (kdf algo pw s r n).length = n)
    (salt pwd : Str) (hs : ValidSalt Gen.type8SaltLen salt) (hp : pwdCheck pwd = .ok ()) :
    ∃ h, encryptType8 kdf salt pwd = .ok ("$8$".toList ++ salt ++ '$' :: h) ∧
      salt.length = 14 ∧ h.length = 43 ∧ (∀ c ∈ h, isCiscoChar c = true) ∧
      splitOn '$' ("$8$".toList ++ salt ++ '$' :: h) = [[], ['8'], salt, h] ∧
      h = ciscoHash (kdf "sha256" (encodeUtf8 pwd) (encodeUtf8 salt) 20000 32) := by
  obtain ⟨h43, hc, hsp⟩ := hash_layout ['8'] salt _
    (hk Gen.type8Algo (encodeUtf8 pwd) (encodeUtf8 salt) Gen.type8Rounds Gen.type8Dklen) (by decide) hs.2
  exact ⟨_, by simp only [encryptType8, hp]; rfl, hs.1, h43, hc, hsp, rfl⟩

/-- **Type 9 layout**, same statement with scrypt. -/
theorem type9_format (kdf : Scrypt) (hk : ∀ pw s N r p n, (kdf pw s N r p n).length = n)
    (salt pwd : Str) (hs : ValidSalt Gen.type9SaltLen salt) (hp : pwdCheck pwd = .ok ()) :
    ∃ h, encryptType9 kdf salt pwd = .ok ("$9$".toList ++ salt ++ '$' :: h) ∧
      salt.length = 14 ∧ h.length = 43 ∧ (∀ c ∈ h, isCiscoChar c = true) ∧
      splitOn '$' ("$9$".toList ++ salt ++ '$' :: h) = [[], ['9'], salt, h] ∧
      h = ciscoHash (kdf (encodeUtf8 pwd) (encodeUtf8 salt) 16384 1 1 32) := by
  obtain ⟨h43, hc, hsp⟩ := hash_layout ['9'] salt _
    (hk (encodeUtf8 pwd) (encodeUtf8 salt) Gen.type9N Gen.type9r Gen.type9p Gen.type9Buflen) (by decide) hs.2
  exact ⟨_, by simp only [encryptType9, hp]; rfl, hs.1, h43, hc, hsp, rfl⟩

/-- **Type 5 layout**: `$1$` + 4 salt characters + `$` + whatever checksum MD5-crypt returns (22 characters
of the same alphabet for the real one — assumed here, measured by the check). -/
theorem type5_format (kdf : Md5Crypt)
    (hk : ∀ pw s, (kdf pw s).length = 22 ∧ ∀ c ∈ kdf pw s, isCiscoChar c = true)
    (salt pwd : Str) (hs : ValidSalt Gen.type5SaltLen salt) (hp : pwdCheck pwd = .ok ())
    (hnul : Char.ofNat 0 ∉ pwd) :
    ∃ h, encryptType5 kdf salt pwd = .ok ("$1$".toList ++ salt ++ '$' :: h) ∧
      salt.length = 4 ∧ h.length = 22 ∧
      splitOn '$' ("$1$".toList ++ salt ++ '$' :: h) = [[], ['1'], salt, h] ∧
      h = kdf (encodeUtf8 pwd) salt := by
  obtain ⟨h22, hcc⟩ := hk (encodeUtf8 pwd) salt
  refine ⟨_, ?_, hs.1, h22, fmt_split ['1'] salt _ (by decide) hs.2 hcc, rfl⟩
  simp only [encryptType5, hp]
  rw [if_neg (by simpa using hnul)]; rfl

/-- `type8_9_format` of the design: both layouts at once. -/
theorem type8_9_format (k8 : Pbkdf2) (k9 : Scrypt)
    (h8 : ∀ algo pw s r n, (k8 algo pw s r n).length = n) (h9 : ∀ pw s N r p n, (k9 pw s N r p n).length = n)
    (salt pwd : Str) (hs : ValidSalt 14 salt) (hp : pwdCheck pwd = .ok ()) :
    (∃ h, encryptType8 k8 salt pwd = .ok ("$8$".toList ++ salt ++ '$' :: h) ∧ h.length = 43 ∧
      (∀ c ∈ h, isCiscoChar c = true) ∧ splitOn '$' ("$8$".toList ++ salt ++ '$' :: h) = [[], ['8'], salt, h]) ∧
    (∃ h, encryptType9 k9 salt pwd = .ok ("$9$".toList ++ salt ++ '$' :: h) ∧ h.length = 43 ∧
      (∀ c ∈ h, isCiscoChar c = true) ∧ splitOn '$' ("$9$".toList ++ salt ++ '$' :: h) = [[], ['9'], salt, h]) := by
  obtain ⟨a, e1, _, e2, e3, e4, _⟩ := type8_format k8 h8 salt pwd hs hp
  obtain ⟨b, f1, _, f2, f3, f4, _⟩ := type9_format k9 h9 salt pwd hs hp
  exact ⟨⟨a, e1, e2, e3, e4⟩, ⟨b, f1, f2, f3, f4⟩⟩

/-! ### types 8, 9, 5: "verify when recomputed" — PARTIAL

Full statement (NOT proved; the KDFs are not defined in Lean):
  `encrypt_type_8 pwd = "$8$" ++ salt ++ "$" ++ cisco64 (PBKDF2-HMAC-SHA256 (pwd, salt, c = 20000, dkLen = 32))`,
  `encrypt_type_9 pwd = "$9$" ++ salt ++ "$" ++ cisco64 (scrypt (pwd, salt, N = 16384, r = 1, p = 1, dkLen = 32))`,
  `encrypt_type_5 pwd = "$1$" ++ salt ++ "$" ++ MD5-crypt (pwd, salt)`.
Proved: the same equations with `kdf` standing for whatever `hashlib.pbkdf2_hmac`, `scrypt.hash`, passlib's
`md5_crypt` compute — i.e. which function is called, on which bytes, with which numerals (read from the
source by the translator), and that nothing but the alphabet translation and the dropped `=` happens to
the answer.  Missing: `kdf` = the mathematical KDF.  That part is measured on every run by recomputing each
generated hash from its embedded salt with independent code. -/
theorem type8_verifies_partial (kdf : Pbkdf2) (salt pwd : Str) (hp : pwdCheck pwd = .ok ()) :
    encryptType8 kdf salt pwd =
      .ok (fmt ['8'] salt (ciscoHash (kdf "sha256" (encodeUtf8 pwd) (encodeUtf8 salt) 20000 32))) := by
  simp only [encryptType8, hp]; rfl

theorem type9_verifies_partial (kdf : Scrypt) (salt pwd : Str) (hp : pwdCheck pwd = .ok ()) :
    encryptType9 kdf salt pwd =
      .ok (fmt ['9'] salt (ciscoHash (kdf (encodeUtf8 pwd) (encodeUtf8 salt) 16384 1 1 32))) := by
  simp only [encryptType9, hp]; rfl

theorem type5_verifies_partial (kdf : Md5Crypt) (salt pwd : Str) (hp : pwdCheck pwd = .ok ())
    (hnul : Char.ofNat 0 ∉ pwd) :
    encryptType5 kdf salt pwd = .ok (fmt ['1'] salt (kdf (encodeUtf8 pwd) salt)) := by
  simp only [encryptType5, hp]
  rw [if_neg (by simpa using hnul)]

-- non-vacuity: a constant "KDF" of 32 bytes, a valid salt, an accepted password
example : encryptType8 (fun _ _ _ _ n => List.replicate n 255) "abcdefghijklmn".toList "pw".toList
    = .ok "$8$abcdefghijklmn$zzzzzzzzzzzzzzzzzzzzzzzzzzzzzzzzzzzzzzzzzzw".toList := by
  simp only [toList_lit]; decide +kernel
example : ValidSalt Gen.type8SaltLen "abcdefghijklm/".toList := by
  simp only [ValidSalt, toList_lit]; decide +kernel
example : (ciscoHash (List.replicate 32 0)).length = 43 := by decide +kernel

/-! ### types 8, 9: nothing is ever "decrypted"

The property speaks of *verifying* type 8/9 hashes by recomputation; the class also carries `decrypt_type_8` and
`decrypt_type_9`.  They never return a plaintext (so no caller can mistake some string for a recovered password):
for every argument the answer is `NotImplementedError`. -/
theorem type8_type9_never_decrypt (t : Str) :
    decryptType8 t = .error .notImplementedError ∧ decryptType9 t = .error .notImplementedError := ⟨rfl, rfl⟩

end Ccp.C17
