import Ccp.Proofs.Mac
import Ccp.Proofs.MacSearch
import Ccp.Gen.Tables
/-!
# C16 — MAC and EUI-64 objects: every rendering denotes the same address

Property theorems only; helper lemmas and the spec functions (`toHex`, `ofHex`, `fill`,
`tmatch`, `hexFold`, `tpl`) live in `Ccp.Proofs.Mac`.

Reading guide.  `k : Kind` is `MACObj` (6 bytes) or `EUI64Obj` (8 bytes).
`parseObj k s` is the constructor on a `str` (`.ok value` or `.error .valueError`).
`tpl k i` is the i-th template of `macaddress` for that size
(`xx-xx-…`, `xx:xx:…`, `xxxx.xxxx.…`, bare hex).  `fill t ds` writes the digits `ds` into the
`x` positions of template `t`; `toHex w v` is `format(v, "0{w}x")`; `tmatch t s` says that the
text `s` instantiates template `t` with hex digits of either case.
-/
namespace Ccp.C16
open Ccp.Mac Ccp.Py

/-- the `2·nbytes` lower-case hex digits of an address, most significant first -/
abbrev digits (k : Kind) (v : Nat) : Str := toHex (2 * k.nbytes) v

/-- **hex_roundtrip**: reading back the `w`-digit hex text of `v < 16^w` gives `v`. -/
theorem hex_roundtrip (w v : Nat) (h : v < 16 ^ w) : ofHex (toHex w v) = v := by
  rw [ofHex_toHex, Nat.mod_eq_of_lt h]

example : toHex 4 0x0a0f = "0a0f".toList ∧ ofHex "0A0f".toList = 0x0a0f := by
  simp only [toList_lit]
  decide +kernel

/-- **render_lower_grouped**: for every value, each rendering is the corresponding template
(dash, colon, Cisco-dotted; `unix` is the dash form) with its `x` positions filled, left to
right, by the lower-case hex digits of the value — hence grouped in twos (fours) with the
right separator — and it contains nothing but lower-case hex digits and that separator. -/
theorem render_lower_grouped (k : Kind) (v : Nat) :
    dash k v = fill (tpl k 0) (digits k v) ∧
    colon k v = fill (tpl k 1) (digits k v) ∧
    cisco k v = fill (tpl k 2) (digits k v) ∧
    unix v = fill (tpl .mac 0) (digits .mac v) ∧
    (∀ c ∈ dash k v, c ∈ lowerDigits ∨ c = '-') ∧
    (∀ c ∈ colon k v, c ∈ lowerDigits ∨ c = ':') ∧
    (∀ c ∈ cisco k v, c ∈ lowerDigits ∨ c = '.') := by
  refine ⟨dash_eq k v, colon_eq k v, cisco_eq k v, dash_eq .mac v, ?_, ?_, ?_⟩
  · rw [dash_eq]
    exact fill_chars k _ (tpl_mem k 0 (by omega)) v '-' (by cases k <;> decide +kernel)
  · rw [colon_eq]
    exact fill_chars k _ (tpl_mem k 1 (by omega)) v ':' (by cases k <;> decide +kernel)
  · rw [cisco_eq]
    exact fill_chars k _ (tpl_mem k 2 (by omega)) v '.' (by cases k <;> decide +kernel)

-- the templates, spelled out
example : tpl .mac 0 = "xx-xx-xx-xx-xx-xx".toList ∧ tpl .mac 1 = "xx:xx:xx:xx:xx:xx".toList ∧
    tpl .mac 2 = "xxxx.xxxx.xxxx".toList ∧ tpl .mac 3 = "xxxxxxxxxxxx".toList := by
  simp only [toList_lit]
  decide +kernel
example : tpl .eui64 0 = "xx-xx-xx-xx-xx-xx-xx-xx".toList ∧ tpl .eui64 1 = "xx:xx:xx:xx:xx:xx:xx:xx".toList ∧
    tpl .eui64 2 = "xxxx.xxxx.xxxx.xxxx".toList ∧ tpl .eui64 3 = "xxxxxxxxxxxxxxxx".toList := by
  simp only [toList_lit]
  decide +kernel
-- leading-zero bytes, an `ff` byte, letters
example : cisco .mac 0x000a0bff0c0d = "000a.0bff.0c0d".toList ∧ colon .mac 0x000a0bff0c0d = "00:0a:0b:ff:0c:0d".toList ∧
    dash .eui64 0x000a0bff0c0d0e0f = "00-0a-0b-ff-0c-0d-0e-0f".toList := by
  simp only [toList_lit]
  decide +kernel

/-- **render_bytes_mac**, **render_bytes_eui64**: the same renderings read byte-wise — the two lower-case hex digits of each
byte, most significant byte first, joined by the separator (Cisco form: bytes paired). -/
theorem render_bytes_mac (v : Nat) :
    let b := fun j => toHex 2 (v / 256 ^ (5 - j) % 256)
    dash .mac v = join ['-'] [b 0, b 1, b 2, b 3, b 4, b 5] ∧
    colon .mac v = join [':'] [b 0, b 1, b 2, b 3, b 4, b 5] ∧
    cisco .mac v = join ['.'] [b 0 ++ b 1, b 2 ++ b 3, b 4 ++ b 5] := by
  intro b
  exact ⟨sepJoin_eq .mac '-' v, sepJoin_eq .mac ':' v, cisco_bytes .mac v⟩

theorem render_bytes_eui64 (v : Nat) :
    let b := fun j => toHex 2 (v / 256 ^ (7 - j) % 256)
    dash .eui64 v = join ['-'] [b 0, b 1, b 2, b 3, b 4, b 5, b 6, b 7] ∧
    colon .eui64 v = join [':'] [b 0, b 1, b 2, b 3, b 4, b 5, b 6, b 7] ∧
    cisco .eui64 v = join ['.'] [b 0 ++ b 1, b 2 ++ b 3, b 4 ++ b 5, b 6 ++ b 7] := by
  intro b
  exact ⟨sepJoin_eq .eui64 '-' v, sepJoin_eq .eui64 ':' v, cisco_bytes .eui64 v⟩

/-- **reparse_eq**: for every 48-bit (64-bit) value each rendering — and the separator-free
form `dash.replace('-', '')` that `macgrep` searches — constructs an object with the same value. -/
theorem reparse_eq (k : Kind) (v : Nat) (hv : v < 2 ^ (8 * k.nbytes)) :
    parseObj k (dash k v) = .ok v ∧ parseObj k (colon k v) = .ok v ∧
    parseObj k (cisco k v) = .ok v ∧ parseObj k ((dash k v).filter (· != '-')) = .ok v := by
  rw [bare_eq, dash_eq, colon_eq, cisco_eq]
  exact ⟨parse_fill k _ (tpl_mem k 0 (by omega)) v hv, parse_fill k _ (tpl_mem k 1 (by omega)) v hv,
    parse_fill k _ (tpl_mem k 2 (by omega)) v hv, parse_fill k _ (tpl_mem k 3 (by omega)) v hv⟩

theorem reparse_unix (v : Nat) (hv : v < 2 ^ 48) : parseObj .mac (unix v) = .ok v :=
  (reparse_eq .mac v hv).1

example : (2 : Nat) ^ 48 - 1 < 2 ^ (8 * Kind.mac.nbytes) := by decide +kernel

/-- **accepted_iff** (all spellings, all letter cases): a text is accepted exactly when it
instantiates one of the four templates of its size — every `x` position holds one of
`0-9A-Fa-f`, every other position the template's separator — and the value is then the number
spelled by its hex digits. -/
theorem accepted_iff (k : Kind) (s : Str) (v : Nat) :
    parseObj k s = .ok v ↔ (∃ t ∈ k.cls.formats, tmatch t s = true) ∧ v = hexFold 0 s := by
  rw [parseObj_eq, ← List.any_eq_true]
  cases k.cls.formats.any (fun t => tmatch t s) <;> simp [eq_comm]

/-- **spelling_accepted**: conversely every way of writing `2·nbytes` hex digits, in any mix of
upper and lower case, into any of the four templates is accepted and denotes those digits. -/
theorem spelling_accepted (k : Kind) (t : Str) (ht : t ∈ k.cls.formats) (ds : Str)
    (hd : ∀ d ∈ ds, isHex d = true) (hl : ds.length = 2 * k.nbytes) :
    parseObj k (fill t ds) = .ok (ofHex ds) :=
  parse_fill_digits k t ht ds hd hl

/-- **case_irrelevant**: two spellings in the same template whose digits have the same values
position by position (e.g. they differ only in letter case) construct the same value. -/
theorem case_irrelevant (k : Kind) (t : Str) (ht : t ∈ k.cls.formats) (ds ds' : Str)
    (hd : ∀ d ∈ ds, isHex d = true) (hd' : ∀ d ∈ ds', isHex d = true)
    (hl : ds.length = 2 * k.nbytes) (hl' : ds'.length = 2 * k.nbytes)
    (h : ds.map hexVal = ds'.map hexVal) :
    parseObj k (fill t ds) = parseObj k (fill t ds') := by
  have e : ∀ l : Str, ofHex l = (l.map hexVal).foldl (fun a x => a * 16 + x) 0 := by
    intro l; simp [ofHex, List.foldl_map]
  rw [spelling_accepted k t ht ds hd hl, spelling_accepted k t ht ds' hd' hl', e ds, e ds', h]

example : "00aAbBcCdDfF".toList.map hexVal = "00AABBCCDDFF".toList.map hexVal := by
  simp only [toList_lit]
  decide +kernel

-- mixed case, Cisco template; the same digits in another case denote the same value
example : fill (tpl .mac 2) "00aAbBcCdDfF".toList = "00aA.bBcC.dDfF".toList ∧
    ofHex "00aAbBcCdDfF".toList = ofHex "00AABBCCDDFF".toList := by
  simp only [toList_lit]
  decide +kernel

/-- every accepted text denotes a value below `2^48` (`2^64`) -/
theorem value_in_range (k : Kind) (s : Str) (v : Nat) (h : parseObj k s = .ok v) :
    v < 2 ^ (8 * k.nbytes) := parseObj_lt k s v h

/-- **eq_iff_value**: two objects built from any two accepted texts (whatever template and
letter case) compare `==` iff their values are equal; the same holds for `==` against a plain
`macaddress` object of the same class. -/
theorem eq_iff_value (k : Kind) (s1 s2 : Str) (v1 v2 : Nat)
    (h1 : parseObj k s1 = .ok v1) (h2 : parseObj k s2 = .ok v2) :
    (eq k v1 v2 = true ↔ v1 = v2) ∧ (eqRaw k v1 v2 = true ↔ v1 = v2) :=
  eq_iff_of_lt k v1 v2 (parseObj_lt k s1 v1 h1) (parseObj_lt k s2 v2 h2)

-- two spellings of one address, and a neighbour
example : (parseObj .mac "00AA.bbCC.0001".toList).toOption = some 0x00aabbcc0001 ∧
    (parseObj .mac "00:aa:BB:cc:00:01".toList).toOption = some 0x00aabbcc0001 ∧
    eq .mac 0x00aabbcc0001 0x00aabbcc0001 = true ∧ eq .mac 0x00aabbcc0001 0x00aabbcc0002 = false := by
  simp only [toList_lit]
  decide +kernel

/-- **wrong_length_rejected**: a text whose length is not that of one of the four templates of
the class (12, 14, 17 characters for 48 bits; 16, 19, 23 for 64 bits) raises `ValueError`;
in particular a 64-bit spelling is not a `MACObj` and vice versa. -/
theorem wrong_length_rejected (k : Kind) (s : Str)
    (h : match k with
      | .mac => s.length ≠ 12 ∧ s.length ≠ 14 ∧ s.length ≠ 17
      | .eui64 => s.length ≠ 16 ∧ s.length ≠ 19 ∧ s.length ≠ 23) :
    parseObj k s = .error .valueError := by
  rw [parseObj_eq]
  have : k.cls.formats.any (fun t => tmatch t s) = false := by
    rw [Bool.eq_false_iff]
    intro hany
    obtain ⟨t, ht, hm⟩ := List.any_eq_true.mp hany
    have hl := tmatch_length t s hm
    cases k
    · have := (by decide +kernel : ∀ t ∈ eui48.formats, t.length = 12 ∨ t.length = 14 ∨ t.length = 17) t ht
      omega
    · have := (by decide +kernel : ∀ t ∈ eui64.formats, t.length = 16 ∨ t.length = 19 ∨ t.length = 23) t ht
      omega
  rw [this]; rfl

/-- **rejected_iff**: more generally a text is rejected (always with `ValueError`) exactly when
it instantiates none of the templates — right length or not. -/
theorem rejected_iff (k : Kind) (s : Str) :
    parseObj k s = .error .valueError ↔ ∀ t ∈ k.cls.formats, tmatch t s = false := by
  rw [parseObj_eq]
  cases h : k.cls.formats.any (fun t => tmatch t s)
  · simpa using List.any_eq_false.mp h
  · obtain ⟨t, ht, hm⟩ := List.any_eq_true.mp h
    simpa using ⟨t, ht, hm⟩

-- near misses: one group short, a 1-digit group, mixed separators, 13 hex digits, a non-hex
-- letter, a literal `x`, a blank before / after, the other size
example : ["0123.45ab".toList, "1:23:45:ab:cd:ef".toList, "01-23-45:ab-cd-ef".toList,
    "0123456789abc".toList, "0123.45ab.cdeg".toList, "xxxx.xxxx.xxxx".toList, " 0123.45ab.cdef".toList,
    "0123.45ab.cdef ".toList, "0123.45ab.cdef.0001".toList, []].all
      (fun s => (parseObj .mac s).toOption == none) = true := by
  simp only [toList_lit]
  decide +kernel
example : (parseObj .eui64 "0123.45ab.cdef.0001".toList).toOption = some 0x012345abcdef0001 ∧
    (parseObj .eui64 "0123.45ab.cdef".toList).toOption = none := by
  simp only [toList_lit]
  decide +kernel

/-! ## The templates are those of the installed package -/

/-- **templates_as_modelled**: the templates, sizes and hex alphabet written in the model are
those of the installed `macaddress` package (`Ccp.Gen.Tables` is regenerated from
`macaddress.EUI48.formats` / `EUI64.formats` / `.size` / `_HEX_DIGITS` on every run). -/
theorem templates_as_modelled :
    Gen.macTemplates48.map String.toList = eui48.formats ∧
    Gen.macTemplates64.map String.toList = eui64.formats ∧
    Gen.macSize48 = eui48.size ∧ Gen.macSize64 = eui64.size ∧
    Gen.macHexDigits.toList = hexDigits := by
  simp only [Gen.macTemplates48, Gen.macTemplates64, Gen.macHexDigits, List.map, toList_lit]
  decide +kernel

/-! ## `macaddress.parse(word, MAC, EUI64)` — the classification `MACEUISearch` (macgrep) uses -/

/-- **classify_iff_parseObj**: a word is classified as kind `k` with value `v` exactly when the
constructor of that kind (`MACObj` for 48 bits, `EUI64Obj` for 64 bits) accepts it with value `v`. -/
theorem classify_iff_parseObj (w : Str) (k : Kind) (v : Nat) :
    classify w = .ok (k, v) ↔ parseObj k w = .ok v := Mac.classify_iff_parseObj w k v

/-- **classify_spec**: a word is classified as the 48-bit (64-bit) kind iff it instantiates one of
that size's four templates, and the value is the number its hex digits spell … -/
theorem classify_spec (w : Str) (k : Kind) (v : Nat) :
    classify w = .ok (k, v) ↔ (∃ t ∈ k.cls.formats, tmatch t w = true) ∧ v = hexFold 0 w := by
  rw [classify_iff_parseObj, accepted_iff]

/-- … never both: no word is accepted by the constructors of both sizes (so the classification
does not depend on the order of the classes in the call). -/
theorem classify_exclusive (w : Str) (v v' : Nat) :
    ¬ (parseObj .mac w = .ok v ∧ parseObj .eui64 w = .ok v') := by
  rintro ⟨h1, h2⟩
  have a := (classify_iff_parseObj w .mac v).mpr h1
  have b := (classify_iff_parseObj w .eui64 v').mpr h2
  rw [a] at b
  cases b

/-- **classify_rejects_iff**: a word is rejected (`ValueError`, `mac_retval = None`) exactly when
it instantiates no template of either size, i.e. when both constructors reject it. -/
theorem classify_rejects_iff (w : Str) :
    classify w = .error .valueError ↔
      (∀ k : Kind, ∀ t ∈ k.cls.formats, tmatch t w = false) := by
  rw [classify_error_iff]
  exact forall_congr' fun k => rejected_iff k w

example : (classify "dead.beef.0001".toList).toOption = some (.mac, 0xdeadbeef0001) ∧
    (classify "DE-AD-BE-EF-00-01-00-02".toList).toOption = some (.eui64, 0xdeadbeef00010002) ∧
    (classify "dead.beef.001".toList).toOption = none := by
  simp only [toList_lit]
  decide +kernel

/-! ## `==` across sizes and against plain `macaddress` objects -/

/-- **eq_across_kinds**: `==` between any two objects — `MACObj`, `EUI64Obj`, plain
`macaddress.EUI48` / `EUI64`, in either order — built from accepted texts is true exactly when
they have the same size and the same address.  In particular a 48-bit and a 64-bit object with
the same integer are never equal, and a wrapper equals the plain object of its own size with the
same address (from either side). -/
theorem eq_across_kinds (a b : Obj) (sa sb : Str)
    (ha : parseObj a.kind sa = .ok a.value) (hb : parseObj b.kind sb = .ok b.value) :
    objEq a b = true ↔ a.kind = b.kind ∧ a.value = b.value :=
  objEq_iff a b (parseObj_lt _ sa _ ha) (parseObj_lt _ sb _ hb)

/-- the same integer in the two sizes: unequal for every value and every combination of wrapper /
plain objects, with no hypothesis on the value -/
theorem same_integer_other_size_ne (v w : Nat) :
    objEq (.wrapped .mac v) (.wrapped .eui64 w) = false ∧ objEq (.wrapped .eui64 v) (.wrapped .mac w) = false ∧
    objEq (.wrapped .mac v) (.plain .eui64 w) = false ∧ objEq (.wrapped .eui64 v) (.plain .mac w) = false ∧
    objEq (.plain .mac v) (.wrapped .eui64 w) = false ∧ objEq (.plain .eui64 v) (.wrapped .mac w) = false := by
  simp [objEq]

example : objEq (.wrapped .mac 0xff) (.plain .mac 0xff) = true ∧ objEq (.plain .mac 0xff) (.wrapped .mac 0xff) = true ∧
    objEq (.wrapped .mac 0xff) (.wrapped .eui64 0xff) = false ∧ objEq (.plain .eui64 0xff) (.wrapped .eui64 0xfe) = false := by
  decide

/-! ## `str()` / `repr()` of the objects -/

/-- **str_repr_spec**: `str(obj)` and `repr(obj)` are `<MACObj T>` / `<EUI64Obj T>` where `T` is the
canonical text of macaddress; `T` is the dash rendering in upper case (lower-casing it gives `dash`),
it is the dash template filled with the upper-case digits of the value, and — like every other
rendering — it constructs an object with the same value. -/
theorem str_repr_spec (k : Kind) (v : Nat) (hv : v < 2 ^ (8 * k.nbytes)) :
    reprObj k v = reprHead k ++ hwStr k.cls v ++ ['>'] ∧
    hwStr k.cls v = fill (tpl k 0) (toHexU (2 * k.nbytes) v) ∧
    lower (hwStr k.cls v) = dash k v ∧
    parseObj k (hwStr k.cls v) = .ok v :=
  ⟨rfl, hwStr_eq k v, by rw [lower_hwStr_eq, dash_eq], parseObj_hwStr k v hv⟩

example : reprHead .mac = "<MACObj ".toList ∧ reprHead .eui64 = "<EUI64Obj ".toList ∧
    reprObj .mac 0x000a0bff0c0d = "<MACObj 00-0A-0B-FF-0C-0D>".toList ∧
    reprObj .eui64 0x000a0bff0c0d0e0f = "<EUI64Obj 00-0A-0B-FF-0C-0D-0E-0F>".toList := by
  simp only [toList_lit]
  decide +kernel

/-! ## `MACEUISearch`: `__str__` and `search_all_formats` (macgrep) -/

/-- **search_str_spec**: `str(MACEUISearch(word))` names the word and the Cisco rendering of the
address the word was classified as (`MAC` for 48 bits, `EUI64` for 64 bits), or `None`. -/
theorem search_str_spec (w : Str) :
    (∀ v, parseObj .mac w = .ok v → searchStr w =
      searchHead ++ w ++ searchMid ++ (['M', 'A', 'C', ' '] ++ cisco .mac v) ++ ['>']) ∧
    (∀ v, parseObj .eui64 w = .ok v → searchStr w =
      searchHead ++ w ++ searchMid ++ (['E', 'U', 'I', '6', '4', ' '] ++ cisco .eui64 v) ++ ['>']) ∧
    ((∀ k : Kind, parseObj k w = .error .valueError) → searchStr w =
      searchHead ++ w ++ searchMid ++ ['N', 'o', 'n', 'e'] ++ ['>']) := by
  refine ⟨fun v h => ?_, fun v h => ?_, fun h => ?_⟩
  · rw [searchStr, (classify_iff_parseObj w .mac v).mpr h]; rfl
  · rw [searchStr, (classify_iff_parseObj w .eui64 v).mpr h]; rfl
  · rw [searchStr, (classify_error_iff w).mpr h]; rfl

example : searchHead = "<MACEUISearch word: ".toList ∧ searchMid = ", found: ".toList ∧
    searchStr "DEAD.beef.0001".toList = "<MACEUISearch word: DEAD.beef.0001, found: MAC dead.beef.0001>".toList ∧
    searchStr "dead.beef".toList = "<MACEUISearch word: dead.beef, found: None>".toList := by
  simp only [toList_lit]
  decide +kernel

/-- **search_iff**: `search_all_formats(regexes)` is true exactly when the word is an address (of
either size) and some regex of the set is found in its dash, colon, Cisco or undelimited rendering;
a word that is not an address matches nothing.  `rxSearch` is `re.search` only for regexes made of hex
digits, `-`, `:` and the wildcard `.` (`rxCharOk`); it takes every other character literally. -/
theorem search_iff (rgxs : List Str) (w : Str) :
    searchAllFormats rgxs w = true ↔
      ∃ k v, parseObj k w = .ok v ∧ ∃ r ∈ rgxs, ∃ t ∈ searchTexts k v, rxSearch r t = true := by
  cases hc : classify w with
  | error e =>
    cases e
    have hno := (classify_error_iff w).mp hc
    rw [searchAllFormats, hc]
    exact ⟨nofun, fun ⟨k, v, hp, _⟩ => by rw [hno k] at hp; cases hp⟩
  | ok r =>
    have hp := (classify_iff_parseObj w r.1 r.2).mp hc
    rw [searchAllFormats_of_parse hp]
    simp only [List.any_eq_true]
    refine ⟨fun h => ⟨_, _, hp, h⟩, fun ⟨k, v, hp', h⟩ => ?_⟩
    have := (classify_iff_parseObj w k v).mpr hp'
    rw [hc] at this
    cases this
    exact h

/-- **search_finds_own_renderings**: searching for any of the four renderings of an address (used
verbatim as the regex; the `.` of the Cisco form is then a wildcard) finds every spelling of that
address — whatever template and letter case the word was written in. -/
theorem search_finds_own_renderings (k : Kind) (w : Str) (v : Nat) (h : parseObj k w = .ok v) :
    ∀ t ∈ searchTexts k v, searchAllFormats [t] w = true := by
  intro t ht
  rw [searchAllFormats_of_parse h, List.any_cons, List.any_nil, Bool.or_false, List.any_eq_true]
  exact ⟨t, ht, by simpa using rxSearch_infix t [] []⟩

/-- **search_literal_iff**: a regex made only of lower-case hex digits, `-` and `:` (no
metacharacter) is found exactly when it is a substring of one of the four renderings. -/
theorem search_literal_iff (k : Kind) (w : Str) (v : Nat) (h : parseObj k w = .ok v) (r : Str)
    (hr : ∀ c ∈ r, c ∈ lowerDigits ∨ c = '-' ∨ c = ':') :
    searchAllFormats [r] w = true ↔ ∃ t ∈ searchTexts k v, r <:+: t := by
  have hr' : ∀ c ∈ r, c ≠ '.' ∧ lowerChar c = c := fun c hc => by
    rcases hr c hc with h | rfl | rfl
    · exact (by decide +kernel : ∀ c ∈ lowerDigits, c ≠ '.' ∧ lowerChar c = c) c h
    · decide
    · decide
  rw [searchAllFormats_of_parse h]
  simp only [List.any_cons, List.any_nil, Bool.or_false, List.any_eq_true]
  exact exists_congr fun t => and_congr_right fun ht =>
    rxSearch_literal r hr' t (searchTexts_lower k v t ht)

-- a piece that crosses a byte boundary is found only through the undelimited text; letter case of
-- the regex does not matter; a non-address matches nothing, not even the empty regex
example : searchAllFormats ["adbe".toList] "DE-AD-BE-EF-00-01".toList = true ∧
    searchAllFormats ["AD:BE".toList] "dead.beef.0001".toList = true ∧
    searchAllFormats ["ad.be".toList] "dead.beef.0001".toList = true ∧
    searchAllFormats ["adbf".toList] "dead.beef.0001".toList = false ∧
    searchAllFormats [[]] "dead.beef.001".toList = false ∧
    searchAllFormats [] "dead.beef.0001".toList = false := by
  simp only [toList_lit]
  decide +kernel

end Ccp.C16
