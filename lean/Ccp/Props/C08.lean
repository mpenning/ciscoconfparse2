import Ccp.Proofs.BraceClose
import Ccp.Proofs.BraceOpts
import Ccp.Props.C02
import Ccp.Props.C03
/-!
# C08 — brace-delimited configs become an indentation tree that mirrors the nesting

Property theorems only.  Specification (`Stmt`, `flatten`, `treeParents`, `Layout`,
`render`, well-formedness): `Ccp/Spec/Brace.lean`; model: `Ccp/Model/Brace.lean`; lemmas:
`Ccp/Proofs/Brace.lean` (round trip), `BraceClose.lean` (missing brace), `BraceTree.lean`
(parents).  The last part (options `stop_width`, `semicolon_end`, `ignore_blank_lines`,
the argument checks of the entry points) is about `Ccp/Model/BraceOpts.lean`, lemmas in
`Ccp/Proofs/BraceOpts.lean`.
-/
namespace Ccp.C08
open Ccp.Brace Ccp.Py Ccp.Tree

/-- the width `CiscoConfParse(syntax='junos')` indents with is the property's "four spaces"
(table lemma over the generated constant) -/
theorem stop_width_is_four : Gen.junosStopWidth = 4 := by decide

/-- **Round trip.**  For every well-formed statement tree (words: non-empty visible ASCII
without braces; first word of a statement not starting with a quote — F31; last word not
ending in `;`) and every layout whose white space consists of blanks, tabs, LF and CR —
indentation by blanks or tabs, blank lines, trailing white space, semicolon present or absent
per statement, brace on the same or a later line, one-line blocks, empty blocks, several
blocks on a line — whatever way the rendering is cut into input lines,
`CiscoConfParse(lines, syntax='junos')` hands the bootstrap exactly the preorder flattening,
four blanks per enclosing block, closing braces producing nothing.

Remaining hypotheses, all explicit: `ListOk T` (above) and `LayoutOk L` (layout white space is
white space).  `#` comment lines are not a layout dimension: `BraceParse` never consults
`comment_delimiters`, a comment line is a statement and yields a line (it is covered here as
a leaf whose first word starts with `#`).  A tab *inside* a statement is outside `WordOk`
(pyparsing turns it into blanks inside the token). -/
theorem brace_roundtrip (L : Layout) (T : List Stmt) (hT : ListOk T) (hL : LayoutOk L)
    (lines : List Str) (hne : lines ≠ []) (hl : join ['\n'] lines = render L T) :
    junosToIos lines = .ok (flatten T) := by
  unfold junosToIos convertJunosToIos
  rw [if_neg hne, hl, stop_width_is_four]
  exact braceText_render L hL T hT

/-- **Parents.**  In the flattening of a well-formed tree the nearest preceding line with
strictly smaller indentation (`indentParents`, the indentation-parent rule stated locally)
is, for every line, the statement that opened its innermost enclosing block
(`treeParents`); top-level statements are roots.  Closing braces produce no lines by
construction of `flatten`. -/
theorem flatten_parent (T : List Stmt) (hT : ListOk T) :
    indentParents (flatten T) = treeParents T :=
  indentParents_flatten T hT

/-- **Missing closing brace.**  Deleting any one `}` from the rendering of a well-formed tree
(any layout, tabs included; quote characters inside statements allowed) makes the conversion
raise `ParseException`, however the text is cut into lines.  (Argument: in such a text no
token starts with a quote, before or after the deletion, so `quoted_string` never hides a
brace and the group opened by the wrapper cannot close.) -/
theorem missing_close_errors (L : Layout) (T : List Stmt) (hT : ListOk T) (hL : LayoutOk L)
    (a b : Str) (hab : render L T = a ++ '}' :: b)
    (lines : List Str) (hne : lines ≠ []) (hl : join ['\n'] lines = a ++ b) :
    junosToIos lines = .error .parseException := by
  unfold junosToIos convertJunosToIos
  rw [if_neg hne, hl]
  exact render_missing_close _ L hL T hT a b hab

/-! ### on the shared tree model (C01–C03) -/

/-- the bootstrap options of the model are the tables of `/repo`: `'#'` is the junos comment
delimiter and junos is a brace syntax (no banner / macro pass) -/
theorem junos_tables :
    Gen.syntaxCommentDelimiters.lookup "junos" = some ["#"] ∧ "junos" ∈ Gen.allBraceSyntax ∧
    junosCfg.delims = ['#'] := by decide +kernel

/-- **The local parent rule is C02's rule** on configuration lines: for every list of lines
none of which is blank or a comment, pass 1 of the shared bootstrap model — which
`Ccp.C02.linkByIndent_eq_spec` proves equal to `specParent` — gives every line the parent
that `indentParents` (nearest preceding line with strictly smaller indentation) gives it,
a root being its own parent (`selfRoots`). -/
theorem local_rule_is_specParent (cfg : Cfg) (ls : List Str)
    (hcfg : ∀ l ∈ ls, isConfigLine cfg l = true) :
    linkByIndent cfg ls = selfRoots 0 (indentParents ls) ∧
    ∀ i, i < ls.length → (selfRoots 0 (indentParents ls))[i]? = some (specParent (ls.map (info cfg)) i) := by
  have h := linkByIndent_eq_local cfg ls hcfg
  exact ⟨h, fun i hi => h ▸ (Ccp.C02.linkByIndent_eq_spec cfg ls).2 i hi⟩

/-- **Parents, on the shared tree builder.**  For a well-formed statement tree none of whose
statements begins with `#` (`hc`, stated on the converted lines: no line is a comment for the
bootstrap; a `#` line under a deeper line is F32), the parent links that the bootstrap verified
by C01–C03 computes on the converted lines are the tree parents: every statement's parent is the
statement that opened its innermost enclosing block, top-level statements are roots.
Pass 1 (`linkByIndent`) is the whole bootstrap of a brace syntax; the second conjunct says the
same of the full `parse` of the indentation syntaxes when no converted line happens to look
like a banner start. -/
theorem flatten_parent_shared (T : List Stmt) (hT : ListOk T)
    (hc : ∀ l ∈ flatten T, isComment junosCfg l = false) :
    linkByIndent junosCfg (flatten T) = selfRoots 0 (treeParents T) ∧
    ((∀ l ∈ flatten T, isBannerStart l = false) →
      (parse junosCfg (flatten T)).texts = flatten T ∧
      (parse junosCfg (flatten T)).parents = selfRoots 0 (treeParents T)) := by
  have h1 : linkByIndent junosCfg (flatten T) = selfRoots 0 (treeParents T) := by
    rw [linkByIndent_eq_local junosCfg _ (flatten_isConfigLine junosCfg T hT hc), indentParents_flatten T hT]
  refine ⟨h1, fun hb => ?_⟩
  obtain ⟨ht, hp, -⟩ := Ccp.C02.parse_links_eq_spec junosCfg (flatten T) hb (by intro h; cases h) rfl
  exact ⟨ht, by rw [hp, ← linkByIndent_eq_map, h1]⟩

/-- **`junos_forest`** (the item C03 left open): whatever brace-syntax input is accepted, the
resulting tree — converted lines, parent links by pass 1 of the shared bootstrap — is a forest
in the sense of C03 (one parent index per line, no parent after its child), so all of C03's
theorems about children, ancestors and the family views apply to it; its texts are the
converted lines. -/
theorem junos_forest (lines : List Str) (t : T) (h : junosParse lines = .ok t) :
    Ccp.Tree.Forest t ∧ junosToIos lines = .ok t.texts := by
  unfold junosParse at h
  split at h
  · cases h
    exact ⟨forest_of_inv ⟨rfl, linkByIndent_length _ _, linkByIndent_below _ _⟩, ‹_›⟩
  · cases h

/-- **The whole parse of a rendered tree**: texts = flattening, parents = tree parents. -/
theorem junos_tree (L : Layout) (T : List Stmt) (hT : ListOk T) (hL : LayoutOk L)
    (hc : ∀ l ∈ flatten T, isComment junosCfg l = false)
    (lines : List Str) (hne : lines ≠ []) (hl : join ['\n'] lines = render L T) :
    junosParse lines = .ok { texts := flatten T, parents := selfRoots 0 (treeParents T),
                             keep := (flatten T).map (fun _ => false) } := by
  unfold junosParse
  rw [brace_roundtrip L T hT hL lines hne hl]
  simp only [(flatten_parent_shared T hT hc).1]

/-! ### non-vacuity -/

/-- `system { host-name r1; ports { console type vt100; } }` `version 11.4R7.5;` `# end` -/
def exT : List Stmt :=
  [.node ["system".toList] [.node ["host-name".toList, "r1".toList] [],
                            .node ["ports".toList] [.node ["console".toList, "type".toList, "vt100".toList] []]],
   .node ["version".toList, "11.4R7.5".toList] [],
   .node ["#".toList, "end".toList] []]

/-- brace of `system` on the next line, `ports` as a one-line block, trailing blanks after
the semicolons, a blank line before `version`, no semicolon after the comment -/
def exL : Layout := fun p =>
  match p with
  | [0] => ⟨[], false, "\n".toList, false, "\n".toList, "\n\n".toList⟩
  | [0, 0] => ⟨"    ".toList, true, "  ".toList, false, [], []⟩
  | [0, 1] => ⟨"  ".toList, false, " ".toList, false, " ".toList, []⟩
  | [0, 1, 0] => ⟨" ".toList, true, " ".toList, false, [], []⟩
  | [2] => ⟨"\r\n".toList, false, [], false, [], []⟩
  | _ => ⟨[], true, [], false, [], []⟩

example : String.ofList (render exL exT) =
    "system\n{    host-name r1;  \n  ports { console type vt100;  }\n}\n\nversion 11.4R7.5;\n\r\n# end" := by
  apply congrArg String.ofList
  simp only [exT, toList_lit]
  decide +kernel

def errOf {α : Type} : Except Err α → Option Err
  | .error e => some e
  | .ok _ => none

example : (junosToIos (splitOn '\n' (render exL exT))).toOption =
    some (["system", "    host-name r1", "    ports", "        console type vt100", "version 11.4R7.5", "# end"].map
      String.toList) := by
  simp only [exT, List.map_cons, List.map_nil, toList_lit]
  decide +kernel

example : flatten exT = ["system", "    host-name r1", "    ports", "        console type vt100",
    "version 11.4R7.5", "# end"].map String.toList := by
  simp only [exT, List.map_cons, List.map_nil, toList_lit]
  decide +kernel

example : treeParents exT = [none, some 0, some 0, some 2, none, none] := by decide +kernel

example : indentParents (flatten exT) = [none, some 0, some 0, some 2, none, none] := by
  simp only [exT, toList_lit]
  decide +kernel

example : ListOk exT := by
  simp only [exT, toList_lit]
  decide +kernel

example : LayoutOk exL := by
  intro p
  unfold exL
  split <;> decide +kernel

/-- the same text with the brace that closes `ports` deleted is rejected -/
example : errOf (junosToIos (splitOn '\n'
    "system\n{    host-name r1;  \n  ports { console type vt100;  \n}\n\nversion 11.4R7.5;\n\r\n# end".toList))
    = some .parseException := by
  simp only [toList_lit]
  decide +kernel

/-- the shared bootstrap on the converted lines of the example (the `#` line is a root) -/
example : linkByIndent junosCfg (flatten exT) = [0, 0, 0, 2, 4, 5] := by
  simp only [exT, toList_lit]
  decide +kernel

example : selfRoots 0 (treeParents exT) = [0, 0, 0, 2, 4, 5] := by decide +kernel

/-- the hypothesis `hc` of `flatten_parent_shared` holds for the example without its comment -/
example : ∀ l ∈ flatten (exT.take 2), isComment junosCfg l = false := by
  simp only [exT, toList_lit]
  decide +kernel

example : (junosParse (splitOn '\n' (render exL exT))).toOption.map (·.parents) = some [0, 0, 0, 2, 4, 5] := by
  simp only [exT, toList_lit]
  decide +kernel

/-! tabs in the layout, a quoted string inside a statement -/

def exT2 : List Stmt :=
  [.node ["interfaces".toList] [.node ["description".toList, "\"up".toList, "link\"".toList] [],
                               .node ["unit".toList, "0".toList] []]]

def exL2 : Layout := fun p =>
  match p with
  | [0] => ⟨[], false, "\t".toList, false, "\n".toList, []⟩
  | [0, 0] => ⟨"\n\t".toList, true, " \t ".toList, false, [], []⟩
  | _ => ⟨"\t\t".toList, true, [], true, "\t".toList, "\t".toList⟩

example : String.ofList (render exL2 exT2) =
    "interfaces\t{\n\tdescription \"up link\"; \t \n\t\tunit 0;{\t}\t\n}" := by
  apply congrArg String.ofList
  simp only [exT2, toList_lit]
  decide +kernel

example : (junosToIos (splitOn '\n' (render exL2 exT2))).toOption =
    some (["interfaces", "    description \"up link\"", "    unit 0"].map String.toList) := by
  simp only [exT2, List.map_cons, List.map_nil, toList_lit]
  decide +kernel

example : ListOk exT2 := by
  simp only [exT2, toList_lit]
  decide +kernel

example : LayoutOk exL2 := by
  intro p
  unfold exL2
  split <;> decide +kernel

/-- the last brace deleted: rejected, quotes and tabs notwithstanding -/
example : errOf (junosToIos (splitOn '\n'
    "interfaces\t{\n\tdescription \"up link\"; \t \n\t\tunit 0;{\t}\t\n".toList))
    = some .parseException := by
  simp only [toList_lit]
  decide +kernel

/-! ## options and argument checks around the conversion (`Ccp.Model.BraceOpts`)

`BraceParse(config_txt, comment_delimiters, stop_width, semicolon_end)` called directly,
`convert_junos_to_ios(input_list, stop_width, comment_delimiters, …)` with its ladder of argument
checks, `CiscoConfParse.handle_ccp_brace_syntax`, and `CiscoConfParse(lines, syntax='junos',
factory=…, ignore_blank_lines=…)`. -/

/-- the model with options is the model above at the default option values -/
theorem options_default (lines : List Str) (txt : Str) (w : Int) :
    braceTextS false w txt = braceText (stopOf w) txt ∧
    handleBrace .junos (.list lines) = liftE (junosToIos lines) ∧
    junosParseWith false (.list lines) = liftE (junosParse lines) := by
  refine ⟨braceTextS_false w txt, handleBrace_junos_list lines, ?_⟩
  unfold junosParseWith junosParse
  rw [handleBrace_junos_list]
  cases junosToIos lines with
  | error e => rfl
  | ok out => rfl

/-- `convert_junos_to_ios` once its arguments have the right types -/
theorem convertArgs_typed (ls : List Str) (w : Int) (d : Option (List Str)) :
    convertArgs { input := .list ls, stopWidth := some w, delims := some d, debugIsInt := true }
      = if (ls.isEmpty || (d.getD []).contains ['{'] || (d.getD []).contains ['}']) = true
        then .error (.base .valueError) else liftE (braceTextS false w (join ['\n'] ls)) := rfl

/-- **Round trip for every indentation width.**  `stop_width = w` (any `int`; a negative one counts
as 0): a well-formed tree in any layout converts to its preorder flattening with `w` blanks per
enclosing block (`flattenW w`; `flattenW 4 = flatten`) — through `BraceParse(...)` called directly,
whatever `comment_delimiters` is (it is never consulted), and through `convert_junos_to_ios` with
any list of comment delimiters that holds no brace. -/
theorem brace_roundtrip_any_width (w : Int) (L : Layout) (T : List Stmt) (hT : ListOk T) (hL : LayoutOk L)
    (lines : List Str) (hne : lines ≠ []) (hl : join ['\n'] lines = render L T)
    (ds : Option (List Str)) (dc : Option (List Str))
    (hdc : (dc.getD []).contains ['{'] = false ∧ (dc.getD []).contains ['}'] = false) :
    braceParseArgs { txt := some (render L T), delims := ds, stopWidth := w, semiEnd := false }
      = .ok (flattenW (stopOf w) T) ∧
    convertArgs { input := .list lines, stopWidth := some w, delims := some dc, debugIsInt := true }
      = .ok (flattenW (stopOf w) T) ∧
    flattenW 4 T = flatten T := by
  have hb : braceTextS false w (render L T) = .ok (flattenW (stopOf w) T) := by
    rw [braceTextS_false]; exact braceText_render_width _ L hL T hT
  refine ⟨?_, ?_, flattenListW_four T 0⟩
  · simp [braceParseArgs, hb, liftE]
  · rw [convertArgs_typed, if_neg (by simpa only [hdc.1, hdc.2, Bool.or_false, List.isEmpty_iff] using hne), hl, hb]
    rfl

/-- **`semicolon_end`** — proved part: with `semicolon_end=True` the text of a statement is the
stripped token, its semicolon included; with `False` it is the `cleanTok` of the theorems above.
FULL STATEMENT, not proved (measured on every run by the correspondence and by the oracle, stream
`opts`): `braceTextS true w (render L T)` is the flattening in which a statement keeps its `;`
exactly when the layout wrote one. -/
theorem semicolon_end_partial (t : Str) :
    cleanTokS true t = strip t ∧ cleanTokS false t = cleanTok t := by
  refine ⟨?_, cleanTokS_false t⟩
  simp only [cleanTokS, Bool.not_true, Bool.false_and, Bool.false_eq_true, if_false]
  exact strip_strip t

/-- **The argument checks of `convert_junos_to_ios`**, in the order of the code: an `input_list` that
is not a `list` (a tuple too), a `stop_width` that is not an `int`, `comment_delimiters` that is not a
list, a `debug` that is not an `int` — each `InvalidParameters`, the first one that applies; then an
empty list or a brace among the comment delimiters — `ValueError`; only then the text is parsed. -/
theorem convert_argument_checks (ls : List Str) (sw : Option Int) (dl : Option (Option (List Str))) (dbg : Bool)
    (w : Int) (d : Option (List Str)) :
    convertArgs { input := .tuple ls, stopWidth := sw, delims := dl, debugIsInt := dbg } = .error .invalidParameters ∧
    convertArgs { input := .other, stopWidth := sw, delims := dl, debugIsInt := dbg } = .error .invalidParameters ∧
    convertArgs { input := .list ls, stopWidth := none, delims := dl, debugIsInt := dbg } = .error .invalidParameters ∧
    convertArgs { input := .list ls, stopWidth := some w, delims := none, debugIsInt := dbg } = .error .invalidParameters ∧
    convertArgs { input := .list ls, stopWidth := some w, delims := some d, debugIsInt := false } = .error .invalidParameters ∧
    (ls = [] ∨ (d.getD []).contains ['{'] = true ∨ (d.getD []).contains ['}'] = true →
      convertArgs { input := .list ls, stopWidth := some w, delims := some d, debugIsInt := true }
        = .error (.base .valueError)) ∧
    (ls ≠ [] → (d.getD []).contains ['{'] = false → (d.getD []).contains ['}'] = false →
      convertArgs { input := .list ls, stopWidth := some w, delims := some d, debugIsInt := true }
        = liftE (braceTextS false w (join ['\n'] ls))) := by
  refine ⟨rfl, rfl, rfl, rfl, rfl, fun h => ?_, fun h1 h2 h3 => ?_⟩
  · rw [convertArgs_typed, if_pos]
    rcases h with rfl | h | h
    · rfl
    all_goals simp only [h, Bool.or_true, Bool.true_or]
  · rw [convertArgs_typed, if_neg]
    simpa only [h2, h3, Bool.or_false, List.isEmpty_iff] using h1

/-- a `config_txt` that is not a `str` is refused by `BraceParse` (`NotImplementedError`) -/
theorem braceParse_rejects_non_text (ds : Option (List Str)) (w : Int) (se : Bool) :
    braceParseArgs { txt := none, delims := ds, stopWidth := w, semiEnd := se } = .error .notImplemented := rfl

/-- **`handle_ccp_brace_syntax(tmp_lines, syntax)`**: a syntax that is not valid and a `tmp_lines`
that is neither list nor tuple are refused (`InvalidParameters`, the syntax first); for the
indentation syntaxes the lines pass through unchanged, list or tuple; for junos a list is
converted (`convert_junos_to_ios(lines, comment_delimiters=['#'])`, four blanks per level) and so is a
tuple, with the same result.  (Before the repair `fix: CiscoConfParse accepts a tuple of lines with syntax='junos'`
the tuple -- which this method lets through -- was refused by the converter with `InvalidParameters`: finding
FC08a; `convert_junos_to_ios` called directly still insists on a `list`, `convert_argument_checks`.) -/
theorem handleBrace_spec (ls : List Str) (tmp : Lines) (syn : Syn) :
    handleBrace .invalid tmp = .error .invalidParameters ∧
    handleBrace syn .other = .error .invalidParameters ∧
    handleBrace .indented (.list ls) = .ok ls ∧ handleBrace .indented (.tuple ls) = .ok ls ∧
    handleBrace .junos (.list ls) = liftE (junosToIos ls) ∧
    handleBrace .junos (.tuple ls) = liftE (junosToIos ls) := by
  refine ⟨rfl, ?_, rfl, rfl, handleBrace_junos_list ls, handleBrace_junos_list ls⟩
  cases syn <;> rfl

/-- **`ignore_blank_lines` and the factory.**  `junosParseWith ig` is the parse for
`ignore_blank_lines = ig` (the factory only chooses the class of the line objects and has no
parameter in the model; `factory=True` together with `ignore_blank_lines=True` is refused by the
constructor with `NotImplementedError` and is left out).  Whatever is accepted: the texts are the converted lines, minus the blank
ones when `ig` (a statement that is a lone `;` converts to a blank line), and the tree is a C03
forest.  A tuple of lines is parsed like the list of the same lines (`junos_tuple_is_list`). -/
theorem junos_options (ig : Bool) (lines : List Str) (t : T) (h : junosParseWith ig (.list lines) = .ok t) :
    ∃ out, junosToIos lines = .ok out ∧
      t.texts = (if ig then out.filter (fun l => !(strip l).isEmpty) else out) ∧
      t.parents = linkByIndent junosCfg t.texts ∧ Ccp.Tree.Forest t := by
  unfold junosParseWith at h
  rw [handleBrace_junos_list] at h
  cases ho : junosToIos lines with
  | error e => rw [ho] at h; cases h
  | ok out =>
    rw [ho] at h
    simp only [liftE, Except.ok.injEq] at h
    subst h
    exact ⟨out, rfl, rfl, rfl, forest_of_inv ⟨rfl, linkByIndent_length _ _, linkByIndent_below _ _⟩⟩

/-- **A tuple of lines is a config like the list of the same lines**: `CiscoConfParse(tuple_of_lines, syntax='junos',
…)` is the parse of `list(tuple_of_lines)` for every option setting -- same refusals, same texts, same tree -- so
`junos_options` and `junos_tree_any_options` hold for it verbatim.  (Before the repair of finding FC08a every tuple
was refused with `InvalidParameters`.) -/
theorem junos_tuple_is_list (ig : Bool) (ls : List Str) :
    junosParseWith ig (.tuple ls) = junosParseWith ig (.list ls) := rfl

/-- **The whole parse of a rendered tree does not depend on `ignore_blank_lines`**: a well-formed
statement never converts to a blank line, so both settings give texts = flattening, parents = tree
parents (`junos_tree`). -/
theorem junos_tree_any_options (ig : Bool) (L : Layout) (T : List Stmt) (hT : ListOk T) (hL : LayoutOk L)
    (hc : ∀ l ∈ flatten T, isComment junosCfg l = false)
    (lines : List Str) (hne : lines ≠ []) (hl : join ['\n'] lines = render L T) :
    junosParseWith ig (.list lines) = .ok { texts := flatten T, parents := selfRoots 0 (treeParents T),
                                            keep := (flatten T).map (fun _ => false) } := by
  unfold junosParseWith
  rw [handleBrace_junos_list, brace_roundtrip L T hT hL lines hne hl]
  have hf : (flatten T).filter (fun l => !(strip l).isEmpty) = flatten T :=
    List.filter_eq_self.mpr (fun l hl => by simp [flattenList_nonblank T 0 hT l hl])
  cases ig <;> simp only [liftE, if_true, if_false, Bool.false_eq_true, hf, (flatten_parent_shared T hT hc).1]

/-- `junos_tree_any_options` for the tuple form: the whole parse of a rendered tree handed over as a tuple of lines
is the statement tree, under either `ignore_blank_lines` setting. -/
theorem junos_tree_tuple (ig : Bool) (L : Layout) (T : List Stmt) (hT : ListOk T) (hL : LayoutOk L)
    (hc : ∀ l ∈ flatten T, isComment junosCfg l = false)
    (lines : List Str) (hne : lines ≠ []) (hl : join ['\n'] lines = render L T) :
    junosParseWith ig (.tuple lines) = .ok { texts := flatten T, parents := selfRoots 0 (treeParents T),
                                             keep := (flatten T).map (fun _ => false) } :=
  junos_tree_any_options ig L T hT hL hc lines hne hl

/-! ### non-vacuity of this part -/

/-- the example tree with two blanks per level, and with none for a negative width -/
example : (braceParseArgs { txt := some (render exL exT), delims := none, stopWidth := 2, semiEnd := false }).toOption =
    some (["system", "  host-name r1", "  ports", "    console type vt100", "version 11.4R7.5", "# end"].map
      String.toList) := by
  simp only [exT, List.map_cons, List.map_nil, toList_lit]
  decide +kernel
example : flattenW 2 exT = ["system", "  host-name r1", "  ports", "    console type vt100", "version 11.4R7.5",
    "# end"].map String.toList := by
  simp only [exT, List.map_cons, List.map_nil, toList_lit]
  decide +kernel
example : stopOf (-3) = 0 ∧ flattenW 0 exT = ["system", "host-name r1", "ports", "console type vt100",
    "version 11.4R7.5", "# end"].map String.toList := by
  simp only [exT, List.map_cons, List.map_nil, toList_lit]
  decide +kernel
/-- `semicolon_end=True` keeps the semicolons the layout wrote (the statement of the full theorem,
on the example) -/
example : (braceParseArgs { txt := some (render exL exT), delims := some [['#']], stopWidth := 4, semiEnd := true }).toOption =
    some (["system", "    host-name r1;", "    ports", "        console type vt100;", "version 11.4R7.5;", "# end"].map
      String.toList) := by
  simp only [exT, List.map_cons, List.map_nil, toList_lit]
  decide +kernel
/-- the argument ladder: a tuple is refused before a bad width is looked at; a brace among the
comment delimiters is a `ValueError` -/
example : convertArgs { input := .tuple ["a;".toList], stopWidth := none, delims := none, debugIsInt := false }
      = .error .invalidParameters ∧
    convertArgs { input := .list ["a;".toList], stopWidth := some 4, delims := some (some [['{']]), debugIsInt := true }
      = .error (.base .valueError) ∧
    (convertArgs { input := .list ["a;".toList], stopWidth := some 4, delims := some none, debugIsInt := true }).toOption
      = some ["a".toList] := ⟨rfl, rfl, by simp only [toList_lit]; decide +kernel⟩
/-- a lone `;` converts to a blank line, which `ignore_blank_lines` drops -/
example : ((junosParseWith false (.list ["a {".toList, ";".toList, "b;".toList, "}".toList])).toOption.map (·.texts))
      = some ["a".toList, "    ".toList, "    b".toList] ∧
    ((junosParseWith true (.list ["a {".toList, ";".toList, "b;".toList, "}".toList])).toOption.map (·.texts))
      = some ["a".toList, "    b".toList] ∧
    ((junosParseWith true (.list ["a {".toList, ";".toList, "b;".toList, "}".toList])).toOption.map (·.parents))
      = some [0, 0] := by
  simp only [toList_lit]
  decide +kernel
example : (junosParseWith true (.list (splitOn '\n' (render exL exT)))).toOption.map (·.parents) = some [0, 0, 0, 2, 4, 5] := by
  simp only [exT, toList_lit]
  decide +kernel
/-- the tuple form of the same lines gives the same tree (it was refused before the repair of FC08a) -/
example : (junosParseWith true (.tuple (splitOn '\n' (render exL exT)))).toOption.map (·.parents) = some [0, 0, 0, 2, 4, 5] ∧
    ((junosParseWith false (.tuple ["a {".toList, "b;".toList, "}".toList])).toOption.map (·.texts))
      = some ["a".toList, "    b".toList] := by
  simp only [exT, toList_lit]
  decide +kernel

end Ccp.C08
