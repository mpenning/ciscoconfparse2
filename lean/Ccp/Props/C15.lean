import Ccp.Proofs.Intf
import Ccp.Model.IntfX
/-!
# C15 — interface names round-trip and sort numerically; interface ranges expand exactly

The property theorems; the lemmas behind them are in `Ccp.Proofs.Intf`.
-/
namespace Ccp.C15
open Ccp.Intf Ccp.Py Ccp.Range Ccp.IntfX

/-- A description of the property's grammar: prefix over `[A-Za-z-]` (may be empty), one number
(no slot, no separator) or `slot/port` / `slot/card/port` with separator `/`, optional
subinterface and channel, optional class word: non-empty, over `[A-Za-z-]` (a word with a digit
such as `l2transport` is not a class word for this parser). Numbers are unbounded. -/
structure WellFormed (d : Intf) : Prop where
  pfx : ∀ c ∈ d.pfx, isWordCh c = true
  shape : (d.slot = none ∧ d.card = none ∧ d.sep = none) ∨ (d.slot.isSome = true ∧ d.sep = some '/')
  cls : GoodCls d.cls

/-- **name_roundtrip** (first half): every well-formed description renders, and parsing the
rendering gives back exactly that description — all eight components. -/
theorem name_roundtrip (d : Intf) (h : WellFormed d) : ∃ s, render d = .ok s ∧ Intf.parse s = .ok d :=
  canon_roundtrip d ⟨fun c hc => by simp [isPfxCh, h.pfx c hc],
    strip_noSpace d.pfx (fun c hc => (word_facts c (h.pfx c hc)).2), h.shape, h.cls⟩

/-- **name_roundtrip** (second half): for EVERY accepted text `s` — blank after the prefix, interior
blanks in the prefix (`Port channel1`), leading zeros, trailing junk, `1//2` … — the constructed
object renders, and parsing the rendering gives exactly the same object (all eight components):
`parse (render (parse s)) = parse s`. -/
theorem name_reparse (s : Str) (d : Intf) (h : Intf.parse s = .ok d) :
    ∃ r, render d = .ok r ∧ Intf.parse r = .ok d :=
  canon_roundtrip d (parse_canon s d h)

/-- consequently rendering is a fixed point: the re-parsed object renders to the same text and
is `==` to the original. -/
theorem name_roundtrip_stable (d : Intf) (h : WellFormed d) :
    ∃ s, render d = .ok s ∧ (Intf.parse s).bind render = .ok s ∧
      (Intf.parse s).map (fun j => eq d j) = .ok true := by
  obtain ⟨s, h1, h2⟩ := name_roundtrip d h
  refine ⟨s, h1, by simp [h2, Except.bind, h1], ?_⟩
  simp [h2, Except.map, eq]

-- non-vacuity of `name_reparse`: accepted texts that are not canonical
example : ((Intf.parse " Port channel 01//2 foo bar ".toList).toOption.map
            (fun d => (d.pfx, d.slot, d.card, d.port, d.cls)))
          = some ("Port channel".toList, some 1, none, 2, some "bar".toList) := by
  simp only [toList_lit]; decide +kernel

-- non-vacuity: the docstring example of the class, three numbers, subinterface, channel, class word
example : WellFormed { pfx := "Serial".toList, sep := some '/', slot := some 4, card := some 1, port := 2,
                       sub := some 9, chan := some 5, cls := some "point-to-point".toList } := by
  simp only [toList_lit]
  exact ⟨by decide +kernel, Or.inr ⟨rfl, rfl⟩, by intro w hw; cases hw; exact ⟨by decide +kernel, by decide +kernel⟩⟩
example : ((Intf.parse "Serial 4/1/2.9:5 point-to-point".toList).toOption.map
            (fun d => (d.slot, d.card, d.port, d.sub, d.chan)))
          = some (some 4, some 1, 2, some 9, some 5) := by
  simp only [toList_lit]; decide +kernel
example : render { pfx := "Serial".toList, sep := some '/', slot := some 4, card := some 1, port := 2,
                   sub := some 9, chan := some 5, cls := some "point-to-point".toList }
          = .ok "Serial4/1/2.9:5 point-to-point".toList := by
  simp only [toList_lit]; decide +kernel

/-- **eq_hash**: objects that compare equal have the same `__hash__` value and the same `hash()`. -/
theorem eq_hash (a b : Intf) (h : eq a b = true) : hashRaw a = hashRaw b ∧ pyHash a = pyHash b := by
  simp only [eq, Bool.and_eq_true, beq_iff_eq] at h
  unfold pyHash hashRaw
  rw [h.2]
  exact ⟨rfl, rfl⟩

/-- equality is consistent with the order: equal objects are neither `<` nor `>`, and the
comparison does not raise. -/
theorem eq_not_lt (a b : Intf) (h : eq a b = true) : lt a b = .ok false ∧ gt a b = .ok false := by
  simp only [eq, Bool.and_eq_true, beq_iff_eq] at h
  simp [lt, gt, h.2, listLt_self]

/-- **same_shape_numeric_order**: two interfaces with the same optional components present never
raise on `<`, and `<` is the lexicographic order of the *numeric* components
(slot, card, port, subinterface, channel), the class word breaking ties. -/
theorem same_shape_numeric_order (a b : Intf) (h : shape a = shape b) :
    lt a b = .ok (if key a = key b then clsLt a.cls b.cls else lexLt (key a) (key b)) ∧
    gt a b = .ok (if key b = key a then clsLt b.cls a.cls else lexLt (key b) (key a)) :=
  ⟨lt_same_shape a b h, lt_same_shape b a h.symm⟩

-- non-vacuity: Eth1/2 < Eth1/10 (numeric, not lexical), same shape
example : (do let a ← Intf.parse "Eth1/2".toList; let b ← Intf.parse "Eth1/10".toList
              pure (shape a == shape b, ← lt a b, ← gt a b, eq a b)).toOption
          = some (true, true, false, false) := by
  simp only [toList_lit]; decide +kernel
-- different shapes raise
example : (match (do let a ← Intf.parse "Eth1".toList; let b ← Intf.parse "Eth1/10".toList; lt a b) with
           | .error e => some e | .ok _ => none) = some Err.typeError := by
  simp only [toList_lit]; decide +kernel

/-- spec: `n` is denoted by the bounds of one comma-separated part -/
def InBounds (p : Option Nat × Option Nat) (n : Nat) : Prop :=
  match p with
  | (v, none) => v = some n
  | (some lo, some hi) => lo ≤ n ∧ n ≤ hi
  | (none, some _) => False

theorem mem_expandBounds (p : Option Nat × Option Nat) (n : Nat) :
    some n ∈ expandBounds p ↔ InBounds p n := by
  obtain ⟨v, e⟩ := p
  cases e with
  | none => simp [expandBounds, InBounds, eq_comm]
  | some hi =>
    cases v with
    | none => simp [expandBounds, InBounds]
    | some lo => simp [expandBounds, InBounds, mem_upto]

/-- **range_expands**: an accepted, non-empty range text — since fix f223496 of `/repo` a part is
cut only at a hyphen between two digits (`splitIv`), so texts with a hyphenated prefix such as
`Port-channel1-3` or `Bundle-Ether10-12,15` are accepted and inside this theorem — has a begin object `b`, an iterated
attribute `a` (the last numeric component of `b`) and bounds `ps`, one per comma-separated part.
When every part carries the iterated component (`ns` are the denoted integers), the members are
exactly `b` with that component varied over `ns`: each once, ascending in the `<` of the
interfaces, and the ordered view `as_list()` returns them unchanged. -/
theorem range_expands (text : Str) (d : List Intf) (h : parseRange text = .ok d) (hne : text ≠ []) :
    ∃ b a ps, plan text = .ok (b, a, ps) ∧ a = iterAttr b ∧
      ∀ ns, ps.flatMap expandBounds = ns.map some →
        d = (sortedSet ns).map (vary b a) ∧
        d.Pairwise (fun x y => lt x y = .ok true) ∧
        (∀ m, m ∈ d ↔ ∃ n, (∃ p ∈ ps, InBounds p n) ∧ m = vary b a n) ∧
        (asList d).2 = .ok d ∧ (asSet d).2 = .ok d := by
  unfold parseRange at h
  simp only [hne, if_false] at h
  split at h
  · cases h
  · split at h
    · cases h
    · rename_i b a ps hplan
      refine ⟨b, a, ps, hplan, ?_, ?_⟩
      · exact plan_attr text b a ps hplan
      · intro ns hns
        rw [hns, List.map_map] at h
        have hm : (ns.map (setAttr b a ∘ some)) = ns.map (vary b a) := rfl
        rw [hm] at h
        split at h
        · cases h
        · rw [sortedMembers_vary] at h
          cases h
          have hs := sortedSet_sorted ns
          have hid : sortedMembers ((sortedSet ns).map (vary b a)) = .ok ((sortedSet ns).map (vary b a)) := by
            rw [sortedMembers_vary, sortedSet_of_sorted _ hs]
          refine ⟨rfl, List.pairwise_map.mpr (hs.imp (fun hxy => by simp [lt_vary, hxy])), ?_, hid, hid⟩
          intro m
          have hn : ∀ n, n ∈ ns ↔ ∃ p ∈ ps, InBounds p n := fun n => by
            simp only [← mem_expandBounds, ← List.mem_flatMap, hns, List.mem_map, Option.some.injEq, exists_eq_right]
          simp only [List.mem_map, mem_sortedSet, hn]
          constructor <;> rintro ⟨n, h, rfl⟩ <;> exact ⟨n, h, rfl⟩

/-- **range_readers_pure**: every reading accessor leaves `data` as it is (whatever it is). -/
theorem range_readers_pure (data : List Intf) :
    (len data).1 = data ∧ (iter data).1 = data ∧ (asList data).1 = data ∧ (asSet data).1 = data ∧
    (len data).2 = data.length ∧ (iter data).2 = data :=
  ⟨rfl, rfl, rfl, rfl, rfl, rfl⟩

-- non-vacuity: overlap, duplicate, a descending interval; members vary the port only
example : ((parseRange "Eth1/1-3,5,2,9-7".toList).toOption.map (fun d => d.map (fun i => (i.slot, i.port))))
          = some [(some 1, 1), (some 1, 2), (some 1, 3), (some 1, 5)] := by
  simp only [toList_lit]; decide +kernel
example : ((plan "Eth1/1-3,5,2,9-7".toList).toOption.map (fun r => (r.2.1, r.2.2)))
          = some (Attr.port, [(some 1, some 3), (some 5, none), (some 2, none), (some 9, some 7)]) := by
  simp only [toList_lit]; decide +kernel

-- non-vacuity on a hyphenated prefix: the hyphen of `Port-channel` is not an interval hyphen
example : splitIv "Port-channel1-3".toList = ["Port-channel1".toList, "3".toList] := by
  simp only [toList_lit]; decide +kernel
example : ((parseRange "Port-channel1-3,7".toList).toOption.map (fun d => d.map (fun i => (i.pfx, i.port))))
          = some [("Port-channel".toList, 1), ("Port-channel".toList, 2), ("Port-channel".toList, 3),
                  ("Port-channel".toList, 7)] := by
  simp only [toList_lit]; decide +kernel
example : ((plan "Port-channel1-3,7".toList).toOption.map (fun r => (r.2.1, r.2.2)))
          = some (Attr.port, [(some 1, some 3), (some 7, none)]) := by
  simp only [toList_lit]; decide +kernel

/-- `repr(o)` is the rendering in angle brackets, `.name` is the rendering. -/
theorem repr_is_name (d : Intf) :
    reprOf d = (render d).map (fun s => "<CiscoIOSInterface ".toList ++ s ++ ['>']) := by
  unfold reprOf; cases render d <;> rfl

/-- **Rebuilding from the components**: for every accepted text `s`, all three ways to build an
object from `o.as_dict()` — `CiscoIOSInterface(interface_dict=…)`, `CiscoIOSInterface(o)` and
`o.from_dict(…)` — give exactly `o` again (all eight components, hence `==`, same name). -/
theorem rebuild_from_components (s : Str) (d : Intf) (h : Intf.parse s = .ok d) :
    fromDictCtor d = .ok d ∧ fromDictMethod d = d ∧ eq d d = true := by
  have hc := parse_canon s d h
  obtain ⟨pfx, sep, slot, card, port, sub, chan, cls⟩ := d
  have hst : strip pfx = pfx := hc.pfxstrip
  refine ⟨?_, by simp [fromDictMethod, hst], by simp [eq]⟩
  rcases hc.shape with ⟨h1, h2, _⟩ | ⟨h1, _⟩
  · simp only at h1 h2; subst h1; subst h2
    simp [fromDictCtor, toRaw, updateInternalState, hst]
  · simp only at h1
    cases slot with
    | none => simp at h1
    | some sl => simp [fromDictCtor, toRaw, updateInternalState, hst]

example : ((Intf.parse " Serial 4/1/2.9:5 point-to-point".toList).toOption.map
    (fun d => ((fromDictCtor d).toOption == some d, fromDictMethod d == d))) = some (true, true) := by
  simp only [toList_lit]; decide +kernel

/-- Assigning a prefix over `[A-Za-z- ]` keeps the round trip: the edited object renders, and
parsing the rendering gives the edited object. -/
theorem set_prefix_roundtrip (s p : Str) (d : Intf) (h : Intf.parse s = .ok d)
    (hp : ∀ c ∈ p, isPfxCh c = true) :
    ∃ r, render (setPrefix d p) = .ok r ∧ Intf.parse r = .ok (setPrefix d p) := by
  have hc := parse_canon s d h
  exact canon_roundtrip _ ⟨fun c hcm => hp c (strip_mem p c hcm), strip_strip p, hc.shape, hc.cls⟩

example : ((Intf.parse "Eth1/2".toList).toOption.map (fun d => render (setPrefix d " Gi \t".toList)))
    = some (.ok "Gi1/2".toList) := by
  simp only [toList_lit]; decide +kernel

/-- `check_interface_dict` accepts exactly the dictionaries with eight keys, all of them known. -/
theorem check_dict_spec (ks : List String) :
    checkDict ks = .ok () ↔ ks.length = 8 ∧ ∀ k ∈ ks, k ∈ dictKeys := by
  unfold checkDict
  by_cases hl : ks.length = 8
  · by_cases ha : ks.all (fun k => dictKeys.contains k) = true
    · simp only [hl, ha, ne_eq, not_true_eq_false, if_false, if_true, true_and, true_iff]
      intro k hk
      have := List.all_eq_true.mp ha k hk
      simpa using this
    · simp only [hl, ha, ne_eq, not_true_eq_false, if_false, true_and]
      constructor
      · intro h; cases h
      · intro h; exact absurd (List.all_eq_true.mpr (fun k hk => by simpa using h k hk)) ha
  · simp [hl]

/-- The constructor on a dictionary: with exactly the eight known keys (in any order) and the
components of a parsed name it gives that object back; when a key other than `card` is missing it
raises `KeyError`. -/
theorem ctor_dict_spec (s : Str) (d : Intf) (h : Intf.parse s = .ok d) (ks : List String) :
    (ks.length = 8 → (∀ k ∈ dictKeys, k ∈ ks) → (∀ k ∈ ks, k ∈ dictKeys) → ctorDict d ks = .ok d) ∧
    (∀ k ∈ dictKeys, k ≠ "card" → k ∉ ks → ctorDict d ks = .error .keyError) := by
  unfold ctorDict
  constructor
  · intro hl hall hknown
    rw [if_pos (List.all_eq_true.mpr fun k hk => List.contains_iff_mem.mpr (hall k (List.mem_filter.mp hk).1)),
      (rebuild_from_components s d h).1, (check_dict_spec ks).mpr ⟨hl, hknown⟩]
  · intro k hk hne hnot
    rw [if_neg]
    intro hall
    exact hnot (List.contains_iff_mem.mp (List.all_eq_true.mp hall k (List.mem_filter.mpr ⟨hk, by simp [hne]⟩)))

example : checkDict dictKeys = .ok () ∧ checkDict (dictKeys.drop 1) = .error (.base .valueError) ∧
    checkDict ("extra" :: dictKeys.drop 1) = .error .keyError := by decide +kernel

/-- **Typed views of an interface range.** Under the hypotheses of `range_expands` (accepted
text, every part carries the iterated component), for every `reverse` flag the constructor
holds the same members, `as_list(result_type=None | str)` lists them — as objects or as names —
in ascending order, in descending order exactly under `reverse=True`, and
`as_set(result_type=None | str)` holds the same members. -/
theorem range_typed_views (text : Str) (d : List Intf) (h : parseRange text = .ok d) (hne : text ≠ []) :
    ∃ b a ps, plan text = .ok (b, a, ps) ∧
      ∀ ns : List Nat, ps.flatMap expandBounds = ns.map some → ∀ rev : Bool,
        IntfX.construct rev text = .ok ⟨d, rev⟩ ∧
        asListT ⟨d, rev⟩ .none = .ok ⟨true, false, if rev then d.reverse else d⟩ ∧
        asListT ⟨d, rev⟩ .str = .ok ⟨true, true, if rev then d.reverse else d⟩ ∧
        asSetT ⟨d, rev⟩ .none = .ok ⟨false, false, d⟩ ∧
        asSetT ⟨d, rev⟩ .str = .ok ⟨false, true, d⟩ ∧
        d.Pairwise (fun x y => lt x y = .ok true) ∧
        d.reverse.Pairwise (fun x y => gt x y = .ok true) := by
  obtain ⟨b, a, ps, hplan, _, hall⟩ := range_expands text d h hne
  refine ⟨b, a, ps, hplan, ?_⟩
  intro ns hns rev
  obtain ⟨_, hpw, _, hl, _⟩ := hall ns hns
  have hs : sortedMembers d = .ok d := hl
  have hord : ordered ⟨d, rev⟩ = .ok (if rev then d.reverse else d) := by
    simp [ordered, hs]
  refine ⟨by simp [IntfX.construct, h], ?_, ?_, rfl, rfl, hpw, ?_⟩
  · simp [asListT, hord]
  · simp [asListT, hord]
  · exact List.pairwise_reverse.mpr hpw

example : ((IntfX.construct true "Eth1/1-3,7".toList).toOption.bind
    (fun s => match asListT s .str with
      | .ok v => some (v.isList, v.asNames, v.items.map (fun i => i.port))
      | .error _ => none)) = some (true, true, [7, 3, 2, 1]) := by
  simp only [toList_lit]; decide +kernel

/-- The views never change the range; the casts that make no sense for an interface are refused
on a non-empty range (`as_list` turns every failure into `ValueError`, `as_set` lets the
`TypeError` through). -/
theorem range_bad_casts (s : RSt) (hne : s.data ≠ []) (hs : sortedMembers s.data = .ok s.data) :
    asListT s .int = .error (.base .valueError) ∧ asListT s .float = .error (.base .valueError) ∧
    asListT s .inst = .error (.base .valueError) ∧ asListT s .bad = .error (.base .valueError) ∧
    asSetT s .int = .error (.base .typeError) ∧ asSetT s .float = .error (.base .typeError) ∧
    asSetT s .inst = .error (.base .typeError) ∧ asSetT s .bad = .error (.base .valueError) := by
  have hr : (if s.rev then s.data.reverse else s.data) ≠ [] := by
    split <;> simp [hne]
  simp [asListT, asSetT, ordered, hs, hne, hr]

example : (∃ d, parseRange "Eth1/1-3".toList = .ok d ∧ d ≠ [] ∧ sortedMembers d = .ok d) := by
  simp only [toList_lit]
  refine ⟨_, rfl, by decide +kernel, by decide +kernel⟩

theorem listEq_refl (d : List Intf) : listEq d d = true := by
  induction d with
  | nil => rfl
  | cons a d ih => simp [listEq, ih, eq]

/-- The further readers of a range are functions of the data alone (`reverse` does not matter,
and no new state is produced): a range that has only been read is `==` to a freshly parsed one,
`obj.data` is the member list that iteration shows, `obj[k]` is its `k`-th member and raises
`IndexError` from `len` on. -/
theorem range_further_readers (rt : Str) (d : List Intf) (r1 r2 : Bool) (x : RRead) (k : Nat) :
    readR rt d ⟨d, r1⟩ x = readR rt d ⟨d, r2⟩ x ∧
    readR rt d ⟨d, r1⟩ .eqFresh = .ok (.bool true) ∧
    readR rt d ⟨d, r1⟩ .data = .ok (.members (iter d).2) ∧
    (∀ h : k < d.length, readR rt d ⟨d, r1⟩ (.idx k) = .ok (.member d[k])) ∧
    (d.length ≤ k → readR rt d ⟨d, r1⟩ (.idx k) = .error .indexError) := by
  refine ⟨by cases x <;> rfl, by simp [readR, listEq_refl], rfl, ?_, ?_⟩
  · intro h; simp [readR, List.getElem?_eq_getElem h]
  · intro h; simp [readR, List.getElem?_eq_none h]

example : ((IntfX.construct true "Eth1/1-2".toList).toOption.map (fun s =>
    (readR "None".toList s.data s .str, readR "None".toList s.data s .eqFresh, readR "None".toList s.data s (.idx 2)))) =
    some (.ok (.text "[Eth1/1, Eth1/2]".toList), .ok (.bool true), .error .indexError) := by
  simp only [toList_lit]; decide +kernel

end Ccp.C15
