import Ccp.Proofs.IPVal
import Ccp.Proofs.IPValCollapse
import Ccp.Proofs.IPValX
/-!
# C12 — membership between address objects is exactly subnet containment

`contains4 f y x` / `contains6 f y x` are `x in y` as computed by `IPv4Obj.__contains__` /
`IPv6Obj.__contains__`.  All statements hold for every family record `f` (any address
width), hence for `v4` and `v6`; `Valid f x` is the class invariant (address below `2^w`,
prefix length at most `w`, `network_object` is the network of `ip_object`).  Helper lemmas
live in `Ccp.Proofs.IPVal`, `Ccp.Proofs.IPValCollapse` and `Ccp.Proofs.IPValX`.
-/
namespace Ccp.C12
open Ccp.IPVal

/-- **IPv4 membership is subnet containment.**  `x in y` holds iff `y`'s prefix is not longer
than `x`'s and the leading `y.len` bits of the two addresses agree; equivalently iff the address
interval of `x`'s network lies inside that of `y`'s; equivalently iff every address of `x`'s
network is an address of `y`'s network. -/
theorem contains4_iff (f : Fam) (y x : Obj) (vy : Valid f y) (vx : Valid f x) :
    (contains4 f y x = true ↔
      (y.len ≤ x.len ∧ x.ip >>> (f.w - y.len) = y.ip >>> (f.w - y.len))) ∧
    (contains4 f y x = true ↔
      (y.len ≤ x.len ∧ y.net ≤ x.net ∧ asDecimalBroadcast f x ≤ asDecimalBroadcast f y)) ∧
    (contains4 f y x = true ↔
      (y.len ≤ x.len ∧ ∀ a, (x.net ≤ a ∧ a ≤ asDecimalBroadcast f x) →
        (y.net ≤ a ∧ a ≤ asDecimalBroadcast f y))) := by
  have h1 := contains4_iff_prefix f y x vy vx
  have h2 := h1.trans (prefix_iff_subset f y x vy vx)
  exact ⟨h1, h2.trans (and_congr_right fun _ => subset_iff_interval f y x), h2⟩

/-- **IPv6 membership is subnet containment** (same three readings; the code path differs from
IPv4: no third conjunct, upper bound `as_decimal_network_maxint`). -/
theorem contains6_iff (f : Fam) (y x : Obj) (vy : Valid f y) (vx : Valid f x) :
    (contains6 f y x = true ↔
      (y.len ≤ x.len ∧ x.ip >>> (f.w - y.len) = y.ip >>> (f.w - y.len))) ∧
    (contains6 f y x = true ↔
      (y.len ≤ x.len ∧ y.net ≤ x.net ∧ asDecimalBroadcast f x ≤ asDecimalBroadcast f y)) ∧
    (contains6 f y x = true ↔
      (y.len ≤ x.len ∧ ∀ a, (x.net ≤ a ∧ a ≤ asDecimalBroadcast f x) →
        (y.net ≤ a ∧ a ≤ asDecimalBroadcast f y))) := by
  rw [contains6_eq_contains4]
  exact contains4_iff f y x vy vx

/-- the addresses of an object's network (the interval `[network, broadcast]`) are exactly the
addresses that share its leading `len` bits — so "interval" above really is "the network" -/
theorem network_addresses (f : Fam) (x : Obj) (vx : Valid f x) (a : Nat) :
    (x.net ≤ a ∧ a ≤ asDecimalBroadcast f x) ↔ a >>> (f.w - x.len) = x.ip >>> (f.w - x.len) :=
  inNet_iff f x vx a

/-- every object is inside itself (both families) -/
theorem contains_refl (f : Fam) (x : Obj) (vx : Valid f x) :
    contains4 f x x = true ∧ contains6 f x x = true := by
  rw [contains6_eq_contains4, and_self, contains4_iff_prefix f x x vx vx]
  exact ⟨Nat.le_refl _, rfl⟩

/-- membership is transitive (both families) -/
theorem contains_trans (f : Fam) (z y x : Obj) (vz : Valid f z) (vy : Valid f y) (vx : Valid f x) :
    (contains4 f z y = true → contains4 f y x = true → contains4 f z x = true) ∧
    (contains6 f z y = true → contains6 f y x = true → contains6 f z x = true) := by
  simp only [contains6_eq_contains4, and_self]
  rw [(contains4_iff f z y vz vy).2.2, (contains4_iff f y x vy vx).2.2, (contains4_iff f z x vz vx).2.2]
  exact fun ⟨a1, a2⟩ ⟨b1, b2⟩ => ⟨Nat.le_trans a1 b1, fun a h => a2 a (b2 a h)⟩

/-- host routes, /31 and /127 links, the all-zero prefix: a host route is inside `y` iff its
address is one of `y`'s addresses, first and last included -/
theorem host_route_in (f : Fam) (y : Obj) (a : Nat) (vy : Valid f y) (ha : a < 2 ^ f.w) :
    contains4 f y (ofIpLen f a f.w) = true ↔ (y.net ≤ a ∧ a ≤ asDecimalBroadcast f y) := by
  have vx := valid_ofIpLen f a f.w ha (Nat.le_refl _)
  rw [(contains4_iff f y _ vy vx).1, network_addresses f y vy a]
  simp only [ofIpLen, vy.len_le, true_and]

/-! ## `collapse_addresses`

`collapseNets f nets` is the model of `ipaddress.collapse_addresses` on a list of networks
`(network address, prefix length)` (the stdlib routine `_collapse_addresses_internal`: the
`supernet → net` dict loop followed by the ascending pass that skips covered networks);
`collapse f objs = collapseNets f (objs.map network)` is `ccp_util.collapse_addresses`, which maps
every object to `obj.network` first.  `AlignedNet f n`: prefix length at most `w`, address below
`2^w`, host bits clear.  "`c` is an address of `n`" is `n.1 ≤ c ∧ c ≤ netBcast f n`. -/

/-- **the collapsed networks cover exactly the addresses of the input networks** -/
theorem collapse_covers (f : Fam) (nets : List Net) (al : ∀ n ∈ nets, AlignedNet f n) (c : Nat) :
    (∃ n ∈ collapseNets f nets, n.1 ≤ c ∧ c ≤ netBcast f n) ↔
    (∃ n ∈ nets, n.1 ≤ c ∧ c ≤ netBcast f n) :=
  (collapseNets_spec f nets al).2.1 c

/-- **the collapsed networks are well formed, ascending and pairwise disjoint**: each one ends
before the next one (and every later one) starts -/
theorem collapse_sorted_disjoint (f : Fam) (nets : List Net) (al : ∀ n ∈ nets, AlignedNet f n) :
    (∀ n ∈ collapseNets f nets, AlignedNet f n) ∧
    (collapseNets f nets).Pairwise (fun a b => netBcast f a < b.1) ∧
    (collapseNets f nets).Pairwise (fun a b => a.1 < b.1 ∧
      ∀ c, ¬ ((a.1 ≤ c ∧ c ≤ netBcast f a) ∧ (b.1 ≤ c ∧ c ≤ netBcast f b))) := by
  obtain ⟨h1, _, h3, _⟩ := collapseNets_spec f nets al
  refine ⟨h1, h3, h3.imp ?_⟩
  intro a b hab
  exact ⟨Nat.lt_of_le_of_lt (netMem_self f a).1.2 hab,
    fun c hc => Nat.lt_irrefl c (Nat.lt_of_le_of_lt hc.1.2 (Nat.lt_of_lt_of_le hab hc.2.1))⟩

/-- **the collapsed networks are the canonical minimal cover**: no two of them have the same
supernet (so no pair of siblings is left unmerged), none lies inside another, and every well-formed
network whose addresses are all covered by the input lies inside a single output network — the
outputs are exactly the maximal networks inside the covered address set -/
theorem collapse_minimal (f : Fam) (nets : List Net) (al : ∀ n ∈ nets, AlignedNet f n) :
    (collapseNets f nets).Pairwise (fun a b => supernet f a ≠ supernet f b) ∧
    (∀ a ∈ collapseNets f nets, ∀ b ∈ collapseNets f nets,
      (∀ c, (b.1 ≤ c ∧ c ≤ netBcast f b) → (a.1 ≤ c ∧ c ≤ netBcast f a)) → a = b) ∧
    (∀ q, AlignedNet f q →
      (∀ c, (q.1 ≤ c ∧ c ≤ netBcast f q) → ∃ n ∈ nets, n.1 ≤ c ∧ c ≤ netBcast f n) →
      ∃ s ∈ collapseNets f nets, ∀ c, (q.1 ≤ c ∧ c ≤ netBcast f q) → (s.1 ≤ c ∧ c ≤ netBcast f s)) := by
  obtain ⟨h1, h2, _, h4⟩ := collapseNets_spec f nets al
  have h3 := (collapse_sorted_disjoint f nets al).2.2
  refine ⟨h4, ?_, ?_⟩
  · -- two different outputs are disjoint, yet the start of `b` would lie in both
    intro a ha b hb hsub
    refine Decidable.byContradiction fun hne => ?_
    have hb0 := (netMem_self f b).1
    exact rel_of_pairwise_of_ne (fun x y hxy c hc => hxy c hc.symm) (h3.imp fun h => h.2) a ha b hb hne b.1
      ⟨hsub _ hb0, hb0⟩
  · intro q alq hcov
    exact canonical_cover f _ h1 h4 _ q alq rfl (fun c hc => (h2 c).mpr (hcov c hc))

/-- **API level**: `collapse_addresses(objs)` for objects that may have host bits set.  The output
covers exactly the addresses of the objects' networks (the addresses sharing an object's leading
`len` bits), and is the well-formed, ascending, disjoint, canonical cover of that set. -/
theorem collapse_api (f : Fam) (objs : List Obj) (hv : ∀ x ∈ objs, Valid f x) :
    (∀ c, (∃ n ∈ collapse f objs, n.1 ≤ c ∧ c ≤ netBcast f n) ↔
      (∃ x ∈ objs, c >>> (f.w - x.len) = x.ip >>> (f.w - x.len))) ∧
    (∀ n ∈ collapse f objs, AlignedNet f n) ∧
    (collapse f objs).Pairwise (fun a b => netBcast f a < b.1) ∧
    (collapse f objs).Pairwise (fun a b => supernet f a ≠ supernet f b) ∧
    (∀ q, AlignedNet f q →
      (∀ c, (q.1 ≤ c ∧ c ≤ netBcast f q) → ∃ x ∈ objs, c >>> (f.w - x.len) = x.ip >>> (f.w - x.len)) →
      ∃ s ∈ collapse f objs, ∀ c, (q.1 ≤ c ∧ c ≤ netBcast f q) → (s.1 ≤ c ∧ c ≤ netBcast f s)) := by
  have al : ∀ n ∈ objs.map network, AlignedNet f n :=
    List.forall_mem_map.mpr fun x hx => aligned_network f x (hv x hx)
  have tr : ∀ c, (∃ n ∈ objs.map network, n.1 ≤ c ∧ c ≤ netBcast f n) ↔
      (∃ x ∈ objs, c >>> (f.w - x.len) = x.ip >>> (f.w - x.len)) := by
    intro c
    constructor
    · rintro ⟨n, hn, h⟩
      obtain ⟨x, hx, rfl⟩ := List.mem_map.mp hn
      exact ⟨x, hx, (network_addresses f x (hv x hx) c).mp h⟩
    · rintro ⟨x, hx, h⟩
      exact ⟨network x, List.mem_map.mpr ⟨x, hx, rfl⟩, (network_addresses f x (hv x hx) c).mpr h⟩
  have sd := collapse_sorted_disjoint f _ al
  have mn := collapse_minimal f _ al
  refine ⟨fun c => (collapse_covers f _ al c).trans (tr c), sd.1, sd.2.1, mn.1, ?_⟩
  intro q alq hcov
  exact mn.2.2 q alq (fun c hc => (tr c).mpr (hcov c hc))

/-- the family constants of the generated tables satisfy what the proofs assume -/
theorem families_ok : v4.Ok ∧ v6.Ok ∧ v4.w = 32 ∧ v6.w = 128 := ⟨v4_ok, v6_ok, by decide, by decide⟩

-- non-vacuity: a /127 inside a /64, the last address of a /64 (the F17 input), a /31, the zero prefix
example : Valid v6 (ofIpLen v6 0x20010db8000000000000000000000003 127) := by decide +kernel
example : contains6 v6 (ofIpLen v6 0x20010db8000000000000000000000000 64)
    (ofIpLen v6 0x20010db8000000000000000000000003 127) = true := by decide +kernel
example : contains6 v6 (ofIpLen v6 0x20010db8000000000000000000000000 64)
    (ofIpLen v6 0x20010db800000000ffffffffffffffff 128) = true := by decide +kernel
/-- F17 as it was before the repair: the last address of the /64 was reported outside -/
example : contains6AsWritten v6 (ofIpLen v6 0x20010db8000000000000000000000000 64)
    (ofIpLen v6 0x20010db800000000ffffffffffffffff 128) = false := by decide +kernel
example : contains4 v4 (ofIpLen v4 0x0a000001 31) (ofIpLen v4 0x0a000000 32) = true := by decide +kernel
example : contains4 v4 (ofIpLen v4 0x0a000001 31) (ofIpLen v4 0x0a000002 32) = false := by decide +kernel
example : contains4 v4 (ofIpLen v4 0x0a000001 0) (ofIpLen v4 0xffffffff 32) = true := by decide +kernel
example : contains4 v4 (ofIpLen v4 0x0a000001 24) (ofIpLen v4 0x0a000001 23) = false := by decide +kernel

-- non-vacuity: objects with host bits satisfy the hypotheses; on their networks the dict loop merges the
-- two /25 halves, then 10.0.0.0/24 with 10.0.1.0/24, and the final pass drops the covered host route
-- (`List.mergeSort` is defined by well-founded recursion and does not reduce under `decide`; the two
-- stages around it do)
example : ∀ x ∈ [ofIpLen v4 0x0a000001 25, ofIpLen v4 0x0a000085 25, ofIpLen v4 0x0a000105 24,
    ofIpLen v4 0x0a000107 32, ofIpLen v4 0xc0000201 32], Valid v4 x := by decide +kernel
example : ([ofIpLen v4 0x0a000001 25, ofIpLen v4 0x0a000085 25, ofIpLen v4 0x0a000105 24,
    ofIpLen v4 0x0a000107 32, ofIpLen v4 0xc0000201 32].map network)
    = [(0x0a000000, 25), (0x0a000080, 25), (0x0a000100, 24), (0x0a000107, 32), (0xc0000201, 32)] := by decide +kernel
example : (mergeLoop v4 34 [(0xc0000201, 32), (0x0a000107, 32), (0x0a000100, 24), (0x0a000080, 25),
    (0x0a000000, 25)] []).map (·.2) = [(0x0a000000, 23), (0x0a000107, 32), (0xc0000201, 32)] := by decide +kernel
example : dropCovered v4 none [(0x0a000000, 23), (0x0a000107, 32), (0xc0000201, 32)]
    = [(0x0a000000, 23), (0xc0000201, 32)] := by decide +kernel

/-! ## The other operands `in` and `collapse_addresses` meet

`containsX self val` is `val in self` for any two operands (`Ccp.Model.IPValX`): a non-empty object of
either family, the empty object `IPv4Obj()` / `IPv6Obj()`, or a `str`; the answer is a truth value or
the exception class that escapes.  `collapseX isSeq items` is `collapse_addresses(arg)` for an argument
that is a `Sequence` or not, with items that are objects, stdlib networks, empty objects or something else. -/

open Ccp.IPValX in
/-- **on two non-empty objects of one family the general operator is the membership test of the
theorems above** (so `contains4_iff` / `contains6_iff` speak about `in` itself), and it never raises there -/
theorem containsX_same_family (y x : Obj) :
    containsX (.obj4 y) (.obj4 x) = some (.ok (contains4 v4 y x)) ∧
    containsX (.obj6 y) (.obj6 x) = some (.ok (contains6 v6 y x)) := by
  refine ⟨rfl, ?_⟩
  simp only [containsX, contains6X]
  split
  · next h => simp [contains6, h]
  · rfl

open Ccp.IPValX in
/-- **empty objects, IPv4**: `IPv4Obj() in IPv4Obj()` is true; an empty object is in no non-empty
object and contains none; between IPv4 operands (empty or not) `in` never raises. -/
theorem containsX_empty4 (x : Obj) :
    containsX .empty4 .empty4 = some (.ok true) ∧
    containsX (.obj4 x) .empty4 = some (.ok false) ∧
    containsX .empty4 (.obj4 x) = some (.ok false) := ⟨rfl, rfl, rfl⟩

open Ccp.IPValX in
/-- **empty objects, IPv6**: an empty container raises `ValueError` whatever the operand; an empty
operand raises `ValueError` unless the container is the zero prefix, which answers `True` before it
looks at the operand. -/
theorem containsX_empty6 (y : Obj) (val : Arg) :
    containsX .empty6 val = some (.error .valueError) ∧
    (y.len ≠ 0 → containsX (.obj6 y) .empty6 = some (.error .valueError)) ∧
    (y.len = 0 → containsX (.obj6 y) val = some (.ok true)) := by
  refine ⟨rfl, fun h => ?_, fun h => ?_⟩ <;> simp [containsX, contains6X, h]

open Ccp.IPValX in
/-- **the other family** (what `ipgrep` guards against with `addr.version == subnet.version`): an IPv6
operand in an IPv4 container is decided by the prefix lengths and the first comparison, else
`ValueError`; an IPv4 operand in an IPv6 container is `True` for the zero prefix, `False` for a longer
container prefix, else `ValueError`.  It is never decided by containment. -/
theorem containsX_other_family (y x : Obj) :
    containsX (.obj4 y) (.obj6 x) = some (
      if y.len = 0 then .ok true else if y.len > x.len then .ok false
      else if y.net ≤ x.net then .error .valueError else .ok false) ∧
    containsX (.obj6 y) (.obj4 x) = some (
      if y.len = 0 then .ok true else if y.len > x.len then .ok false else .error .valueError) :=
  ⟨rfl, rfl⟩

open Ccp.IPValX in
/-- **`collapse_addresses` accepts objects and stdlib networks alike**: for a `Sequence` of objects /
networks of one family the result is the stdlib collapse of the networks they stand for (so
`collapse_covers` … `collapse_minimal` apply); in particular a list of objects and the list of their
`.network`s give the same result, which is `collapse` of the theorems above. -/
theorem collapseX_forms (fam : Nat) (items : List Item) (hg : ∀ i ∈ items, GoodItem i)
    (hf : ∀ i ∈ items, (itemNet i).1 = fam) (hne : items ≠ []) :
    collapseX true items = .ok (collapseNets (famOfNat fam) (items.map (fun i => (itemNet i).2))) :=
  collapseX_good fam items hg hf

open Ccp.IPValX in
theorem collapseX_objects (fam : Nat) (objs : List Obj) :
    collapseX true (objs.map (.obj fam)) = .ok (collapse (famOfNat fam) objs) ∧
    collapseX true (objs.map (fun x => .net fam (network x))) = .ok (collapse (famOfNat fam) objs) := by
  constructor
  · rw [collapseX_good fam (objs.map (.obj fam)) (List.forall_mem_map.mpr fun _ _ => trivial)
      (List.forall_mem_map.mpr fun _ _ => rfl), List.map_map]
    rfl
  · rw [collapseX_good fam (objs.map fun x => .net fam (network x)) (List.forall_mem_map.mpr fun _ _ => trivial)
      (List.forall_mem_map.mpr fun _ _ => rfl), List.map_map]
    rfl

open Ccp.IPValX in
/-- **what `collapse_addresses` rejects**: an argument that is not a `Sequence` (a set, a dict, an
iterator) → `ValueError`; otherwise the first item that is neither object nor network decides —
`ValueError` for another type, `AttributeError` for an empty object; two neighbouring items of
different families → `TypeError` (from the stdlib). -/
theorem collapseX_rejects (items pre post : List Item) (hp : ∀ i ∈ pre, GoodItem i) :
    collapseX false items = .error .valueError ∧
    collapseX true (pre ++ .bad :: post) = .error .valueError ∧
    collapseX true (pre ++ .empty :: post) = .error .attributeError ∧
    (∀ a b : Item, GoodItem a → GoodItem b → (∀ i ∈ post, GoodItem i) → (itemNet a).1 ≠ (itemNet b).1 →
      collapseX true (pre ++ a :: b :: post) = .error .typeError) := by
  refine ⟨rfl, ?_, ?_, ?_⟩
  · simp [collapseX, ipNets_first_bad pre .bad post hp .valueError rfl]
  · simp [collapseX, ipNets_first_bad pre .empty post hp .attributeError rfl]
  · intro a b ha hb hpost hne
    have hg : ∀ i ∈ pre ++ a :: b :: post, GoodItem i :=
      List.forall_mem_append.mpr ⟨hp, List.forall_mem_cons.mpr ⟨ha, List.forall_mem_cons.mpr ⟨hb, hpost⟩⟩⟩
    have hs := sameVersion_adjacent (pre.map itemNet) (itemNet a) (itemNet b) (post.map itemNet) hne
    simp only [collapseX, Bool.not_true, Bool.false_eq_true, if_false, ipNets_good _ hg, List.map_append,
      List.map_cons, hs, Bool.not_false, if_true]

-- non-vacuity: the first comparison decides `False` for the other family, else `ValueError`; the zero prefix
-- of IPv6 contains a str
open Ccp.IPValX in
example : containsX (.obj4 (ofIpLen v4 0x0a000001 8)) (.obj6 (ofIpLen v6 0x0a000001 128)) = some (.error .valueError) ∧
    containsX (.obj4 (ofIpLen v4 0x0a000001 8)) (.obj6 (ofIpLen v6 1 128)) = some (.ok false) ∧
    containsX (.obj6 (ofIpLen v6 1 0)) .other = some (.ok true) ∧
    containsX (.obj4 (ofIpLen v4 1 0)) .other = some (.error .attributeError) := by decide +kernel
open Ccp.IPValX in
example : collapseX true [.obj 4 (ofIpLen v4 0x0a000001 24), .bad, .empty] = .error .valueError ∧
    collapseX true [.obj 4 (ofIpLen v4 0x0a000001 24), .empty, .bad] = .error .attributeError ∧
    collapseX true [.obj 4 (ofIpLen v4 0x0a000001 24), .net 6 (0, 64)] = .error .typeError ∧
    collapseX false [] = .error .valueError ∧ collapseX true [] = .ok [] := by decide +kernel

end Ccp.C12
