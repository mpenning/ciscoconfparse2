import Ccp.Proofs.Range
import Ccp.Proofs.RangeCompress
import Ccp.Proofs.RangeX
/-!
# C14 — integer range strings expand to the denoted set and compress back canonically

The property theorems; the lemmas behind them are in `Ccp.Proofs.Range`, `Ccp.Proofs.RangeCompress`
(the string level) and `Ccp.Proofs.RangeX` (the option forms).
-/
namespace Ccp.C14
open Ccp.Range Ccp.Py Ccp.RangeX

/-- spec: `n` is denoted by one comma-separated part -/
def InPart (p : Nat × Option Nat) (n : Nat) : Prop :=
  match p with
  | (lo, none) => n = lo
  | (lo, some hi) => lo ≤ n ∧ n ≤ hi

theorem mem_expandPart (p : Nat × Option Nat) (n : Nat) : n ∈ expandPart p ↔ InPart p n := by
  obtain ⟨lo, e⟩ := p
  cases e with
  | none => simp [expandPart, InPart]
  | some hi => simp [expandPart, InPart, mem_upto]

/-- **Expansion**: whenever a text is accepted, the members are exactly the union of the
closed intervals written in it, strictly ascending (hence duplicate free).  A descending
interval denotes nothing. -/
theorem parse_denotes (text : Str) (d : List Nat) (h : parse text = .ok d) :
    d.Pairwise (· < ·) ∧
    (text ≠ [] → ∃ ps, parseParts text = .ok ps ∧ ∀ n, n ∈ d ↔ ∃ p ∈ ps, InPart p n) ∧
    (text = [] → d = []) := by
  unfold parse at h
  split at h
  · rename_i h0
    cases h
    exact ⟨List.Pairwise.nil, fun hne => absurd h0 hne, fun _ => rfl⟩
  · split at h
    · cases h
    · split at h
      · rename_i ps hps
        cases h
        refine ⟨sortedSet_sorted _, fun _ => ⟨ps, hps, fun n => ?_⟩, fun h0 => absurd h0 ‹_›⟩
        simp only [mem_sortedSet, List.mem_flatMap, mem_expandPart]
      · cases h

/-- `append` is sorted-set insertion and raises exactly for a duplicate. -/
theorem append_spec (d : List Nat) (v : Nat) (_hd : d.Pairwise (· < ·)) :
    (v ∈ d → append d v = .error .duplicate) ∧
    (v ∉ d → ∃ d', append d v = .ok d' ∧ d'.Pairwise (· < ·) ∧ ∀ n, n ∈ d' ↔ n ∈ d ∨ n = v) := by
  constructor
  · intro h; simp [append, h]
  · intro h
    refine ⟨sortedSet (d ++ [v]), by simp [append, h], sortedSet_sorted _, ?_⟩
    intro n; rw [mem_sortedSet]; simp

/-- `remove` is sorted-set deletion and raises exactly for an absent member. -/
theorem remove_spec (d : List Nat) (v : Nat) (hd : d.Pairwise (· < ·)) :
    (v ∉ d → remove d v = .error .absent) ∧
    (v ∈ d → ∃ d', remove d v = .ok d' ∧ d'.Pairwise (· < ·) ∧ ∀ n, n ∈ d' ↔ n ∈ d ∧ n ≠ v) := by
  constructor
  · intro h; simp [remove, h]
  · intro h
    refine ⟨d.filter (· != v), by simp [remove, h], hd.filter _, ?_⟩
    intro n; simp

/-- Every ordered view of an ascending duplicate-free state is the state itself:
`as_list()`/`as_set()` (`sorted(set(data))`) return `data`. -/
theorem views_are_data (d : List Nat) (hd : d.Pairwise (· < ·)) : sortedSet d = d :=
  sortedSet_of_sorted d hd

-- non-vacuity: a text with overlap, blanks, a duplicate and a descending interval
example : (parse "3-5, 1,4 ,9-7,1".toList).toOption = some [1, 3, 4, 5] := by
  simp only [toList_lit]; decide +kernel

/-! Spec of the compressed string.  `runs S` are the maximal runs of consecutive values of a strictly
ascending list, as `(first, last)`; the canonical text writes a run of one value `a`, of two values
`a,b`, of three or more `a-b`, and joins the runs with commas. -/

/-- maximal runs of consecutive values: `x` extends the first run of the rest when it is
adjacent to it, otherwise it starts a run of its own -/
def runs : List Nat → List (Nat × Nat)
  | [] => []
  | x :: xs =>
    match runs xs with
    | (a, b) :: rs => if x + 1 = a then (x, b) :: rs else (x, x) :: (a, b) :: rs
    | [] => [(x, x)]

def renderRun : Nat × Nat → Str
  | (a, b) =>
    if a = b then toDec a
    else if a + 1 = b then toDec a ++ ',' :: toDec b
    else toDec a ++ '-' :: toDec b

def renderRuns (rs : List (Nat × Nat)) : Str := join [','] (rs.map renderRun)

example : runs [1, 3, 4, 6, 7, 8, 10] = [(1, 1), (3, 4), (6, 8), (10, 10)] := by decide +kernel
example : renderRuns (runs [1, 3, 4, 6, 7, 8, 10]) = "1,3,4,6-8,10".toList := by
  simp only [toList_lit]; decide +kernel

/-- the spec above is the one the helper lemmas are proved about -/
theorem runs_eq (s : List Nat) : runs s = Range.runs s := by
  induction s with
  | nil => rfl
  | cons x xs ih =>
    rw [runs, Range.runs, ih]
    cases Range.runs xs with
    | nil => rfl
    | cons r rs => rfl

theorem renderRuns_eq (rs : List (Nat × Nat)) : renderRuns rs = Range.renderRuns rs := rfl

/-- **Canonical text**: for every strictly ascending `S` the index loop of
`as_compressed_str` (three-element window, de-duplicated `"-"` markers, comma inserted
exactly between two entries of the same type) writes the maximal runs of `S`:
`a`, `a,b` or `a-b` joined by commas. -/
theorem compress_canonical (S : List Nat) (hS : S.Pairwise (· < ·)) :
    compress S = renderRuns (runs S) := by
  rw [runs_eq, renderRuns_eq]; exact compress_eq S hS

/-- The same for any list: `compress` first sorts and de-duplicates. -/
theorem compress_canonical_any (l : List Nat) :
    compress l = renderRuns (runs (sortedSet l)) := by
  rw [runs_eq, renderRuns_eq]; exact compress_eq_runs l

/-- **What makes the text canonical**: the runs are well formed (`first ≤ last`), expanded in
order they give back exactly `S` (they cover `S` and nothing else), and any two runs are
separated by a gap (`last + 2 ≤ first` of every later run), so they are ascending and none
can be extended or merged — they are maximal. -/
theorem runs_canonical (S : List Nat) (hS : S.Pairwise (· < ·)) :
    (∀ r ∈ runs S, r.1 ≤ r.2) ∧
    (runs S).flatMap (fun r => upto r.1 r.2) = S ∧
    (runs S).Pairwise (fun r t => r.2 + 2 ≤ t.1) := by
  rw [runs_eq]
  exact ⟨(runs_spec S).1, (runs_spec S).2.1, (runs_spec S).2.2 hS⟩

-- non-vacuity: an ascending list with runs of length 1, 2, 3 and a large value
example : [0, 2, 3, 5, 6, 7, 70000].Pairwise (· < ·) := by decide +kernel
example : compress [0, 2, 3, 5, 6, 7, 70000] = "0,2,3,5-7,70000".toList := by
  simp only [toList_lit]; decide +kernel

/-- **Round trip at the string level**: for every strictly ascending `S`, the compressed
string is accepted by the parser and expands to `S` again (for `S = []` the text is `""`). -/
theorem expand_compress (S : List Nat) (hS : S.Pairwise (· < ·)) :
    parse (compress S) = .ok S := by
  rw [compress_eq S hS]; exact parse_renderRuns S hS

example : (parse (compress [0, 2, 3, 5, 6, 7, 70000])).toOption = some [0, 2, 3, 5, 6, 7, 70000] := by
  decide +kernel
example : compress [] = [] ∧ (parse []).toOption = some [] := by decide +kernel

/-- For any list (unsorted, with duplicates) the compressed string expands to its sorted set. -/
theorem expand_compress_any (l : List Nat) : parse (compress l) = .ok (sortedSet l) := by
  rw [compress_eq_runs]
  exact parse_renderRuns _ (sortedSet_sorted l)

/-- The compressed string determines the members: two ascending lists with the same
compressed string are equal. -/
theorem compress_injective (S T : List Nat) (hS : S.Pairwise (· < ·)) (hT : T.Pairwise (· < ·))
    (h : compress S = compress T) : S = T := by
  have e := expand_compress S hS
  rw [h, expand_compress T hT] at e
  exact (Except.ok.inj e).symm

/-- Compressing what a text expanded to and expanding again gives the same members. -/
theorem parse_compress_idem (text : Str) (d : List Nat) (h : parse text = .ok d) :
    parse (compress d) = .ok d :=
  expand_compress d (parse_denotes text d h).1

example : (parse "3-5, 1,4 ,9-7,1".toList).toOption = some [1, 3, 4, 5] ∧
    compress [1, 3, 4, 5] = "1,3-5".toList ∧ (parse "1,3-5".toList).toOption = some [1, 3, 4, 5] := by
  simp only [toList_lit]; decide +kernel

/-- **String level, expansion side**: every non-empty list of parts `lo` / `lo-hi` written
in decimal without blanks and joined by commas is accepted and expands to the sorted union
of its parts. -/
theorem parse_written_parts (ps : List (Nat × Option Nat)) (hne : ps ≠ []) :
    parse (renderParts ps) = .ok (sortedSet (ps.flatMap expandPart)) :=
  parse_renderParts ps hne

example : renderParts [(9, some 11), (3, none), (10, some 12)] = "9-11,3,10-12".toList ∧
    (parse (renderParts [(9, some 11), (3, none), (10, some 12)])).toOption = some [3, 9, 10, 11, 12] := by
  simp only [toList_lit]; decide +kernel

/-- **Readers are pure**: every read accessor (`len`, iteration, `as_list`, `as_set`,
`as_compressed_str`, re-expansion, `in`) leaves the state as it was. -/
theorem readers_pure (d : List Nat) (op : Op) (h : op.isRead = true) : (stepOp d op).1 = d := by
  cases op <;> first | rfl | cases h

/-- … and so does any sequence of reads. -/
theorem readers_pure_seq (d : List Nat) (ops : List Op) (h : ∀ op ∈ ops, op.isRead = true) :
    ops.foldl (fun s op => (stepOp s op).1) d = d := by
  induction ops with
  | nil => rfl
  | cons op ops ih =>
    rw [List.foldl_cons, readers_pure d op (h op (by simp))]
    exact ih (fun o ho => h o (by simp [ho]))

/-- A failed `append` / `remove` leaves the state as it was, too. -/
theorem failed_mutation_pure (d : List Nat) (op : Op) (e : Err) (h : (stepOp d op).2 = .err e) :
    (stepOp d op).1 = d := by
  cases op with
  | app k => revert h; simp only [stepOp]; cases append d k with | ok _ => exact nofun | error _ => exact fun _ => rfl
  | rem k => revert h; simp only [stepOp]; cases remove d k with | ok _ => exact nofun | error _ => exact fun _ => rfl
  | _ => rfl

-- non-vacuity: the seven read operations are reads, the mutators are not and do change the state
example : [Op.len, .iter, .list, .set, .cstr, .rexp, .has 3].all Op.isRead = true := by decide +kernel
example : (stepOp [1, 3] (.app 2)).1 = [1, 2, 3] ∧ (stepOp [1, 3] (.rem 3)).1 = [1] ∧
    (stepOp [1, 3] (.app 3)) = ([1, 3], .err .duplicate) := by decide +kernel

/-- `CiscoRange(text, result_type=int, reverse=r)` holds what `parse` gives (so every theorem
above applies to its data); `reverse` is only remembered. -/
theorem construct_int (rev : Bool) (text : Str) :
    construct .int rev text =
      match parse text with
      | .ok d => .ok ⟨d, rev⟩
      | .error e => .error (.base e) := by
  unfold construct
  by_cases h0 : text = []
  · subst h0; simp [parse]
  · by_cases h1 : hasDoubleComma text = true
    · simp [h0, h1, parse]
    · simp only [h0, h1, if_false, Bool.false_eq_true]
      cases parse text <;> rfl

/-- An invalid `result_type` is refused for every text; `float` is refused for every text but
`""` (which builds the empty range before the type is looked at). -/
theorem construct_rejects (rev : Bool) (text : Str) :
    (∃ e, construct .bad rev text = .error e) ∧
    (text ≠ [] → ∃ e, construct .float rev text = .error e) ∧
    construct .float rev [] = .ok ⟨[], rev⟩ := by
  refine ⟨?_, ?_, by simp [construct]⟩
  · unfold construct
    by_cases h0 : text = []
    · exact ⟨.base .invalidRange, by simp [h0]⟩
    · by_cases h1 : hasDoubleComma text = true
      · exact ⟨.base .invalidRange, by simp [h0, h1]⟩
      · exact ⟨.base .invalidRange, by simp [h0, h1]⟩
  · intro h0
    unfold construct
    by_cases h1 : hasDoubleComma text = true
    · exact ⟨.base .invalidRange, by simp [h0, h1]⟩
    · exact ⟨.notImplemented, by simp [h0, h1]⟩

example : construct .bad false "1-3".toList = .error (.base .invalidRange) ∧
    construct .float true "1-3".toList = .error .notImplemented ∧
    (construct .int true "3,1-2".toList).toOption = some ⟨[1, 2, 3], true⟩ := by
  simp only [toList_lit]; decide +kernel

/-- the cast a view was asked for -/
def castOf : Ty → ElTy
  | .str => .s
  | .float => .f
  | _ => .i

/-- **Every ordered view, in every cast**: `as_list(result_type=str|int|float)` succeeds for
every state and returns a list of that cast holding each member exactly once, ascending —
descending exactly when the range was built with `reverse=True`; `as_list()` (auto) does the
same on a non-empty range. -/
theorem as_list_ordered (s : St) (t : Ty) (ht : t = .str ∨ t = .int ∨ t = .float ∨ (t = .auto ∧ s.data ≠ [])) :
    ∃ v, asList s t = .ok v ∧ v.isList = true ∧ (s.data ≠ [] → v.ty = castOf t) ∧
      (∀ n, n ∈ v.items ↔ n ∈ s.data) ∧
      (s.rev = false → v.items.Pairwise (· < ·)) ∧ (s.rev = true → v.items.Pairwise (· > ·)) := by
  have ty : ∀ c, s.data ≠ [] → elTy c (ordered s) = c :=
    fun c h => elTy_of_ne_nil c _ (ne_nil_of_mem_iff (mem_ordered s) h)
  rcases ht with rfl | rfl | rfl | ⟨rfl, hd⟩
  case inr.inr.inr =>
    exact ⟨⟨true, .i, ordered s⟩, by simp [asList, hd], rfl, fun _ => rfl, mem_ordered s, ordered_asc s, ordered_desc s⟩
  -- the three casts
  all_goals exact ⟨_, rfl, rfl, ty _, mem_ordered s, ordered_asc s, ordered_desc s⟩

/-- … and `as_set(result_type=…)` holds each member exactly once in that cast, whatever
`reverse` is (the members are listed ascending by the model). -/
theorem as_set_members (s : St) (t : Ty) (ht : t = .str ∨ t = .int ∨ t = .float ∨ (t = .auto ∧ s.data ≠ [])) :
    ∃ v, asSet s t = .ok v ∧ v.isList = false ∧ (s.data ≠ [] → v.ty = castOf t) ∧
      (∀ n, n ∈ v.items ↔ n ∈ s.data) ∧ v.items.Pairwise (· < ·) := by
  have ty : ∀ c, s.data ≠ [] → elTy c (sortedSet s.data) = c :=
    fun c h => elTy_of_ne_nil c _ (ne_nil_of_mem_iff (mem_sortedSet _) h)
  rcases ht with rfl | rfl | rfl | ⟨rfl, hd⟩
  case inr.inr.inr =>
    exact ⟨⟨false, .i, sortedSet s.data⟩, by simp [asSet, hd], rfl, fun _ => rfl, mem_sortedSet _, sortedSet_sorted _⟩
  -- the three casts
  all_goals exact ⟨_, rfl, rfl, ty _, mem_sortedSet _, sortedSet_sorted _⟩

example : asList ⟨[1, 2, 3, 7], true⟩ .str = .ok ⟨true, .s, [7, 3, 2, 1]⟩ ∧
    asSet ⟨[1, 2, 3, 7], true⟩ .float = .ok ⟨false, .f, [1, 2, 3, 7]⟩ ∧
    asList ⟨[1, 2], false⟩ .none = .error (.base .valueError) ∧
    asSet ⟨[1, 2], false⟩ .none = .error .invalidInterface ∧
    asList ⟨[], false⟩ .auto = .ok ⟨false, .e, []⟩ := by decide +kernel

/-- With the default flags the option form of `append` is `append` (sorted-set insertion,
`DuplicateMember` exactly for a member). -/
theorem appendX_plain (d : List Nat) (v : Nat) (hd : d.Pairwise (· < ·)) :
    appendX d (.int v) true false = (append d v).mapError XErr.base := by
  unfold appendX append
  by_cases hv : v ∈ d
  · simp [Val.isInt, Val.isIn, hv, Except.mapError]
  · simp [Val.isInt, Val.isIn, hv, Except.mapError]
    exact sortDup_eq_sortedSet _ (nodup_append_new d v hd hv)

/-- `ignore_errors=True` changes nothing for a value that is not a member yet … -/
theorem appendX_ignore_new (d : List Nat) (v : Nat) (hd : d.Pairwise (· < ·)) (hv : v ∉ d) :
    appendX d (.int v) true true = .ok (sortedSet (d ++ [v])) := by
  simp [appendX, Val.isInt, Val.isIn, hv]
  exact sortDup_eq_sortedSet _ (nodup_append_new d v hd hv)

/-- … and for a value that is a member already it is a no-op, for an `int` and for its decimal `str`, with or without
`sort`: the range keeps each member once.  (Before fix aef5a7a of /repo the member was added a second time: finding
FC14a.) -/
theorem appendX_ignore_member (d : List Nat) (v : Nat) (hv : v ∈ d) (sort : Bool) :
    appendX d (.int v) sort true = .ok d ∧ appendX d (.strOf v) sort true = .ok d := by
  simp [appendX, Val.isInt, Val.isIn, hv]

/-- so a strictly ascending range stays strictly ascending under `append(·, ignore_errors=True)` whatever the value -/
theorem appendX_ignore_keeps_ascending (d : List Nat) (v : Nat) (hd : d.Pairwise (· < ·)) :
    ∃ d', appendX d (.int v) true true = .ok d' ∧ d'.Pairwise (· < ·) ∧ v ∈ d' := by
  by_cases hv : v ∈ d
  · exact ⟨d, (appendX_ignore_member d v hv true).1, hd, hv⟩
  · refine ⟨sortedSet (d ++ [v]), appendX_ignore_new d v hd hv, sortedSet_sorted _, ?_⟩
    exact (mem_sortedSet _ _).mpr (by simp)

example : [1, 2, 3].Pairwise (· < ·) ∧ 2 ∈ [1, 2, 3] ∧
    appendX [1, 2, 3] (.int 2) true true = .ok [1, 2, 3] ∧ appendX [1, 2, 3] (.strOf 2) false true = .ok [1, 2, 3] := by decide +kernel

/-- `sort=False` puts a new value at the end; a `str` is refused by a non-empty range unless
`ignore_errors` is set (then it is converted); a non-numeric `str` never changes the data. -/
theorem appendX_other_forms (d : List Nat) (v : Nat) (sort ign : Bool) :
    (v ∉ d → appendX d (.int v) false ign = .ok (d ++ [v])) ∧
    (d ≠ [] → appendX d (.strOf v) sort false = .error .mismatched) ∧
    (appendX d (.strOf v) sort true = appendX d (.int v) sort true) ∧
    (appendX d .junk sort ign = .ok d ∨ appendX d .junk sort ign = .error .mismatched) := by
  refine ⟨?_, ?_, ?_, ?_⟩
  · intro hv
    simp [appendX, Val.isInt, Val.isIn, hv]
  · intro h; simp [appendX, Val.isInt, h]
  · simp [appendX, Val.isInt, Val.isIn]
  · unfold appendX
    by_cases h : d ≠ [] ∧ Val.junk.isInt = false ∧ ign = false
    · right; simp [h]
    · left; simp [h, Val.isIn]

/-- With the default flag the option form of `remove` is `remove`, for every state. -/
theorem removeX_plain (d : List Nat) (v : Nat) :
    removeX d (.int v) false = (remove d v).mapError XErr.base := by
  unfold removeX remove
  by_cases hm : v ∈ d
  · have hne : d ≠ [] := List.ne_nil_of_mem hm
    simp [Val.isIn, hm, hne, Except.mapError, (filter_length_lt_iff d v).mpr hm]
  · by_cases hne : d = []
    · simp [Val.isIn, hne, Except.mapError]
    · simp [Val.isIn, hm, hne, Except.mapError]

/-- `remove(v, ignore_errors=True)` is set deletion without the error: nothing happens for an
absent value, a member is taken out. `remove(None)` never changes the data. -/
theorem removeX_ignore (d : List Nat) (v : Nat) (ign : Bool) :
    (v ∉ d → removeX d (.int v) true = .ok d) ∧
    (v ∈ d → removeX d (.int v) true = .ok (d.filter (· != v))) ∧
    (removeX d .junk ign = .ok d ∨ removeX d .junk ign = .error (.base .absent)) := by
  refine ⟨?_, ?_, ?_⟩
  · intro hv
    simp [removeX, Val.isIn, hv]
  · intro hm
    have hne : d ≠ [] := List.ne_nil_of_mem hm
    simp [removeX, Val.isIn, hm, hne, (filter_length_lt_iff d v).mpr hm]
  · unfold removeX
    cases ign
    · right; by_cases hne : d = [] <;> simp [Val.isIn, hne]
    · left; simp [Val.isIn]

example : removeX [1, 3] (.int 2) true = .ok [1, 3] ∧ removeX [1, 3] (.int 3) true = .ok [1] ∧
    removeX [1, 3] (.strOf 3) false = .ok [1] ∧ removeX [1, 3] (.strOf 3) true = .ok [1, 3] ∧
    removeX [] (.int 3) false = .error (.base .absent) := by decide +kernel

/-- **Readers are pure, option forms included**: every typed view, `insert` (always refused)
and every reader of the plain interface leave data and `reverse` as they were. -/
theorem readersX_pure (s : St) (op : OpX) (h : op.isRead = true) : (stepX s op).1 = s := by
  cases op with
  | old o => cases o <;> first | rfl | cases h
  | app v a b => cases h
  | rem v a => cases h
  | _ => rfl

theorem readersX_pure_seq (s : St) (ops : List OpX) (h : ∀ op ∈ ops, op.isRead = true) :
    ops.foldl (fun st op => (stepX st op).1) s = s := by
  induction ops with
  | nil => rfl
  | cons op ops ih =>
    rw [List.foldl_cons, readersX_pure s op (h op (by simp))]
    exact ih (fun o ho => h o (by simp [ho]))

/-- A refused call leaves the state as it was. -/
theorem failedX_pure (s : St) (op : OpX) (e : XErr) (h : (stepX s op).2 = .err e) :
    (stepX s op).1 = s := by
  cases op with
  | old o =>
    cases o with
    | app k => exact settle_err s _ e h
    | rem k => exact settle_err s _ e h
    | _ => rfl
  | app v a b => exact settle_err s _ e h
  | rem v a => exact settle_err s _ e h
  | _ => rfl

/-- On the plain interface the option model moves the data exactly as `stepOp` does. -/
theorem stepX_old_state (d : List Nat) (r : Bool) (o : Op) (hd : d.Pairwise (· < ·)) :
    (stepX ⟨d, r⟩ (.old o)).1 = ⟨(stepOp d o).1, r⟩ := by
  cases o <;> try rfl
  · rename_i k
    simp only [stepX, stepOp, appendX_plain d k hd]
    cases append d k <;> rfl
  · rename_i k
    simp only [stepX, stepOp, removeX_plain d k]
    cases remove d k <;> rfl

example : [OpX.list .str, .set .bad, .ins 4, .old .len, .old (.has 3)].all OpX.isRead = true := by decide +kernel
example : (stepX ⟨[1, 3], true⟩ (.app (.int 2) false false)).1 = ⟨[1, 3, 2], true⟩ ∧
    (stepX ⟨[1, 3], true⟩ (.ins 2)) = (⟨[1, 3], true⟩, .err .notImplemented) := by decide +kernel

/-- **`reverse` is visible in `as_list` only**: whatever the flag, every other call gives the same
answer and leaves the same data (iteration, `obj.data`, `len`, `as_set`, the compressed string,
membership, `append`, `remove`, `insert` do not depend on it). -/
theorem reverse_only_in_as_list (d : List Nat) (r1 r2 : Bool) (op : OpX)
    (h1 : ∀ t, op ≠ .list t) (h2 : op ≠ .old .list) :
    (stepX ⟨d, r1⟩ op).2 = (stepX ⟨d, r2⟩ op).2 ∧
    (stepX ⟨d, r1⟩ op).1.data = (stepX ⟨d, r2⟩ op).1.data := by
  cases op with
  | old o =>
    cases o with
    | list => exact absurd rfl h2
    | app k => exact settle_rev d r1 r2 _
    | rem k => exact settle_rev d r1 r2 _
    | _ => exact ⟨rfl, rfl⟩
  | list t => exact absurd rfl (h1 t)
  | app v a b => exact settle_rev d r1 r2 _
  | rem v a => exact settle_rev d r1 r2 _
  | _ => exact ⟨rfl, rfl⟩

/-- … and so do the five further readers. -/
theorem reverse_not_in_readers (rt : CTy) (fresh d : List Nat) (r1 r2 : Bool) (r : ReadOp) :
    readX rt fresh ⟨d, r1⟩ r = readX rt fresh ⟨d, r2⟩ r := by
  cases r <;> rfl

/-- The further readers: `obj.data` is what iteration gives, `obj[k]` is the `k`-th member in
that order and raises `IndexError` from `len` on, `==` against a freshly parsed range holds
exactly while the data are the parsed ones. -/
theorem further_readers (rt : CTy) (fresh : List Nat) (s : St) (k : Nat) :
    readX rt fresh s .data = .old (stepOp s.data .iter).2 ∧
    (∀ h : k < s.data.length, readX rt fresh s (.idx k) = .old (.nat s.data[k])) ∧
    (s.data.length ≤ k → readX rt fresh s (.idx k) = .err .indexError) ∧
    (readX rt fresh s .eqFresh = .old (.bool true) ↔ s.data = fresh) := by
  refine ⟨rfl, ?_, ?_, ?_⟩
  · intro h; simp [readX, List.getElem?_eq_getElem h]
  · intro h; simp [readX, List.getElem?_eq_none h]
  · simp [readX]

example : readX .int [1, 2, 3] ⟨[1, 2, 3], true⟩ .str = .old (.str "[1, 2, 3]".toList) ∧
    readX .int [1, 2, 3] ⟨[1, 2, 3], true⟩ .repr = .old (.str "<CiscoRange [1, 2, 3] members: <class 'int'>>".toList) ∧
    readX .float [] ⟨[], false⟩ .repr = .old (.str "<CiscoRange [] result_type: <class 'float'>>".toList) ∧
    readX .int [1, 2, 3] ⟨[1, 3], true⟩ .eqFresh = .old (.bool false) ∧
    readX .int [1, 2, 3] ⟨[1, 3], true⟩ (.idx 2) = .err .indexError := by
  simp only [toList_lit]; decide +kernel

end Ccp.C14
