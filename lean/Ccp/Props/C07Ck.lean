import Ccp.Model.Checkpoint
/-!
# C07 — the search seatbelt at the level of the integer checkpoints

`Ccp.Edit` (C06/C07) carries a boolean `stale`.  Here the two integers the code really compares are modelled, with the
tuple hash as a parameter, and the boolean reading is derived: after any number of list inserts since the last commit
the seatbelt trips iff the hashes of the inserted fresh objects do not sum to zero.  A CPython hash is a signed
machine word and Python adds them as unbounded integers, so "sum to zero" is the (only) way an insert can go unnoticed —
for inserts alone the assumption the boolean model makes is exactly `NoCancel`.  (After a `pop` or a text change the
next insert recomputes the sum over a list that lost an old object, so its hash enters the difference too: `[.pop 0,
.insert 0 y]` on a one-line list with `h (l, t) = |t| + 1` leaves the seatbelt closed although `NoCancel h` holds.)
-/
namespace Ccp.C07Ck
open Ccp.Py Ccp.Checkpoint

theorem total_append (h : Item → Int) (a b : List Item) : total h (a ++ b) = total h a + total h b := by
  simp [total, List.sum_append]

theorem total_cons (h : Item → Int) (x : Item) (l : List Item) : total h (x :: l) = h x + total h l := by
  simp [total]

theorem total_insertAt (h : Item → Int) (l : List Item) (p : Nat) (x : Item) :
    total h (insertAt l p x) = total h l + h x := by
  unfold insertAt
  rw [total_append, total_cons]
  have := total_append h (l.take p) (l.drop p)
  rw [List.take_append_drop] at this
  omega

/-- `search_safe` compares the two integers -/
theorem safe_iff (s : St) : safe s = true ↔ s.current = s.commit := by
  simp [safe]

/-- a commit always leaves the seatbelt closed, and the checkpoint is the sum over the rebuilt list -/
theorem commit_safe (h : Item → Int) (keep : Str → Bool) (s : St) :
    safe (commit h keep s) = true ∧ (commit h keep s).commit = total h (commit h keep s).items := by
  simp [commit, safe]

/-- the state right after a commit, or after any edits that recompute nothing -/
def Synced (s : St) : Prop := s.current = s.commit

/-- one insert: the new current checkpoint is the sum over the new list, i.e. old sum + hash of the fresh object -/
theorem insert_current (h : Item → Int) (s : St) (p : Nat) (t : Str) :
    (lineInsert h s p t).current = total h s.items + h (-1, t) ∧ (lineInsert h s p t).commit = s.commit := by
  simp [lineInsert, total_insertAt]

/-- `pop`, `delete` and the text setter do not touch the checkpoints: such an edit alone is NOT noticed by the seatbelt
(the property only demands the refusal after an insert or a family append, which inserts) -/
theorem pop_setText_keep_checkpoints (s : St) (p : Nat) (t : Str) :
    (pop s p).current = s.current ∧ (pop s p).commit = s.commit ∧
    (setText s p t).current = s.current ∧ (setText s p t).commit = s.commit := by
  simp [pop, setText]

/-- texts inserted by a run of inserts -/
def insertMany (h : Item → Int) (s : St) : List (Nat × Str) → St
  | [] => s
  | (p, t) :: r => insertMany h (lineInsert h s p t) r

theorem insertMany_items_total (h : Item → Int) (s : St) (ins : List (Nat × Str)) :
    total h (insertMany h s ins).items = total h s.items + (ins.map (fun pt => h (-1, pt.2))).sum := by
  induction ins generalizing s with
  | nil => simp [insertMany]
  | cons pt r ih =>
    obtain ⟨p, t⟩ := pt
    simp only [insertMany, List.map_cons, List.sum_cons]
    rw [ih]
    simp only [lineInsert, total_insertAt]
    omega

/-- **the seatbelt after k ≥ 1 inserts since a commit**: with `commit = Σ h` over the committed list (true right after
`commit`), the current checkpoint exceeds the commit checkpoint by exactly the sum of the hashes of the fresh objects -/
theorem inserts_delta (h : Item → Int) (s : St) (hc : s.commit = total h s.items)
    (pt : Nat × Str) (ins : List (Nat × Str)) :
    (insertMany h s (pt :: ins)).current - (insertMany h s (pt :: ins)).commit
      = ((pt :: ins).map (fun q => h (-1, q.2))).sum := by
  -- `commit` never moves, and once an insert has recomputed it `current` is the sum over the list
  have key : ∀ (l : List (Nat × Str)) (s : St), (insertMany h s l).commit = s.commit ∧
      (s.current = total h s.items → (insertMany h s l).current = total h (insertMany h s l).items) := by
    intro l
    induction l with
    | nil => exact fun _ => ⟨rfl, id⟩
    | cons q r ih => exact fun s => ⟨(ih _).1, fun _ => (ih _).2 rfl⟩
  have e1 : (insertMany h s (pt :: ins)).current = total h (insertMany h s (pt :: ins)).items :=
    (key ins (lineInsert h s pt.1 pt.2)).2 rfl
  rw [e1, (key _ s).1, insertMany_items_total, hc]
  omega

/-- hence: searches are refused after the inserts iff the fresh hashes do not cancel -/
theorem inserts_unsafe_iff (h : Item → Int) (s : St) (hc : s.commit = total h s.items)
    (pt : Nat × Str) (ins : List (Nat × Str)) :
    safe (insertMany h s (pt :: ins)) = false ↔ ((pt :: ins).map (fun q => h (-1, q.2))).sum ≠ 0 := by
  rw [← inserts_delta h s hc pt ins, Ne, Int.sub_eq_zero, ← safe_iff, Bool.not_eq_true]

/-- the assumption under which the boolean `stale` of `Ccp.Edit` is exact after inserts alone: no non-empty batch of
fresh objects has hashes summing to zero -/
def NoCancel (h : Item → Int) : Prop :=
  ∀ ts : List Str, ts ≠ [] → (ts.map (fun t => h (-1, t))).sum ≠ 0

theorem insert_sets_stale_of_noCancel (h : Item → Int) (hn : NoCancel h) (s : St)
    (hc : s.commit = total h s.items) (pt : Nat × Str) (ins : List (Nat × Str)) :
    safe (insertMany h s (pt :: ins)) = false := by
  rw [inserts_unsafe_iff h s hc]
  have := hn ((pt :: ins).map (·.2)) (by simp)
  simpa [List.map_map, Function.comp_def] using this

/-- and a commit closes it again, whatever happened before -/
theorem commit_restores (h : Item → Int) (keep : Str → Bool) (s : St) (ops : List Op) :
    safe (run h keep s (ops ++ [.commit])) = true := by
  simp [run, List.foldl_append, step, (commit_safe h keep _).1]

/-- a positive hash is one way to satisfy `NoCancel` (non-vacuity of the hypothesis) -/
example : NoCancel (fun it => (it.2.length : Int) + 1) := by
  intro ts hts
  have : ∀ l : List Str, 0 ≤ (l.map (fun t => ((t.length : Int) + 1))).sum := by
    intro l; induction l with
    | nil => simp
    | cons a r ih => simp only [List.map_cons, List.sum_cons]; omega
  cases ts with
  | nil => exact absurd rfl hts
  | cons a r =>
    simp only [List.map_cons, List.sum_cons]
    have := this r
    omega

/-- two inserts whose hashes cancel go unnoticed: the boolean abstraction needs its assumption (witness) -/
example :
    let h : Item → Int := fun it => if it.2 = ['a'] then 5 else if it.2 = ['b'] then -5 else 1
    let s : St := { items := [(0, ['x'])], current := 1, commit := 1 }
    safe (insertMany h s [(0, ['a']), (1, ['b'])]) = true ∧ safe (insertMany h s [(0, ['a'])]) = false := by
  decide +kernel

end Ccp.C07Ck
