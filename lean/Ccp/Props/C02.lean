import Ccp.Spec.Indent
import Ccp.Proofs.TreeLink
import Ccp.Proofs.TreeLossless
import Ccp.Proofs.TreeKeep
import Ccp.Spec.BannerLinks
import Ccp.Proofs.TreeBanner
import Ccp.Proofs.Py
/-!
# C02 — parent/child links follow the indentation rule

The specification (`Ccp/Spec/Indent.lean`): `specParent infos i` is `i` itself (a root) when
line `i` is not indented, or is a comment whose directly preceding line is indented deeper;
otherwise it is the largest `j < i` such that line `j` is a configuration line (not blank, not
a comment) indented strictly less than line `i`, and `i` if there is no such line.
`specChildren infos p` lists the `i ≠ p` with `specParent infos i = p`, ascending.

The specification with banner and macro bodies included (`Ccp/Spec/BannerLinks.lean`):
`specParentFull cfg ls i` is the last `macro name` line (syntax ios) whose stretch reaches line
`i`; else the last banner start whose stretch reaches `i`; else `specParent`.  The stretch of a
banner start = the following lines up to and including the first one containing the delimiter
(to the end of the config if there is none); of a macro start = up to and including the first
`@` line.  See the second half of this file.

Property theorems only; helper lemmas live in `Ccp.Proofs.TreeLink` / `Ccp.Proofs.TreeLossless` /
`Ccp.Proofs.TreeBanner`.
-/
namespace Ccp.C02
open Ccp.Tree Ccp.Py

/-- what the loop should settle on before the comment exception (`Proofs.TreeLink.candSpec`):
nothing for an unindented line, else the walk-back answer over the processed lines. -/
example (rp : List (Nat × Info)) (l : Info) :
    candSpec rp l = if l.indent = 0 then none else walkBack rp l.indent := rfl

/-- **Cache invariant** of the bootstrap loop.  `CacheInv cache mx revPre` says: every cached
entry `k ↦ p` is the walk-back answer for indent `k` over the processed lines `revPre`, and
`0 < k ≤ mx` (`mx` = `max_indent`).  It holds for the initial state and every iteration
preserves it, for every state and every line; under it the parent chosen by the iteration
is the specified candidate passed through the comment exception (cached hit = walk-back). -/
theorem cache_inv :
    CacheInv St.init.cache St.init.mx St.init.revPre ∧
    ∀ (st : St) (i : Nat) (l : Info), CacheInv st.cache st.mx st.revPre →
      CacheInv (step st i l).1.cache (step st i l).1.mx (step st i l).1.revPre ∧
      (step st i l).2 = attach st.revPre i l (candSpec st.revPre l) :=
  ⟨cacheInv_init, fun st i l h => ⟨(step_correct st i l h).2, (step_correct st i l h).1⟩⟩

/-- the invariant, unfolded (so that the statement above can be read without the helper file) -/
example (cache : Cache) (mx : Nat) (rp : List (Nat × Info)) :
    CacheInv cache mx rp ↔
      ∀ k p, lookup cache k = some p → walkBack rp k = some p ∧ 0 < k ∧ k ≤ mx := Iff.rfl

/-- `nearestShallower infos k n` is the largest `j < n` whose line is a configuration line
indented less than `k` … -/
theorem nearestShallower_some (infos : List Info) (k n j : Nat) :
    nearestShallower infos k n = some j ↔
      j < n ∧ (∃ l, infos[j]? = some l ∧ l.isCfg = true ∧ l.indent < k) ∧
      ∀ m l, j < m → m < n → infos[m]? = some l → ¬ (l.isCfg = true ∧ l.indent < k) :=
  nearestShallower_eq_some infos k n j

/-- … and `none` exactly when there is no such line. -/
theorem nearestShallower_none (infos : List Info) (k n : Nat) :
    nearestShallower infos k n = none ↔
      ∀ m l, m < n → infos[m]? = some l → ¬ (l.isCfg = true ∧ l.indent < k) :=
  nearestShallower_eq_none infos k n

/-- **The specification, read declaratively.**  For a line `i` with info `l`:
an unindented line and a comment under a deeper line are roots; otherwise `p` is the parent
iff either `p = i` and no earlier configuration line is indented less, or `p < i` is a
configuration line indented less than `l` and no line strictly between `p` and `i` is. -/
theorem specParent_spec (infos : List Info) (i : Nat) (l : Info) (hl : infos[i]? = some l) :
    ((l.indent = 0 ∨ commentUnderDeeper infos i = true) → specParent infos i = i) ∧
    (¬ (l.indent = 0 ∨ commentUnderDeeper infos i = true) → ∀ p, specParent infos i = p ↔
      (p = i ∧ ∀ m k, m < i → infos[m]? = some k → ¬ (k.isCfg = true ∧ k.indent < l.indent)) ∨
      (p < i ∧ (∃ k, infos[p]? = some k ∧ k.isCfg = true ∧ k.indent < l.indent) ∧
        ∀ m k, p < m → m < i → infos[m]? = some k → ¬ (k.isCfg = true ∧ k.indent < l.indent))) := by
  unfold specParent
  simp only [hl]
  refine ⟨fun h => if_pos h, fun h p => ?_⟩
  rw [if_neg h, ← nearestShallower_eq_none, ← nearestShallower_eq_some]
  cases nearestShallower infos l.indent i <;> simp [eq_comm]

/-- **Pass 1 computes the specification**: for every configuration of the parser and every
list of lines, `linkByIndent` returns one parent per line and the parent of line `i` is
`specParent` of the line infos.  No hypotheses. -/
theorem linkByIndent_eq_spec (cfg : Cfg) (ls : List Str) :
    (linkByIndent cfg ls).length = ls.length ∧
    ∀ i, i < ls.length → (linkByIndent cfg ls)[i]? = some (specParent (ls.map (info cfg)) i) := by
  rw [linkByIndent_eq_map]
  refine ⟨by simp, fun i hi => ?_⟩
  simp [hi]

/-- the derived child lists are exactly the specified children, for every tree whose parents
are the specified ones (in particular the tree after pass 1 and, by `parse_links_eq_spec`,
the final tree of a config without banner / macro starts) -/
theorem children_eq_spec (t : T) (infos : List Info) (hlen : infos.length = t.size)
    (hpar : t.parents = (List.range t.size).map (specParent infos)) (p : Nat) :
    children t p = specChildren infos p := by
  unfold children specChildren
  rw [hlen]
  apply List.filter_congr
  intro j hj
  have hj' : j < t.size := List.mem_range.mp hj
  simp [parentOf, hpar, hj']

theorem linkByIndent_children (cfg : Cfg) (ls : List Str) (keep : List Bool) (p : Nat) :
    children { texts := ls, parents := linkByIndent cfg ls, keep := keep } p =
      specChildren (ls.map (info cfg)) p :=
  children_eq_spec _ _ (by simp [T.size]) (by simp [T.size, linkByIndent_eq_map]) p

/-- **Final tree**: if no line is a banner start, no line is a macro start under syntax ios,
and `ignore_blank_lines` is off (the property's "outside banner/macro bodies"), the tree
returned by `parse` (bootstrap + commit) keeps the texts, its parents are `specParent` and
its child lists are `specChildren`. -/
theorem parse_links_eq_spec (cfg : Cfg) (ls : List Str)
    (hb : ∀ x ∈ ls, isBannerStart x = false)
    (hm : cfg.ios = true → ∀ x ∈ ls, isMacroStart x = false)
    (hi : cfg.ignoreBlank = false) :
    (parse cfg ls).texts = ls ∧
    (parse cfg ls).parents = (List.range ls.length).map (specParent (ls.map (info cfg))) ∧
    ∀ p, children (parse cfg ls) p = specChildren (ls.map (info cfg)) p := by
  have h : parse cfg ls = { texts := ls, parents := linkByIndent cfg ls, keep := ls.map (fun _ => false) } := by
    rw [parse_eq_bootstrap, bootstrap, bootstrapFuel_noIgnore cfg hi, link_plain cfg ls hb hm]
  rw [h]
  exact ⟨rfl, linkByIndent_eq_map cfg ls, fun p => linkByIndent_children cfg ls _ p⟩

/-- the same with `ignore_blank_lines` on: the blank lines go, and the links of the result are
the specification applied to the remaining lines -/
theorem parse_links_eq_spec_ignore_blank (cfg : Cfg) (ls : List Str)
    (hb : ∀ x ∈ ls, isBannerStart x = false)
    (hm : cfg.ios = true → ∀ x ∈ ls, isMacroStart x = false)
    (hi : cfg.ignoreBlank = true) :
    (parse cfg ls).texts = ls.filter nonBlank ∧
    (parse cfg ls).parents =
      (List.range (ls.filter nonBlank).length).map (specParent ((ls.filter nonBlank).map (info cfg))) ∧
    ∀ p, children (parse cfg ls) p = specChildren ((ls.filter nonBlank).map (info cfg)) p := by
  have ht : (bootstrap cfg ls).texts = ls.filter nonBlank := by
    rw [bootstrap_texts_eq_scan cfg hi, keptScan_plain cfg ls hb hm]
  have h : parse cfg ls = { texts := ls.filter nonBlank, parents := linkByIndent cfg (ls.filter nonBlank),
                            keep := (ls.filter nonBlank).map (fun _ => false) } := by
    rw [parse_eq_bootstrap, bootstrap, bootstrapFuel_is_link]
    show link cfg (bootstrap cfg ls).texts = _
    rw [ht, link_plain cfg _ (fun x hx => hb x (List.mem_filter.mp hx).1)
      (fun hios x hx => hm hios x (List.mem_filter.mp hx).1)]
  rw [h]
  exact ⟨rfl, linkByIndent_eq_map cfg _, fun p => linkByIndent_children cfg _ _ p⟩

/-- **Syntax independence**, pass 1: the links depend on the configuration only through the
comment delimiters — not on the syntax (`cfg.ios`), not on `ignore_blank_lines`. -/
theorem links_syntax_independent (cfg cfg' : Cfg) (ls : List Str) (hd : cfg.delims = cfg'.delims) :
    linkByIndent cfg ls = linkByIndent cfg' ls := by
  unfold linkByIndent; rw [info_delims cfg cfg' hd]

/-- **Syntax independence**, final tree: same lines, same delimiters, no banner start, no
`macro name` line (so that the hypothesis does not depend on the syntax), blank lines kept
⇒ the same parents and the same child lists whatever the two syntaxes are. -/
theorem parse_links_syntax_independent (cfg cfg' : Cfg) (ls : List Str)
    (hd : cfg.delims = cfg'.delims)
    (hb : ∀ x ∈ ls, isBannerStart x = false) (hm : ∀ x ∈ ls, isMacroStart x = false)
    (hi : cfg.ignoreBlank = false) (hi' : cfg'.ignoreBlank = false) :
    (parse cfg ls).parents = (parse cfg' ls).parents ∧
    ∀ p, children (parse cfg ls) p = children (parse cfg' ls) p := by
  obtain ⟨_, h1, h2⟩ := parse_links_eq_spec cfg ls hb (fun _ => hm) hi
  obtain ⟨_, h1', h2'⟩ := parse_links_eq_spec cfg' ls hb (fun _ => hm) hi'
  rw [info_delims cfg cfg' hd] at h1 h2
  exact ⟨h1.trans h1'.symm, fun p => (h2 p).trans (h2' p).symm⟩

/-! ## non-vacuity -/

private def iosCfg : Cfg := { ios := true, delims := ['!'], ignoreBlank := false }
private def nxosCfg : Cfg := { ios := false, delims := ['!'], ignoreBlank := false }

/-- seven lines; a comment under a deeper line (line 3), then a dedent and a re-indent -/
private def ex7 : List Str :=
  ["a".toList, " b".toList, "  c".toList, " !x".toList, " d".toList, "   e".toList, "  f".toList]

example : linkByIndent iosCfg ex7 = [0, 0, 1, 3, 0, 4, 4] := by
  simp only [ex7, toList_lit]; decide +kernel
example : (List.range 7).map (specParent (ex7.map (info iosCfg))) = [0, 0, 1, 3, 0, 4, 4] := by
  simp only [ex7, toList_lit]; decide +kernel
example : specChildren (ex7.map (info iosCfg)) 0 = [1, 4] ∧ specChildren (ex7.map (info iosCfg)) 4 = [5, 6] := by
  simp only [ex7, toList_lit]; decide +kernel
example : (parse iosCfg ex7).parents = [0, 0, 1, 3, 0, 4, 4] ∧ (parse nxosCfg ex7).parents = [0, 0, 1, 3, 0, 4, 4] := by
  simp only [ex7, toList_lit]; decide +kernel
/-- the hypotheses of `parse_links_eq_spec` / `parse_links_syntax_independent` are satisfiable -/
example : (∀ x ∈ ex7, isBannerStart x = false) ∧ (∀ x ∈ ex7, isMacroStart x = false) := by
  simp only [ex7, toList_lit]; decide +kernel
example : (parse { iosCfg with ignoreBlank := true } ["a".toList, "".toList, " b".toList, "  ".toList, "  c".toList]).parents
    = [0, 0, 1] := by
  simp only [toList_lit]; decide +kernel
/-- a cached parent is really used and really pruned: indents 1,2,2 (hit), then 1 (prune), 2 -/
example : linkByIndent iosCfg ["a".toList, " b".toList, "  c".toList, "  d".toList, " e".toList, "  f".toList]
    = [0, 0, 1, 1, 0, 4] := by
  simp only [toList_lit]; decide +kernel
/-- the hypotheses matter: a banner body is *not* linked by indentation -/
example : (parse iosCfg ["banner motd ^".toList, " x".toList, "  y".toList, "^".toList]).parents = [0, 0, 0, 0] := by
  simp only [toList_lit]; decide +kernel

/-! ## banner and macro bodies included: the final tree of EVERY line list -/

/-- `covers cov ls q j`: line `j` comes after line `q` and within the stretch of `q`. -/
theorem covers_spec (cov : Str → List Str → Nat) (ls : List Str) (q j : Nat) :
    covers cov ls q j = true ↔ q < j ∧ j - q ≤ cov (ls.getD q []) (ls.drop (q + 1)) :=
  covers_iff cov ls q j

/-- **Banner stretch, read position by position.**  For a banner start `x` followed by the lines
`rest`, the line `rest[k]` is in the stretch iff `x` is a banner start whose delimiter `d` is
recognised and occurs at most once in `x`, the line exists, and none of `rest[0..k-1]` contains
`d`.  So the closing line (the first one that contains `d`) is the last line of the stretch, an
unterminated banner runs to the end of the config, and nothing after the closing line belongs
to it. -/
theorem coverB_spec (x : Str) (rest : List Str) (k : Nat) :
    k + 1 ≤ coverB x rest ↔
      isBannerStart x = true ∧ ∃ d, bannerDelim x = some d ∧ countChar d x < 2 ∧ k < rest.length ∧
        ∀ m y, m < k → rest[m]? = some y → (strip y).contains d = false := by
  unfold coverB
  split
  · rename_i hb
    cases hd : bannerDelim x <;> simp only []
    case none => exact ⟨fun h => absurd h (Nat.not_succ_le_zero k), fun ⟨_, d, h, _⟩ => nomatch h⟩
    case some d =>
      split
      · exact ⟨fun h => absurd h (Nat.not_succ_le_zero k), fun ⟨_, d', h, h2, _⟩ => by cases h; omega⟩
      · rename_i hc
        rw [bannerLinkLen_spec]
        exact ⟨fun h => ⟨hb, d, rfl, Nat.lt_of_not_ge hc, h⟩, fun ⟨_, d', h, _, h2⟩ => by cases h; exact h2⟩
  · exact ⟨fun h => absurd h (Nat.not_succ_le_zero k), fun h => absurd h.1 ‹_›⟩

/-- **Macro stretch, read position by position**: `rest[k]` is in the stretch of the macro start
`x` iff `x` begins with `macro name `, the line exists and none of `rest[0..k-1]` is `@` (trailing
white space ignored) — the `@` line itself is the last line of the stretch. -/
theorem coverM_spec (x : Str) (rest : List Str) (k : Nat) :
    k + 1 ≤ coverM x rest ↔
      isMacroStart x = true ∧ k < rest.length ∧
        ∀ m y, m < k → rest[m]? = some y → (rstrip y == ['@']) = false := by
  unfold coverM
  split
  · rw [macroBodyLen_spec]; exact ⟨fun h => ⟨‹_›, h⟩, fun h => h.2⟩
  · exact ⟨fun h => by omega, fun h => absurd h.1 ‹_›⟩

/-- the stretch of a banner start is its body in the sense of `Spec/BlankKeep.lean` (the lines
protected from `ignore_blank_lines`) plus the closing line when there is one -/
theorem bannerStretch_eq_body_plus_close (d : Char) (rest : List Str) :
    bannerLinkLen d rest = min (bannerBodyLen d rest + 1) rest.length :=
  bannerLinkLen_eq d rest

/-- `lastCover cov ls j n` is the largest `q < n` whose stretch reaches `j` … -/
theorem lastCover_some (cov : Str → List Str → Nat) (ls : List Str) (j n q : Nat) :
    lastCover cov ls j n = some q ↔
      q < n ∧ covers cov ls q j = true ∧ ∀ m, q < m → m < n → covers cov ls m j = false :=
  lastCover_eq_some cov ls j n q

/-- … and `none` exactly when no `q < n` reaches `j`. -/
theorem lastCover_none (cov : Str → List Str → Nat) (ls : List Str) (j n : Nat) :
    lastCover cov ls j n = none ↔ ∀ m, m < n → covers cov ls m j = false :=
  lastCover_eq_none cov ls j n

/-- **The full specification, read declaratively.**  `p` is the specified final parent of line
`i` iff one of:
* (syntax ios) `p < i` is a macro start whose stretch reaches `i` and no macro start strictly
  between `p` and `i` reaches `i`;
* no macro start (ios) reaches `i`, `p < i` is a banner start whose stretch reaches `i` and no
  banner start strictly between reaches `i`;
* no macro start (ios) and no banner start reaches `i`, and `p` is the indentation parent
  `specParent` — in particular a line *after* a stretch keeps its indentation parent even
  when that parent is a body line. -/
theorem specParentFull_spec (cfg : Cfg) (ls : List Str) (i p : Nat) :
    specParentFull cfg ls i = p ↔
      (cfg.ios = true ∧ p < i ∧ covers coverM ls p i = true ∧
        ∀ m, p < m → m < i → covers coverM ls m i = false) ∨
      ((cfg.ios = true → ∀ m, m < i → covers coverM ls m i = false) ∧
        p < i ∧ covers coverB ls p i = true ∧ ∀ m, p < m → m < i → covers coverB ls m i = false) ∨
      ((cfg.ios = true → ∀ m, m < i → covers coverM ls m i = false) ∧
        (∀ m, m < i → covers coverB ls m i = false) ∧ specParent (ls.map (info cfg)) i = p) := by
  rw [specParentFull_eq_iff, macroOwner_eq_some, macroOwner_eq_none, bannerOwner, lastCover_eq_some,
    lastCover_eq_none]

/-- **Passes 1–3 compute the full specification**, for every configuration of the parser and
EVERY list of lines — banner starts nested, overlapping, unterminated, macros containing banner
starts and vice versa, indented closing lines, anything.  No hypotheses. -/
theorem link_links_eq_spec_full (cfg : Cfg) (ls : List Str) :
    (link cfg ls).texts = ls ∧
    (link cfg ls).parents = (List.range ls.length).map (specParentFull cfg ls) ∧
    ∀ p, children (link cfg ls) p = specChildrenFull cfg ls p :=
  ⟨link_texts_ll cfg ls, link_parents_eq_spec cfg ls, link_children_eq_spec cfg ls⟩

/-- **Final tree, all line lists, every option set** (`ignore_blank_lines` on or off): the
parents of the tree returned by `parse` (bootstrap + commit) are `specParentFull` of the tree's
own line texts, and its child lists are the specified ones.  No hypotheses.  (Which texts
remain is C01's business: all of them when `ignore_blank_lines` is off, the `keepSpec` ones
otherwise — the next two theorems substitute that in.) -/
theorem parse_links_eq_spec_all (cfg : Cfg) (ls : List Str) :
    (parse cfg ls).parents =
      (List.range (parse cfg ls).texts.length).map (specParentFull cfg (parse cfg ls).texts) ∧
    ∀ p, children (parse cfg ls) p = specChildrenFull cfg (parse cfg ls).texts p := by
  have h := parse_is_link cfg ls
  constructor
  · conv => lhs; rw [h]
    exact link_parents_eq_spec cfg _
  · intro p
    conv => lhs; rw [h]
    exact link_children_eq_spec cfg _ p

/-- **Final tree, `ignore_blank_lines` off, ALL line lists** (the extension of
`parse_links_eq_spec` that drops its two hypotheses): texts unchanged, parents =
`specParentFull`, child lists = `specChildrenFull`. -/
theorem parse_links_eq_spec_full (cfg : Cfg) (ls : List Str) (hi : cfg.ignoreBlank = false) :
    (parse cfg ls).texts = ls ∧
    (parse cfg ls).parents = (List.range ls.length).map (specParentFull cfg ls) ∧
    ∀ p, children (parse cfg ls) p = specChildrenFull cfg ls p := by
  have ht := parse_texts_noIgnore cfg ls hi
  have h := parse_links_eq_spec_all cfg ls
  rw [ht] at h
  exact ⟨ht, h.1, h.2⟩

/-- **Final tree, `ignore_blank_lines` on, ALL line lists**: the texts are the lines selected
by `keepSpec` (non-blank, or protected by a banner / macro start — C01), and the links are the
full specification applied to those kept lines. -/
theorem parse_links_eq_spec_full_ignore_blank (cfg : Cfg) (ls : List Str) (hi : cfg.ignoreBlank = true) :
    let kept := (ls.zipIdx.filter (fun xj => keepSpec cfg ls xj.2)).map Prod.fst
    (parse cfg ls).texts = kept ∧
    (parse cfg ls).parents = (List.range kept.length).map (specParentFull cfg kept) ∧
    ∀ p, children (parse cfg ls) p = specChildrenFull cfg kept p := by
  intro kept
  have ht : (parse cfg ls).texts = kept := parse_texts_keepSpec cfg ls hi
  have h := parse_links_eq_spec_all cfg ls
  rw [ht] at h
  exact ⟨ht, h.1, h.2⟩

/-- **Consistency with the indentation-only statement**: without banner starts and (ios) macro
starts the full specification *is* the indentation rule, so `parse_links_eq_spec` is the
special case of `parse_links_eq_spec_full`. -/
theorem specParentFull_eq_specParent_of_no_start (cfg : Cfg) (ls : List Str)
    (hb : ∀ x ∈ ls, isBannerStart x = false)
    (hm : cfg.ios = true → ∀ x ∈ ls, isMacroStart x = false) (i : Nat) (hi : i < ls.length) :
    specParentFull cfg ls i = specParent (ls.map (info cfg)) i :=
  (specParentFull_eq_iff cfg ls i _).mpr (.inr (.inr
    ⟨macroOwner_none_of_no_start cfg ls i hm (Nat.le_of_lt hi),
     lastCover_none_of_no_cover coverB ls i i
       (fun q x hx => by simp [coverB, hb x (List.mem_of_getElem? hx)]) (Nat.le_of_lt hi), rfl⟩))

/-- **Syntax dependence, made precise**: two configurations with the same comment delimiters
give the same final links on a line list without `macro name` lines, banners included
(`ignore_blank_lines` off) — the `macro name` walk is the only place where the syntax enters. -/
theorem parse_links_syntax_independent_full (cfg cfg' : Cfg) (ls : List Str)
    (hd : cfg.delims = cfg'.delims) (hm : ∀ x ∈ ls, isMacroStart x = false)
    (hi : cfg.ignoreBlank = false) (hi' : cfg'.ignoreBlank = false) :
    (parse cfg ls).parents = (parse cfg' ls).parents := by
  rw [(parse_links_eq_spec_full cfg ls hi).2.1, (parse_links_eq_spec_full cfg' ls hi').2.1]
  apply List.map_congr_left
  intro i hi
  have hil : i < ls.length := List.mem_range.mp hi
  have hnone : ∀ c : Cfg, macroOwner c ls i = none := fun c =>
    macroOwner_none_of_no_start c ls i (fun _ => hm) (Nat.le_of_lt hil)
  unfold specParentFull
  rw [hnone cfg, hnone cfg', info_delims cfg cfg' hd]

/-! ## non-vacuity (banner / macro part) -/

/-- overlapping banner starts: line 1 is itself a banner start inside the stretch of line 0;
its stretch (delimiter `#`) runs to line 4, beyond the closing line 3 of the outer banner.  The
last start wins: lines 2, 3, 4 belong to line 1; line 5 (after both stretches) keeps its
indentation parent, which is the body line 4. -/
private def exOverlap : List Str :=
  ["banner motd ^".toList, "banner exec #".toList, " x".toList, "^".toList, "y #".toList, " z".toList]

example : (List.range 6).map (specParentFull iosCfg exOverlap) = [0, 0, 1, 1, 1, 4] := by
  simp only [exOverlap, toList_lit]; decide +kernel
example : (parse iosCfg exOverlap).parents = [0, 0, 1, 1, 1, 4] := by
  simp only [exOverlap, toList_lit]; decide +kernel
example : (parse nxosCfg exOverlap).parents = [0, 0, 1, 1, 1, 4] := by
  simp only [exOverlap, toList_lit]; decide +kernel
example : covers coverB exOverlap 0 3 = true ∧ covers coverB exOverlap 1 3 = true ∧
    covers coverB exOverlap 0 4 = false ∧ covers coverB exOverlap 1 5 = false := by
  simp only [exOverlap, toList_lit]; decide +kernel
example : specChildrenFull iosCfg exOverlap 1 = [2, 3, 4] ∧ specChildrenFull iosCfg exOverlap 4 = [5] := by
  simp only [exOverlap, toList_lit]; decide +kernel

/-- a macro containing a banner start: inside the macro's stretch (lines 1–5) the macro wins
(ios only), but the banner start at line 2 is unterminated (`^` never occurs again) and still
owns the lines AFTER the macro's closing `@` (6, 7) until the next banner start's stretch (8, 9);
an indented ` @ ` does NOT close the macro (only trailing white space is ignored); deeper body
lines followed by dedents -/
private def exMixed : List Str :=
  ["macro name m".toList, " a".toList, "banner motd ^".toList, "   b".toList, " @ ".toList, "@".toList,
   "  c".toList, "banner login %".toList, "  d".toList, " e".toList]

example : (List.range 10).map (specParentFull iosCfg exMixed) = [0, 0, 0, 0, 0, 0, 2, 2, 7, 7] := by
  simp only [exMixed, toList_lit]; decide +kernel
example : (parse iosCfg exMixed).parents = [0, 0, 0, 0, 0, 0, 2, 2, 7, 7] := by
  simp only [exMixed, toList_lit]; decide +kernel
/-- the same lines under a syntax without macros -/
example : (List.range 10).map (specParentFull nxosCfg exMixed) = [0, 0, 2, 2, 2, 2, 2, 2, 7, 7] := by
  simp only [exMixed, toList_lit]; decide +kernel
example : (parse nxosCfg exMixed).parents = [0, 0, 2, 2, 2, 2, 2, 2, 7, 7] := by
  simp only [exMixed, toList_lit]; decide +kernel
/-- with `ignore_blank_lines` a blank line outside every stretch goes, one inside stays, and the
links are the specification over the kept lines -/
example : (parse { iosCfg with ignoreBlank := true }
    ["a".toList, "".toList, "banner motd ^".toList, "".toList, " x".toList, "^".toList, " b".toList]).parents
    = [0, 1, 1, 1, 1, 4] := by
  simp only [toList_lit]; decide +kernel
/-- the hypotheses of `parse_links_syntax_independent_full` are satisfiable by a config WITH a banner -/
example : ∀ x ∈ exOverlap, isMacroStart x = false := by
  simp only [exOverlap, toList_lit]; decide +kernel

end Ccp.C02
