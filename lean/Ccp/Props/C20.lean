import Ccp.Proofs.Asa
import Ccp.Proofs.AsaPorts
import Ccp.Proofs.AsaX
/-!
# C20 — ASA object-groups and port specs expand to exactly the denoted networks/ports

Property theorems only; helper lemmas live in `Ccp.Proofs.AsaPorts` (port specifications) and `Ccp.Proofs.Asa`
(tables, object groups and the specification `Flatten`).
`l4` models `L4Object(protocol, port_spec, syntax).port_list`, `expand` models
`ASAObjGroupNetwork.network_strings`, `dictGet`/`dictItems`/`multiItems` model the dictionaries
`asa_object_group_names`, `asa_object_group_network`, `asa_access_list`.  The last part is about the further entry
points of `Ccp.Model.AsaX`: `==` and `repr()` of `L4Object`, equality, hashes and counts of group objects, the
tables under a syntax other than `asa`.
-/
namespace Ccp.C20
open Ccp.Asa Ccp.Py Ccp.AsaX

/-- **Spec.** the subset of ports an operator denotes -/
def Denotes : PortOp → Nat → Prop
  | .eq n, k => k = n
  | .range a b, k => a ≤ k ∧ k ≤ b
  | .lt n, k => 1 ≤ k ∧ k < n
  | .gt n, k => n < k ∧ k ≤ 65535
  | .neq n, k => (1 ≤ k ∧ k ≤ 65535) ∧ k ≠ n

/-- what the model puts into `port_list` is the denoted set, strictly ascending -/
theorem portList_denotes (op : PortOp) (hv : valid op = true) :
    (portList op).Pairwise (· < ·) ∧ (∀ k, k ∈ portList op ↔ Denotes op k) ∧
    (∀ k ∈ portList op, 1 ≤ k ∧ k ≤ 65535) := by
  have hm : ∀ k, k ∈ portList op ↔ Denotes op k := fun k => by
    cases op with
    | eq n => simp [portList, Denotes]
    | range a b => exact mem_portList_range a b k
    | lt n => exact mem_portList_lt n k
    | gt n => exact mem_portList_gt n k
    | neq n => exact mem_portList_neq n k
  refine ⟨portList_sorted op, hm, fun k hk => ?_⟩
  have hd := (hm k).mp hk
  cases op <;> simp only [valid, Bool.and_eq_true, decide_eq_true_eq] at hv <;> simp only [Denotes] at hd <;> omega

/-- **ports_denote** (all five written operators, every numeric operand, tcp and udp): a
specification whose operands respect the bounds yields exactly the denoted subset of
1..65535 in strictly ascending order. -/
theorem ports_denote (proto : Str) (hp : isProto proto) (op : PortOp) (hv : valid op = true) :
    ∃ l, l4 proto "asa".toList (specText op) = .ok l ∧
      l.Pairwise (· < ·) ∧ (∀ k, k ∈ l ↔ Denotes op k) ∧ (∀ k ∈ l, 1 ≤ k ∧ k ≤ 65535) := by
  refine ⟨portList op, ?_, portList_denotes op hv⟩
  unfold l4; rw [parseSpec_specText proto hp op, hv]; rfl

/-- **ports_denote**, bare form: `N` alone means `eq N`. -/
theorem ports_denote_bare (proto : Str) (hp : isProto proto) (n : Nat) (h : 1 ≤ n ∧ n ≤ 65535) :
    l4 proto "asa".toList (toDec n) = .ok [n] := by
  have hv : valid (.eq n) = true := by simp [valid, h]
  unfold l4; rw [parseSpec_bare proto hp n, hv]; rfl

/-- **bad_bounds_rejected**: an operand outside its bounds (0, > 65535, a descending range, and
the two operators whose denotation would be empty: `lt 1`, `gt 65535`) raises `RequirementFailure`. -/
theorem bad_bounds_rejected (proto : Str) (hp : isProto proto) (op : PortOp) (hv : valid op = false) :
    l4 proto "asa".toList (specText op) = .error .requirementFailure := by
  unfold l4; rw [parseSpec_specText proto hp op, hv]; rfl

theorem bad_bounds_rejected_bare (proto : Str) (hp : isProto proto) (n : Nat) (h : n = 0 ∨ 65535 < n) :
    l4 proto "asa".toList (toDec n) = .error .requirementFailure := by
  have hv : valid (.eq n) = false := by
    simp only [valid, Bool.and_eq_false_iff, decide_eq_false_iff_not]; omega
  unfold l4; rw [parseSpec_bare proto hp n, hv]; rfl

/-- the bounds, spelled out -/
theorem valid_iff (op : PortOp) : valid op = true ↔
    match op with
    | .eq n => 1 ≤ n ∧ n ≤ 65535
    | .range a b => 1 ≤ a ∧ a ≤ b ∧ b ≤ 65535
    | .lt n => 2 ≤ n ∧ n ≤ 65535
    | .gt n => 1 ≤ n ∧ n ≤ 65534
    | .neq n => 1 ≤ n ∧ n ≤ 65535 := by
  cases op <;> simp [valid, and_assoc]

/-- **named_ports_in_range** (over the tables generated from `protocol_values.py`) -/
theorem named_ports_in_range :
    (∀ p ∈ Gen.asaTcpPorts, 1 ≤ p.2 ∧ p.2 ≤ 65535) ∧ (∀ p ∈ Gen.asaUdpPorts, 1 ≤ p.2 ∧ p.2 ≤ 65535) := by
  constructor <;> intro p hp
  · obtain ⟨_, _, _, _, _⟩ := operand_service tcp_services hp; omega
  · obtain ⟨_, _, _, _, _⟩ := operand_service udp_services hp; omega

/-- **ports_denote**, named operands: every service name of the generated tables, in every
operator, stands for its table number. -/
theorem named_ports_denote (p : String × Nat) :
    (p ∈ Gen.asaTcpPorts → namedOk "tcp".toList p = true) ∧
    (p ∈ Gen.asaUdpPorts → namedOk "udp".toList p = true) :=
  ⟨named_ok (.inl rfl), named_ok (.inr rfl)⟩

/-- e.g. `eq <name>` is the one-element list of the table number, `neq <name>` its complement -/
theorem named_eq_neq (p : String × Nat) (hp : p ∈ Gen.asaTcpPorts) :
    l4 "tcp".toList "asa".toList ("eq ".toList ++ p.1.toList) = .ok [p.2] ∧
    ∃ l, l4 "tcp".toList "asa".toList ("neq ".toList ++ p.1.toList) = .ok l ∧
      ∀ k, k ∈ l ↔ (1 ≤ k ∧ k ≤ 65535) ∧ k ≠ p.2 := by
  have h := (named_ports_denote p).1 hp
  simp only [namedOk, Bool.and_eq_true] at h
  obtain ⟨⟨⟨⟨⟨h1, _⟩, h3⟩, _⟩, _⟩, _⟩ := h
  refine ⟨by unfold l4; rw [okIs_eq h1]; rfl, portList (.neq p.2), by unfold l4; rw [okIs_eq h3]; rfl, ?_⟩
  intro k; exact mem_portList_neq p.2 k

-- non-vacuity
example : (l4 "tcp".toList "asa".toList "range ssh smtp".toList).toOption = some [22, 23, 24, 25] := by decide +kernel
example : (l4 "udp".toList "asa".toList " lt  3 ".toList).toOption = some [1, 2] := by decide +kernel
example : (l4 "tcp".toList "asa".toList "gt 65533".toList).toOption = some [65534, 65535] := by decide +kernel
example : errOf (l4 "tcp".toList "asa".toList "lt 1".toList) = some .requirementFailure := by decide +kernel
example : errOf (l4 "tcp".toList "asa".toList "range 0 5".toList) = some .requirementFailure := by decide +kernel
example : (parseSpec "tcp".toList "asa".toList "neq www".toList).toOption = some (.neq 80) := by decide +kernel
example : valid (.range 1 65535) = true ∧ valid (.lt 1) = false ∧ valid (.gt 65535) = false := by decide +kernel

/-- **groups_flatten**: for every alias table, every group table and every rank function that
witnesses acyclicity (each `group-object` points to a table entry of strictly smaller rank, no body
contains an unparseable line), the model's expansion of a group — run with the fuel the model
really uses — succeeds and is the flattening of its members in config order with aliases resolved;
and that flattening is unique. -/
theorem groups_flatten (names : List (Str × Str)) (tbl : List (Str × Group)) (rank : Str → Nat)
    (hac : Acyclic tbl rank) (g : Group) (hwf : WellFormed tbl rank g.name g.members) :
    ∃ l, expand names tbl (tbl.length + 1) g = .ok l ∧ Flatten names tbl g.members l ∧
      ∀ l', Flatten names tbl g.members l' → l' = l := by
  obtain ⟨l, h1, h2⟩ := expand_flatten_model_fuel names tbl rank hac g hwf
  exact ⟨l, h1, h2, fun l' h' => Flatten.unique h' h2⟩

/-- the same for the config-level entry point `networkStrings` -/
theorem networkStrings_flatten (lines : List Str) (rank : Str → Nat)
    (hac : Acyclic (groupTable lines) rank) (g : Group)
    (hwf : WellFormed (groupTable lines) rank g.name g.members) :
    ∃ l, networkStrings lines g = .ok l ∧ Flatten (nameDefs lines) (groupTable lines) g.members l :=
  expand_flatten_model_fuel _ _ rank hac g hwf

/-- more fuel never changes a successful expansion (so the bound `tbl.length + 1` is not special) -/
theorem groups_flatten_any_fuel (names : List (Str × Str)) (tbl : List (Str × Group)) (rank : Str → Nat)
    (hac : Acyclic tbl rank) (g : Group) (hwf : WellFormed tbl rank g.name g.members)
    (fuel : Nat) (hf : rank g.name ≤ fuel) :
    ∃ l, expand names tbl fuel g = .ok l ∧ Flatten names tbl g.members l :=
  expand_flatten names tbl rank hac fuel g hwf hf

/-- outside the acyclic case: a reference to the group itself, or to a group the table does not hold, at the
head of the member list raises `ValueError` whatever follows it. -/
theorem bad_reference_rejected (names : List (Str × Str)) (tbl : List (Str × Group))
    (recur : Group → Except Err (List Str)) (self g : Str) (ms : List Member)
    (h : g = self ∨ dictGet tbl g = none) :
    expandList names tbl recur self (.grp g :: ms) = .error .valueError := by
  rcases h with h | h
  · subst h; simp [expandList, plainMember, bind, Except.bind]
  · by_cases hs : g = self
    · subst hs; simp [expandList, plainMember, bind, Except.bind]
    · simp [expandList, plainMember, hs, h, bind, Except.bind]

/-- **tables_exact** (name and group tables): the table answers `v` for `k` exactly when a
definition `(k, v)` exists that no later definition of `k` follows; it answers nothing exactly for
undefined keys; its items are exactly these pairs. -/
theorem tables_exact {α : Type} (defs : List (Str × α)) (k : Str) :
    (∀ v, dictGet defs k = some v ↔ ∃ pre post, defs = pre ++ (k, v) :: post ∧ k ∉ post.map (·.1)) ∧
    (dictGet defs k = none ↔ k ∉ defs.map (·.1)) ∧
    (∀ v, (k, v) ∈ dictItems defs ↔ dictGet defs k = some v) :=
  ⟨dictGet_eq_some_iff defs k, dictGet_eq_none_iff defs k, mem_dictItems defs k⟩

/-- **tables_exact** (access-list table): a key is present iff some line defines it, and it holds
all the defining lines in config order. -/
theorem acl_table_exact {α : Type} (defs : List (Str × α)) (k : Str) (vs : List α) :
    (k, vs) ∈ multiItems defs ↔ k ∈ defs.map (·.1) ∧ vs = (defs.filter (·.1 = k)).map (·.2) := by
  unfold multiItems multiGet
  simp only [List.mem_map, List.mem_eraseDups]
  constructor
  · rintro ⟨k', hk', heq⟩; cases heq; exact ⟨hk', rfl⟩
  · rintro ⟨h, rfl⟩; exact ⟨k, h, rfl⟩

/-- the name table of a config holds a key iff some line matches the `name` regex with that key -/
theorem name_table_keys (lines : List Str) (k : Str) :
    (∃ v, (k, v) ∈ dictItems (nameDefs lines)) ↔ ∃ l ∈ lines, ∃ a, reNames l = some (k, a) := by
  simp only [mem_dictItems, dictGet_isSome_iff]
  simp only [nameDefs, List.mem_map, List.mem_filterMap]
  constructor
  · rintro ⟨⟨k', a⟩, ⟨l, hl, hr⟩, rfl⟩; exact ⟨l, hl, a, hr⟩
  · rintro ⟨l, hl, a, hr⟩; exact ⟨(k, a), ⟨l, hl, hr⟩, rfl⟩

-- non-vacuity: aliases (one redefined), a /32 network, a forward reference, a duplicate group name
def demo : List Str := [
  "name 1.1.1.1 web", "name 2.2.2.2 web",
  "object-group network A", " network-object host web", " group-object B", " network-object 10.0.0.0 255.0.0.0",
  "object-group network B", " network-object host 9.9.9.9",
  "object-group network B", " description x", " network-object db 255.255.255.255",
  "access-list X extended permit ip any any", "access-list X extended deny ip any any"].map String.toList

-- `toList_lit` spells the literals out before the kernel evaluates: it decodes a string literal slowly
example : (groupObjs 0 demo).map (fun t => (t.1, (networkStrings demo t.2.2).toOption)) =
    [(2, some ["2.2.2.2".toList, "db".toList, "10.0.0.0/255.0.0.0".toList]),
     (6, some ["9.9.9.9".toList]), (8, some ["db".toList])] := by
  simp only [demo, List.map_cons, List.map_nil, toList_lit]; decide +kernel
example : (dictItems (groupDefs demo)).map (fun p => (p.1, p.2.1)) = [("A".toList, 2), ("B".toList, 8)] := by
  simp only [demo, List.map_cons, List.map_nil, toList_lit]; decide +kernel
example : multiItems (aclDefs 0 demo) = [("X".toList, [11, 12])] := by
  simp only [demo, List.map_cons, List.map_nil, toList_lit]; decide +kernel
-- a reference cycle runs out of fuel, a self reference and an undefined reference raise ValueError
example : errOf (networkStrings (["object-group network A", " group-object B", "object-group network B", " group-object A"].map String.toList)
    ⟨"A".toList, [.grp "B".toList]⟩) = some .recursionError := by
  simp only [List.map_cons, List.map_nil, toList_lit]; decide +kernel
example : errOf (expand [] [] 5 ⟨"A".toList, [.grp "A".toList]⟩) = some .valueError := by decide +kernel
example : errOf (expand [] [] 5 ⟨"A".toList, [.grp "B".toList]⟩) = some .valueError := by decide +kernel
-- the hypotheses of `groups_flatten` are satisfiable by a two-level graph
example : ∃ rank, Acyclic [(['B'], ⟨['B'], [.host ['h']]⟩), (['A'], ⟨['A'], [.grp ['B']]⟩)] rank :=
  ⟨fun s => if s = ['A'] then 1 else 0, by
    intro k g hk
    simp only [dictGet, List.foldl_cons, List.foldl_nil] at hk
    split at hk
    · cases hk
      intro m hm; simp at hm; subst hm
      refine ⟨by simp, ?_⟩
      intro g hg; cases hg
      exact ⟨⟨['B'], [.host ['h']]⟩, by decide +kernel, rfl, by decide +kernel⟩
    · split at hk
      · cases hk
        intro m hm; simp at hm; subst hm
        exact ⟨by simp, fun g hg => by cases hg⟩
      · cases hk⟩

/-- `L4Object.__eq__` compares the protocol and the port list. -/
theorem l4_eq_iff (a b : L4) : l4Eq a b = true ↔ a.proto = b.proto ∧ a.ports = b.ports := by
  simp [l4Eq]

/-- **Equal objects denote the same ports**: for two specifications within their bounds on the
same protocol, the objects are `==` exactly when the operators denote the same set of ports
(`lt 3` and `range 1 2`, `neq 1` and `gt 1`, …). -/
theorem l4_eq_denotes (proto : Str) (hp : isProto proto) (op1 op2 : PortOp)
    (hv1 : valid op1 = true) (hv2 : valid op2 = true) :
    ∃ a b, mkL4 proto "asa".toList (specText op1) = .ok a ∧ mkL4 proto "asa".toList (specText op2) = .ok b ∧
      (l4Eq a b = true ↔ ∀ k, Denotes op1 k ↔ Denotes op2 k) := by
  obtain ⟨l1, h1, s1, m1, _⟩ := ports_denote proto hp op1 hv1
  obtain ⟨l2, h2, s2, m2, _⟩ := ports_denote proto hp op2 hv2
  refine ⟨⟨proto, l1⟩, ⟨proto, l2⟩, by unfold mkL4; rw [h1]; rfl, by unfold mkL4; rw [h2]; rfl, ?_⟩
  rw [l4_eq_iff]
  constructor
  · rintro ⟨_, hl⟩ k
    rw [← m1 k, ← m2 k, show l1 = l2 from hl]
  · intro h
    exact ⟨rfl, asc_ext l1 l2 s1 s2 fun k => by rw [m1 k, m2 k]; exact h k⟩

example : (do let a ← mkL4 "tcp".toList "asa".toList "lt 3".toList
              let b ← mkL4 "tcp".toList "asa".toList "range 1 2".toList
              let c ← mkL4 "udp".toList "asa".toList "range 1 2".toList
              pure (l4Eq a b, l4Eq b c)).toOption = some (true, false) := by decide +kernel

/-- `repr()` of an `L4Object` raises for every object (the source reads `CiscoRange.compressed_str`,
an attribute that does not exist) — a defect outside the property, recorded as it is. -/
theorem l4_repr_unavailable (a : L4) : l4Repr a = .error .attributeError := rfl

/-- The `asa_*` tables are served under syntax `asa` only. -/
theorem table_access_iff (syn : Str) : tableAccess syn = .ok () ↔ syn = "asa".toList := by
  unfold tableAccess
  split
  · exact iff_of_true rfl ‹_›
  · exact iff_of_false (fun h => nomatch h) ‹_›

/-- Group objects compare (and hash) by line number and header text: `==` is reflexive,
symmetric, `!=` is its negation, and the group objects of one configuration are pairwise
different. -/
theorem group_objects_eq (lines : List Str) :
    (∀ a : GObj, objEq a a = true) ∧ (∀ a b : GObj, objEq a b = objEq b a) ∧
    (∀ a b : GObj, objNe a b = !objEq a b) ∧
    (∀ a b : GObj, objEq a b = true ↔ a.linenum = b.linenum ∧ a.text = b.text) ∧
    (gobjs lines).Pairwise (fun a b => objEq a b = false) := by
  refine ⟨by simp [objEq], fun a b => ?_, fun _ _ => rfl, by simp [objEq], ?_⟩
  · unfold objEq; rw [BEq.comm, BEq.comm (a := a.text)]
  · unfold gobjs
    rw [List.pairwise_map]
    refine (groupObjs_increasing 0 lines).2.imp ?_
    intro s t hst
    simp only [objEq, Bool.and_eq_false_iff, beq_eq_false_iff_ne, ne_eq]
    left; omega

/-- `network_count` is the length of `network_strings`; two groups have the same
`hash_children` exactly when their `network_strings` agree (no hash collision assumed). -/
theorem count_and_hash_children (a b : GObj) (x y : List Str) (ha : a.strings = .ok x) (hb : b.strings = .ok y) :
    networkCount a = .ok x.length ∧ hcEq a b = .ok (x == y) := by
  simp [networkCount, hcEq, ha, hb, Except.map]

example : (gobjs demo).map (fun a => (a.linenum, (networkCount a).toOption)) = [(2, some 3), (6, some 1), (8, some 1)] := by
  simp only [demo, List.map_cons, List.map_nil, toList_lit]; decide +kernel

/-- **No history**: in a sequence of constructions carried out in one process, every answer is
the answer of that construction alone, whatever was built before or after it (in particular the
same `port_spec` under the other protocol: a service name is looked up in the table of the
protocol at hand every time). -/
theorem pseq_history_free (before after : List (Str × Str)) (proto spec : Str) :
    pseq (before ++ (proto, spec) :: after) =
      pseq before ++ l4 proto "asa".toList spec :: pseq after := by
  simp [pseq]

example : (pseq [("tcp".toList, "eq rtsp".toList), ("udp".toList, "eq rtsp".toList), ("udp".toList, "eq ssh".toList)]).map
    (fun r => r.toOption) = [some [554], some [5004], none] := by decide +kernel

end Ccp.C20
