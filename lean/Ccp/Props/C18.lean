import Ccp.Proofs.Cli
import Ccp.Model.CliNs
import Ccp.Proofs.IPVal
/-!
# C18 — the command-line greps are order-preserving filters; `parent` / `child` / `branch` /
`diff` print exactly what the API returns

Property theorems only; the model is `Ccp.Model.Cli` (what `CliApplication.__init__` appends to
`CliApplication.stdout`), helper lemmas and the spec-side definitions (`hitRender`, `wordOut`,
`addrOf`, `inSome`, `excluded`, `firstOccs`, `lineEv`) live in `Ccp.Proofs.Cli`.

Everything is stated for an arbitrary `Oracle` (`re.split`, `IPv4Obj(w)` / `IPv6Obj(w)` as
text → `(ip, prefixlen)`, address text, `re.search`) and an arbitrary `Api`
(`CiscoConfParse(...)`, `Diff(...)`), i.e. for all texts, delimiters, regexes and configs.

`Disjoint O` = no word is accepted by both `IPv4Obj` and `IPv6Obj` (true of the real
constructors; checked on every word of every correspondence run).  Without it the general forms
`ipgrep_filter_general` / `ipgrep_unique_general` hold.
-/
namespace Ccp.C18
open Ccp.Cli Ccp.Py

/-! ## ipgrep, word mode -/

/-- **ipgrep_filter_general** (without `Disjoint`): per input word, in input order, the rendering of
the first requested subnet (in iteration order) that contains it and is not excluded. -/
theorem ipgrep_filter_general (O : Oracle) (o : Opts) (subnets : List Addr) (words : List Str)
    (hu : o.unique = false) :
    addrMatches O o subnets words = words.filterMap (fun w => subnets.findSome? (hitRender O o w)) := by
  unfold addrMatches
  simp only [hu, Bool.false_eq_true, if_false]
  rw [foldl_append_toList]
  simp only [List.nil_append]
  congr 1
  funext w
  exact wordPlain_eq O o w subnets

/-- **ipgrep_filter**: the output is `words.filterMap` of "valid address ∧ inside at least one
requested subnet ∧ not excluded ↦ its rendering" (`wordOut`). -/
theorem ipgrep_filter (O : Oracle) (hd : Disjoint O) (o : Opts) (subnets : List Addr) (words : List Str)
    (hu : o.unique = false) :
    addrMatches O o subnets words = words.filterMap (wordOut O o subnets) := by
  rw [ipgrep_filter_general O o subnets words hu]
  congr 1
  funext w
  exact findSome_hitRender O o hd subnets w

/-- `wordOut` spelled out: the printed text of a word is `render` of the address it denotes, and it
is printed iff that address is in some requested subnet of its family and not excluded. -/
theorem wordOut_spec (O : Oracle) (o : Opts) (subnets : List Addr) (w r : Str) :
    wordOut O o subnets w = some r ↔
      ∃ a, addrOf O w = some a ∧ (∃ s ∈ subnets, hitA s a = true) ∧ excluded O o a = false
        ∧ r = render O o a := by
  unfold wordOut inSome
  cases addrOf O w with
  | none => simp
  | some a =>
    simp only [Option.some.injEq, exists_eq_left']
    constructor
    · intro h
      split at h
      · rename_i hc
        simp only [Bool.and_eq_true, List.any_eq_true, Bool.not_eq_true'] at hc
        exact ⟨hc.1, hc.2, (Option.some.inj h).symm⟩
      · cases h
    · rintro ⟨h1, h2, rfl⟩
      have : (subnets.any (fun s => hitA s a) && !excluded O o a) = true := by
        simp only [Bool.and_eq_true, List.any_eq_true, Bool.not_eq_true']
        exact ⟨h1, h2⟩
      rw [if_pos this]

/-- **ipgrep_sublist**: hence the output is a subsequence of the renderings of the input words, in
input order, with one line per kept occurrence (never more lines than words; F22). -/
theorem ipgrep_sublist (O : Oracle) (hd : Disjoint O) (o : Opts) (subnets : List Addr) (words : List Str)
    (hu : o.unique = false) :
    ∃ kept : List Str, kept.Sublist words ∧
      (∀ w ∈ kept, (wordOut O o subnets w).isSome) ∧
      addrMatches O o subnets words = kept.filterMap (wordOut O o subnets) ∧
      (addrMatches O o subnets words).length = kept.length := by
  have h := filterMap_filter_isSome (wordOut O o subnets) words
  rw [ipgrep_filter O hd o subnets words hu]
  exact ⟨_, List.filter_sublist, fun w hw => (List.mem_filter.mp hw).2, h.1.symm, h.2⟩

/-- **ipgrep_subnets_irrelevant**: the code keeps the requested subnets in a Python `set`
(arbitrary order, duplicates merged); the output only depends on *which* subnets are requested. -/
theorem ipgrep_subnets_irrelevant (O : Oracle) (hd : Disjoint O) (o : Opts) (s1 s2 : List Addr)
    (words : List Str) (hu : o.unique = false) (hs : ∀ s, s ∈ s1 ↔ s ∈ s2) :
    addrMatches O o s1 words = addrMatches O o s2 words := by
  rw [ipgrep_filter O hd o s1 words hu, ipgrep_filter O hd o s2 words hu]
  congr 1
  funext w
  unfold wordOut inSome
  have : ∀ a, s1.any (fun s => hitA s a) = s2.any (fun s => hitA s a) := by
    intro a
    rw [Bool.eq_iff_iff, List.any_eq_true, List.any_eq_true]
    exact exists_congr fun s => and_congr_left fun _ => hs s
  simp only [this]

/-- **ipgrep_unique_general** (without `Disjoint`): with `--unique` the output is the first occurrences
of the kept hits of all (word, subnet) pairs. -/
theorem ipgrep_unique_general (O : Oracle) (o : Opts) (subnets : List Addr) (words : List Str)
    (hu : o.unique = true) :
    addrMatches O o subnets words =
      firstOccs (words.flatMap (fun w => subnets.filterMap (hitRender O o w))) := by
  unfold addrMatches firstOccs
  simp only [hu, if_true]
  rw [List.foldl_flatMap]
  congr 1
  funext acc w
  exact wordUnique_eq O o w subnets acc

/-- **ipgrep_unique**: with `--unique` the output is exactly the first occurrences of the output
without it. -/
theorem ipgrep_unique (O : Oracle) (hd : Disjoint O) (o : Opts) (subnets : List Addr) (words : List Str) :
    addrMatches O { o with unique := true } subnets words =
      firstOccs (addrMatches O { o with unique := false } subnets words) := by
  rw [ipgrep_filter O hd { o with unique := false } subnets words rfl]
  unfold addrMatches firstOccs
  simp only [if_true]
  have h1 : ∀ acc w, wordUnique O { o with unique := true } w subnets acc =
      (match wordOut O { o with unique := false } subnets w with
       | some r => insNew acc r
       | none => acc) := by
    intro acc w
    rw [wordUnique_eq, foldl_hitRender O _ hd]
    rfl
  simp only [h1]
  exact foldl_match_filterMap _ words []

/-- what "first occurrences" means: duplicate free, same members, a subsequence, the head is kept
and removed from the rest; it is core's `List.eraseDups`. -/
theorem firstOccs_spec (l : List Str) :
    (firstOccs l).Nodup ∧ (∀ x, x ∈ firstOccs l ↔ x ∈ l) ∧ (firstOccs l).Sublist l ∧
    firstOccs l = l.eraseDups ∧
    (∀ x xs, l = x :: xs → firstOccs l = x :: firstOccs (xs.filter (fun b => !b == x))) := by
  obtain ⟨hnd, hmem, hsub, herase⟩ := firstOccs_props l.length l (Nat.le_refl _)
  exact ⟨hnd, hmem, hsub, herase, fun x xs h => h ▸ firstOccs_cons x xs⟩

/-- **render_spec**: address, CIDR address or network as requested (`--show-networks` wins). -/
theorem render_spec (O : Oracle) (o : Opts) (a : Addr) :
    (o.showNetworks = true → render O o a = O.txt a.ver a.o.net ++ ['/'] ++ toDec a.o.len) ∧
    (o.showNetworks = false → o.showCidr = true →
      render O o a = O.txt a.ver a.o.ip ++ ['/'] ++ toDec a.o.len) ∧
    (o.showNetworks = false → o.showCidr = false → render O o a = O.txt a.ver a.o.ip) := by
  unfold render cidrNet cidrAddr ipText slash
  refine ⟨fun h => by simp [h], fun h1 h2 => by simp [h1, h2], fun h1 h2 => by simp [h1, h2]⟩

/-- the text compared by the `--unique` bookkeeping is the text that is printed -/
theorem uniqueKey_eq_render (O : Oracle) (o : Opts) (a : Addr) : uniqueKey O o a = render O o a :=
  uniqueKey_eq_render' O o a

/-- **hostExcluded_spec**: what `--exclude-hosts` drops (given an injective address text): host
routes always; an address with host bits set unless networks are shown. -/
theorem hostExcluded_spec (O : Oracle) (o : Opts) (a : Addr)
    (hinj : ∀ v m n, O.txt v m = O.txt v n → m = n) :
    hostExcluded O o a = true ↔
      o.excludeHosts = true ∧
        (a.o.len = a.ver.hostLen ∨ (o.showNetworks = false ∧ a.o.net ≠ a.o.ip)) := by
  have htxt : cidrNet O a = cidrAddr O a ↔ a.o.net = a.o.ip := by
    unfold cidrNet cidrAddr
    exact ⟨fun h => hinj _ _ _ (List.append_cancel_right (List.append_cancel_right h)), fun h => by rw [h]⟩
  unfold hostExcluded
  cases o.excludeHosts
  · simp
  · cases hv : a.ver <;> by_cases hl : a.o.len = a.ver.hostLen <;>
      simp only [hv, Ver.hostLen] at hl <;> cases o.showNetworks <;> simp [Ver.hostLen, hl, htxt]

/-- no option of the CLI sets `exclude_networks` -/
theorem netExcluded_never (o : Opts) (a : Addr) (h : o.excludeNetworks = false) :
    netExcluded o a = false := by
  unfold netExcluded; simp [h]

/-- **hit_is_containment** (with C12): `addr in subnet` as the grep evaluates it is subnet
containment — same family, the subnet's prefix is not longer, and the leading `len` bits agree. -/
theorem hit_is_containment (s a : Addr) (vs : IPVal.Valid s.ver.fam s.o) (va : IPVal.Valid a.ver.fam a.o) :
    hitA s a = true ↔
      a.ver = s.ver ∧ s.o.len ≤ a.o.len ∧
        a.o.ip >>> (s.ver.fam.w - s.o.len) = s.o.ip >>> (s.ver.fam.w - s.o.len) := by
  unfold hitA containsA
  by_cases hv : a.ver = s.ver
  · rw [hv] at va
    simp only [hv, beq_self_eq_true, Bool.true_and, true_and]
    cases hs : s.ver with
    | v4 =>
      rw [hs] at vs va
      exact IPVal.contains4_iff_prefix _ _ _ vs va
    | v6 =>
      rw [hs] at vs va
      exact IPVal.contains6_iff_prefix _ _ _ vs va
  · have : (a.ver == s.ver) = false := by simpa using hv
    simp [this, hv]

/-! ## ipgrep, line mode -/

/-- **ipgrep_line_filter**: line mode prints, in input order and once each, exactly the lines on
which some word is a kept hit and no word is an excluded hit (the code's `exclude_line`). -/
theorem ipgrep_line_filter (O : Oracle) (o : Opts) (subnets : List Addr) (lines : List Str) :
    lineMatches O o subnets lines =
      lines.filter (fun line =>
        (O.split line).any (fun w => subnets.any (fun s => lineEv O o w s == some false)) &&
        !((O.split line).any (fun w => subnets.any (fun s => lineEv O o w s == some true)))) := by
  unfold lineMatches
  rw [foldl_append_if]
  simp only [List.nil_append]
  apply List.filter_congr
  intro line _
  rw [lineScan_eq, foldl_evStep_append]
  simp only [Bool.false_or, List.any_flatMap, List.any_map]
  rfl

/-- **ipgrep_line_filter_plain**: without `--exclude-hosts`, exactly the lines having a word that is
a valid address inside at least one requested subnet. -/
theorem ipgrep_line_filter_plain (O : Oracle) (hd : Disjoint O) (o : Opts) (subnets : List Addr)
    (lines : List Str) (hH : o.excludeHosts = false) (hN : o.excludeNetworks = false) :
    lineMatches O o subnets lines =
      lines.filter (fun line => (O.split line).any (fun w =>
        match addrOf O w with
        | some a => inSome subnets a
        | none => false)) := by
  rw [ipgrep_line_filter]
  apply List.filter_congr
  intro line _
  have hex : ∀ a, excluded O o a = false := by
    intro a; unfold excluded netExcluded hostExcluded; simp [hH, hN]
  have hw : ∀ w, (subnets.any fun s => lineEv O o w s == some false) =
        (match addrOf O w with
         | some a => inSome subnets a
         | none => false) ∧
      (subnets.any fun s => lineEv O o w s == some true) = false := by
    intro w
    simp only [lineEv_eq O o hd, hex]
    cases addrOf O w with
    | none => simp
    | some a =>
      simp only [Option.bind_some, inSome]
      constructor
      · congr 1; funext s; cases hitA s a <;> rfl
      · rw [List.any_eq_false]; intro s _; cases hitA s a <;> simp
  simp [hw]

/-! ## ipgrep as a whole: option plumbing -/

/-- `-4` / `-6` stand for `0.0.0.0/0` / `::/0`; they exclude `-s`; one of the three is required. -/
theorem ipgrep_subnet_options (a : IpArgs) :
    (a.subnets = none → a.ipv4 = true → a.ipv6 = false → effectiveSubnets a = .ok (some "0.0.0.0/0".toList)) ∧
    (a.subnets = none → a.ipv4 = false → a.ipv6 = true → effectiveSubnets a = .ok (some "::/0".toList)) ∧
    (a.subnets = none → a.ipv4 = true → a.ipv6 = true → effectiveSubnets a = .ok (some "0.0.0.0/0,::/0".toList)) ∧
    (a.subnets = none → a.ipv4 = false → a.ipv6 = false → effectiveSubnets a = .ok none) ∧
    (∀ s, a.subnets = some s → (a.ipv4 = true ∨ a.ipv6 = true) → effectiveSubnets a = .error .systemExit) := by
  unfold effectiveSubnets
  refine ⟨?_, ?_, ?_, ?_, ?_⟩
  · intro h1 h2 h3; simp [h1, h2, h3]
  · intro h1 h2 h3; simp [h1, h2, h3]
  · intro h1 h2 h3; simp [h1, h2, h3]
  · intro h1 h2 h3; simp [h1, h2, h3]
  · intro s h1 h2
    rcases h2 with h | h <;> simp [h1, h]

/-- `exclude_networks` (an attribute of the Namespace that no command-line option sets): with `false` this is
`ipgrep`; with any value the word mode is `addrMatches` and the line mode `lineMatches` for `Opts` carrying that
value — so `ipgrep_filter`, `ipgrep_unique`, `ipgrep_line_filter` (stated for every `Opts`) describe these runs too -/
theorem ipgrepX_modes (O : Oracle) (a : IpArgs) (xn : Bool) (sub : Str) (subs : List Addr)
    (h1 : effectiveSubnets a = .ok (some sub))
    (h2 : (splitOn ',' sub).mapM (parseSubnet O) = .ok subs) :
    ipgrepX O a false = ipgrep O a ∧
    (a.line = false → ipgrepX O a xn = .ok (addrMatches O
      ⟨a.showNetworks || a.showCidr, a.showNetworks, a.excludeHosts, xn, a.unique⟩ subs (O.split a.text))) ∧
    (a.line = true → a.showCidr = false → a.showNetworks = false →
      ipgrepX O a xn = .ok (lineMatches O ⟨false, false, a.excludeHosts, xn, a.unique⟩ subs (Diff.splitlines a.text))) := by
  refine ⟨rfl, ?_, ?_⟩
  · intro hl
    unfold ipgrepX
    simp only [h1, bind, Except.bind, h2, hl]
    cases a.showNetworks <;> simp
  · intro hl hc hn
    unfold ipgrepX
    simp only [h1, bind, Except.bind, h2, hl, hc, hn]
    simp

/-- **ipgrep_word_mode**: a run that gets past the option checks prints `addrMatches` of the
`re.split` words of the whole text against the parsed `--subnets` items; `--show-networks`
implies `--show-cidr`. -/
theorem ipgrep_word_mode (O : Oracle) (a : IpArgs) (sub : Str) (subs : List Addr)
    (h1 : effectiveSubnets a = .ok (some sub))
    (h2 : (splitOn ',' sub).mapM (parseSubnet O) = .ok subs) (hl : a.line = false) :
    ipgrep O a = .ok (addrMatches O
      ⟨a.showNetworks || a.showCidr, a.showNetworks, a.excludeHosts, false, a.unique⟩ subs (O.split a.text)) := by
  have h := ipgrepX_modes O a false sub subs h1 h2
  rw [← h.1]
  exact h.2.1 hl

/-- **ipgrep_line_mode**: with `--line` (and neither `--show-cidr` nor `--show-networks`) it prints
`lineMatches` of `text.splitlines()`. -/
theorem ipgrep_line_mode (O : Oracle) (a : IpArgs) (sub : Str) (subs : List Addr)
    (h1 : effectiveSubnets a = .ok (some sub))
    (h2 : (splitOn ',' sub).mapM (parseSubnet O) = .ok subs) (hl : a.line = true)
    (hc : a.showCidr = false) (hn : a.showNetworks = false) :
    ipgrep O a = .ok (lineMatches O ⟨false, false, a.excludeHosts, false, a.unique⟩ subs
      (Diff.splitlines a.text)) := by
  have h := ipgrepX_modes O a false sub subs h1 h2
  rw [← h.1]
  exact h.2.2 hl hc hn

/-! ## macgrep -/

/-- a word counts iff it is a MAC / EUI-64 and some regex finds some spelling of it -/
theorem macWordMatches_iff (O : Oracle) (regexes : List Str) (w : Str) :
    macWordMatches O regexes w = true ↔
      ∃ k v, macOf w = some (k, v) ∧ ∃ r ∈ regexes, ∃ t ∈ macTexts k v, O.rx r t = true := by
  unfold macWordMatches searchAllFormats
  cases macOf w with
  | none => simp
  | some kv =>
    obtain ⟨k, v⟩ := kv
    simp only [List.any_eq_true, Option.some.injEq, Prod.mk.injEq]
    constructor
    · rintro ⟨r, hr, t, ht, h⟩; exact ⟨k, v, ⟨rfl, rfl⟩, r, hr, t, ht, h⟩
    · rintro ⟨k', v', ⟨rfl, rfl⟩, r, hr, t, ht, h⟩; exact ⟨r, hr, t, ht, h⟩

/-- the spellings a regex is tried on are C16's renderings -/
theorem macTexts_spec (k : Mac.Kind) (v : Nat) :
    macTexts k v = [Mac.dash k v, Mac.colon k v, Mac.cisco k v, (Mac.dash k v).filter (· != '-')] := rfl

/-- **macgrep_word_is_mac** (with C16): `MACEUISearch` classifies a word as kind `k` (MAC or
EUI-64) with value `v` exactly when C16's constructor of that kind accepts the word with that
value — i.e. (C16 `accepted_iff`) when it instantiates one of the four spellings of that size, in
any letter case. -/
theorem macgrep_word_is_mac (w : Str) (k : Mac.Kind) (v : Nat) :
    macOf w = some (k, v) ↔ Mac.parseObj k w = .ok v := by
  rw [← Mac.classify_iff_parseObj]
  obtain ⟨k0, h1, _⟩ := Mac.parse_pair w
  rw [Mac.classify_eq_of w k0 h1]
  unfold macOf
  rw [h1, Mac.parse_single_eq]
  have hne : Mac.eui64 ≠ Mac.eui48 := by decide
  by_cases hany : k0.cls.formats.any (fun t => Mac.tmatch t w) = true
  · have hobj : Mac.parseObj k0 w = .ok (Mac.hexFold 0 w) := by rw [Mac.parseObj_eq, if_pos hany]
    rw [if_pos hany, hobj]
    cases k0 <;> simp [Mac.Kind.cls, hne, hobj, Except.map]
  · have hobj : Mac.parseObj k0 w = .error .valueError := by rw [Mac.parseObj_eq, if_neg hany]
    rw [if_neg hany, hobj]
    simp [Except.map]

/-- **macgrep_filter**: word mode prints exactly the matching words, in input order, once per
occurrence, as they are written. -/
theorem macgrep_filter (O : Oracle) (regexes : List Str) (words : List Str) :
    macAddrMatches O regexes false words = words.filter (macWordMatches O regexes) := by
  unfold macAddrMatches
  simp only [Bool.false_eq_true, if_false]
  rw [foldl_append_if]
  rfl

/-- **macgrep_unique**: with `--unique`, the first occurrences (by spelling) of that output. -/
theorem macgrep_unique (O : Oracle) (regexes : List Str) (words : List Str) :
    macAddrMatches O regexes true words = firstOccs (macAddrMatches O regexes false words) := by
  rw [macgrep_filter]
  unfold macAddrMatches firstOccs
  simp only [if_true]
  rw [List.foldl_filter]
  rfl

/-- **macgrep_line_filter**: line mode prints, in order and once each, exactly the lines having a
matching word. -/
theorem macgrep_line_filter (O : Oracle) (regexes : List Str) (lines : List Str) :
    macLineMatches O regexes lines =
      lines.filter (fun line => (O.split line).any (macWordMatches O regexes)) := by
  unfold macLineMatches
  rw [foldl_append_if]
  simp only [List.nil_append]
  apply List.filter_congr
  intro line _
  exact macLineHas_eq O regexes line

/-- `macgrep` dispatch: the regex list is the comma separated `-r` value; word mode works on
`re.split(delim, text)`, line mode on `text.splitlines()`. -/
theorem macgrep_modes (O : Oracle) (a : MacArgs) :
    (a.line = false → macgrep O a = macAddrMatches O (splitOn ',' a.regex) a.unique (O.split a.text)) ∧
    (a.line = true → macgrep O a = macLineMatches O (splitOn ',' a.regex) (Diff.splitlines a.text)) := by
  unfold macgrep
  exact ⟨fun h => by simp [h], fun h => by simp [h]⟩

/-! ## parent / child / branch / diff print what the API returns -/

/-- **cli_is_api_parent**: `ccp parent -a ARGS -d DELIM -s SYNTAX FILE…` prints, file after file,
the `.text` of `CiscoConfParse(config=FILE, syntax=SYNTAX).find_parent_objects(ARGS.split(DELIM))`
— every other argument of both calls at its default; the first exception ends the run.
(The `-A` / `--all_children` flag is stored and never used.) -/
theorem cli_is_api_parent (A : Api) (a : FindArgs) (h : a.output = rawText) :
    parentCmd A a = (do
      let terms ← splitStr a.delimiter a.args
      let outs ← a.files.mapM (fun f => do
        let p ← A.parse f a.syn
        let objs ← p.findParentObjects terms
        pure (objs.map Line.text))
      pure outs.flatten) := by
  unfold parentCmd
  cases splitStr a.delimiter a.args with
  | error e => rfl
  | ok terms =>
    simp only [bind, Except.bind, h, if_true, forFiles_eq]
    rfl

/-- **cli_is_api_child**: the same with `find_child_objects`. -/
theorem cli_is_api_child (A : Api) (a : FindArgs) (h : a.output = rawText) :
    childCmd A a = (do
      let terms ← splitStr a.delimiter a.args
      let outs ← a.files.mapM (fun f => do
        let p ← A.parse f a.syn
        let objs ← p.findChildObjects terms
        pure (objs.map Line.text))
      pure outs.flatten) := by
  unfold childCmd
  cases splitStr a.delimiter a.args with
  | error e => rfl
  | ok terms =>
    simp only [bind, Except.bind, h, if_true, forFiles_eq]
    rfl

/-- **cli_is_api_branch_raw**: `ccp branch` (raw_text, at least two terms) prints the `.text` of
every line of every branch of `find_object_branches(terms)`, branch after branch. -/
theorem cli_is_api_branch_raw (A : Api) (a : FindArgs) (terms : List Str) (h : a.output = rawText)
    (ht : splitStr a.delimiter a.args = .ok terms) (h2 : terms.length ≠ 1) :
    branchCmd A a = (do
      let outs ← a.files.mapM (fun f => do
        let p ← A.parse f a.syn
        let bs ← p.findObjectBranches terms
        let ts ← bs.mapM branchTexts
        pure ts.flatten)
      pure outs.flatten) := by
  unfold branchCmd
  simp only [ht, bind, Except.bind, h, if_true, forFiles_eq, h2, if_false]
  rfl

/-- with a single term, raw_text output is refused -/
theorem branch_raw_one_term (A : Api) (a : FindArgs) (t : Str) (f : Str) (fs : List Str) (p : Parse)
    (h : a.output = rawText) (ht : splitStr a.delimiter a.args = .ok [t]) (hf : a.files = f :: fs)
    (hp : A.parse f a.syn = .ok p) :
    branchCmd A a = .error .notImplemented := by
  unfold branchCmd forFiles
  simp [ht, bind, Except.bind, h, hf, hp]

/-- a branch without `None` prints the texts of its lines -/
theorem branchTexts_some (b : List Line) : branchTexts (b.map some) = .ok (b.map Line.text) := by
  unfold branchTexts
  induction b with
  | nil => rfl
  | cons l ls ih =>
    rw [List.map_cons, List.mapM_cons, List.map_cons]
    simp only [bind, Except.bind]
    rw [ih]
    rfl

/-- **cli_is_api_branch_original**: `ccp branch -o original` with several terms prints the lines of
all branches of `find_object_branches(terms)`, each line once, in line-number order. -/
theorem cli_is_api_branch_original (A : Api) (a : FindArgs) (terms : List Str) (h : a.output = original)
    (ht : splitStr a.delimiter a.args = .ok terms) (h2 : terms.length ≠ 1) :
    branchCmd A a = (do
      let outs ← a.files.mapM (fun f => do
        let p ← A.parse f a.syn
        let bs ← p.findObjectBranches terms
        let s ← bs.foldlM (fun s b => b.foldlM (fun s o => match o with
          | some l => pure (setAdd s l)
          | none => .error .attributeError) s) []
        pure ((sortLines s).map Line.text))
      pure outs.flatten) := by
  have hne : original ≠ rawText := by decide
  unfold branchCmd
  simp only [ht, bind, Except.bind, h, hne, if_true, if_false, forFiles_eq, h2]
  rfl

/-- `sortLines` is ascending in `linenum` and keeps exactly the lines it is given -/
theorem sortLines_spec (s : List Line) :
    (sortLines s).Pairwise (fun x y => x.linenum ≤ y.linenum) ∧ ∀ l, l ∈ sortLines s ↔ l ∈ s := by
  have hmem : ∀ (x : Line) (l : List Line) z, z ∈ insertLine x l ↔ z = x ∨ z ∈ l := by
    intro x l z
    induction l with
    | nil => simp [insertLine]
    | cons y ys ih => unfold insertLine; split <;> simp [ih, or_left_comm]
  have hsorted : ∀ (x : Line) (l : List Line), l.Pairwise (fun x y => x.linenum ≤ y.linenum) →
      (insertLine x l).Pairwise (fun x y => x.linenum ≤ y.linenum) := by
    intro x l
    induction l with
    | nil => intro _; simp [insertLine]
    | cons y ys ih =>
      intro hp
      have hy := List.pairwise_cons.mp hp
      unfold insertLine
      split
      · refine List.pairwise_cons.mpr ⟨fun z hz => ?_, hp⟩
        rcases List.mem_cons.mp hz with rfl | hz
        · omega
        · have := hy.1 z hz; omega
      · refine List.pairwise_cons.mpr ⟨fun z hz => ?_, ih hy.2⟩
        rcases (hmem x ys z).mp hz with rfl | hz
        · omega
        · exact hy.1 z hz
  unfold sortLines
  induction s with
  | nil => simp
  | cons x xs ih =>
    rw [List.foldr_cons]
    exact ⟨hsorted x _ ih.1, fun l => by rw [hmem, ih.2, List.mem_cons]⟩

/-- **cli_is_api_diff**: `ccp diff -m METHOD F0 F1` prints `Diff(open(F0).read(), open(F1).read(),
syntax=<what diffSyntaxPassed says>)` `.get_diff()` for `-m diff`, `.get_rollback()` for
`-m rollback` (F23). -/
theorem cli_is_api_diff (A : Api) (f0 f1 : Str) (m syn : Str) :
    diffCmd A ⟨[f0, f1], m, syn⟩ = (do
      let old ← A.read f0
      let new ← A.read f1
      let d ← A.diff old new (diffSyntaxPassed ⟨[f0, f1], m, syn⟩)
      if m = mDiff then pure d.1 else if m = mRollback then pure d.2 else .error .valueError) := rfl

/-- **diff_honours_syntax** (after the repair of F48): the syntax handed to `Diff` is the `-s` value. -/
theorem diff_honours_syntax (a : DiffArgs) : diffSyntaxPassed a = a.syn := rfl

/-! ## the Namespace level: input source, `exclude_networks`, unknown command (model `Ccp.Model.CliNs`) -/

/-- **The text may come from a file or from standard input — it is the same grep.** -/
theorem grep_source_irrelevant (O : Oracle) (a : IpArgs) (m : MacArgs) (t : Str) :
    ipgrepFrom O a false (.file t) = ipgrep O { a with text := t } ∧
    ipgrepFrom O a false (.stdin t) = ipgrep O { a with text := t } ∧
    macgrepFrom O m (.file t) = .ok (macgrep O { m with text := t }) ∧
    macgrepFrom O m (.stdin t) = .ok (macgrep O { m with text := t }) :=
  ⟨rfl, rfl, rfl, rfl⟩

/-- without a FILE argument and with a terminal as standard input there is nothing to grep: both greps end with
the argument parser's error (`SystemExit`), before any other option is looked at -/
theorem grep_needs_input (O : Oracle) (a : IpArgs) (xn : Bool) (m : MacArgs) :
    ipgrepFrom O a xn .ttyNoFile = .error .systemExit ∧ macgrepFrom O m .ttyNoFile = .error .systemExit :=
  ⟨rfl, rfl⟩

/-- what `exclude_networks` excludes: every hit that is not a host (/32 resp. /128) -/
theorem netExcluded_spec (o : Opts) (a : Addr) (h : o.excludeNetworks = true) :
    netExcluded o a = !(a.o.len == a.ver.hostLen) := by
  unfold netExcluded
  rw [h]
  cases hv : a.ver
  · by_cases hl : a.o.len = 32 <;> simp [Ver.hostLen, hl]
  · by_cases hl : a.o.len = 128 <;> simp [Ver.hostLen, hl]

/-- a Namespace whose `command` is none of the six sub-commands is refused with ValueError -/
theorem other_command_rejected (name : Str) (h : name ∉ commands) : otherCommand name = some .valueError := by
  unfold otherCommand
  simp [h]

/-! ## non-vacuity -/

section Examples

def w6 : Str := "::1".toList

/-- a toy oracle: blank-separated words; five IPv4 words and one IPv6 word are known -/
def exO : Oracle where
  split := fun s => (splitOn ' ' s)
  ip4 := fun w =>
    if w = "10.0.0.1".toList then some (0x0A000001, 32)
    else if w = "10.0.0.1/24".toList then some (0x0A000001, 24)
    else if w = "10.0.0.0/8".toList then some (0x0A000000, 8)
    else if w = "10.0.0.0/24".toList then some (0x0A000000, 24)
    else if w = "11.0.0.1".toList then some (0x0B000001, 32)
    else none
  ip6 := fun w => if w = w6 then some (1, 128) else none
  txt := fun v n => match v with
    | .v4 => if n = 0x0A000001 then "10.0.0.1".toList else if n = 0x0A000000 then "10.0.0.0".toList
        else "11.0.0.1".toList
    | .v6 => w6
  rx := fun r t => r.isPrefixOf t

def exSubs : List Addr :=
  [⟨.v4, IPVal.ofIpLen IPVal.v4 0x0A000000 24⟩, ⟨.v4, IPVal.ofIpLen IPVal.v4 0x0A000000 8⟩]

def exWords : List Str :=
  ["x".toList, "10.0.0.1".toList, "11.0.0.1".toList, "10.0.0.1/24".toList, w6, "10.0.0.1".toList]

theorem exO_disjoint : Disjoint exO := by
  intro w
  by_cases h : w = w6
  · left; subst h; decide +kernel
  · right
    show (if w = w6 then some ((1 : Nat), (128 : Nat)) else none) = none
    rw [if_neg h]

-- a word inside both requested subnets is printed once per occurrence (F22), others dropped
example : addrMatches exO ⟨false, false, false, false, false⟩ exSubs exWords
    = ["10.0.0.1".toList, "10.0.0.1".toList, "10.0.0.1".toList] := by decide +kernel
-- `--unique`
example : addrMatches exO ⟨false, false, false, false, true⟩ exSubs exWords = ["10.0.0.1".toList] := by
  decide +kernel
-- `--show-networks --exclude-hosts`: only the /24 network remains
example : addrMatches exO ⟨true, true, true, false, false⟩ exSubs exWords = ["10.0.0.0/24".toList] := by
  decide +kernel
-- line mode: with `--exclude-hosts` a line holding a host is dropped
example : lineMatches exO ⟨false, false, false, false, false⟩ exSubs
    ["a 10.0.0.0/24 10.0.0.1".toList, "11.0.0.1 ::1".toList, "10.0.0.0/24".toList]
    = ["a 10.0.0.0/24 10.0.0.1".toList, "10.0.0.0/24".toList] := by
  simp only [toList_lit]
  decide +kernel
example : lineMatches exO ⟨false, false, true, false, false⟩ exSubs
    ["a 10.0.0.0/24 10.0.0.1".toList, "11.0.0.1 ::1".toList, "10.0.0.0/24".toList]
    = ["10.0.0.0/24".toList] := by
  simp only [toList_lit]
  decide +kernel
-- macgrep over three spellings of one address, `--unique` is by spelling
example : macAddrMatches exO ["dead".toList] false
    ["dead.beef.0001".toList, "x".toList, "DE-AD-BE-EF-00-01".toList, "00:ad:be:ef:00:01".toList, "dead.beef.0001".toList]
    = ["dead.beef.0001".toList, "DE-AD-BE-EF-00-01".toList, "dead.beef.0001".toList] := by
  simp only [toList_lit]
  decide +kernel
example : macOf "dead.beef.0001.0002".toList = some (.eui64, 0xdeadbeef00010002) := by
  simp only [toList_lit]
  decide +kernel
example : (splitStr "::".toList "a::b:c::".toList).toOption = some ["a".toList, "b:c".toList, []] := by
  simp only [toList_lit]
  decide +kernel

-- `exclude_networks`: the /24 spelling is dropped, the host spellings stay (word mode, not unique)
example : addrMatches exO ⟨false, false, false, true, false⟩ exSubs exWords
    = ["10.0.0.1".toList, "10.0.0.1".toList] := by decide +kernel
-- `other_command_rejected`: the hypothesis is satisfiable
example : "frobnicate".toList ∉ commands := by
  simp only [commands, toList_lit]
  decide +kernel

end Examples

end Ccp.C18
