import Ccp.Proofs.TypedExample
import Ccp.Props.C03
/-!
# C05 — typed value extraction returns the first match in family order, else the default

Property theorems only; helper lemmas live in `Ccp.Proofs.Typed` and `Ccp.Proofs.TypedX`, the example
configs in `Ccp.Proofs.TypedExample`.  Every theorem is stated for all trees `c.t` (any texts, any
parent function; the `…_parsed` theorems and `order_is_…` speak of `parse cfg ls`), all regex oracles
`c.g` and all IPv4 parsers `c.ip` (the three fields of `Ctx`).
-/
namespace Ccp.C05
open Ccp.Typed Ccp.Tree Ccp.Py

/-- `j` is the first line of `l` whose text the regex matches -/
def FirstMatch (c : Ctx) (l : List Nat) (j : Nat) : Prop :=
  ∃ pre post, l = pre ++ j :: post ∧ (∀ k ∈ pre, matched (c.at k) = false) ∧ matched (c.at j) = true

/-- no line of `l` matches -/
def NoMatch (c : Ctx) (l : List Nat) : Prop := ∀ k ∈ l, matched (c.at k) = false

/-- the group text of a line whose requested group participated -/
def groupText (c : Ctx) (j : Nat) : Str :=
  match c.at j with
  | .val s => s
  | _ => []

/-- **The documented order**: the line itself, then all its descendants (`recurse`) or its
direct children, each list ascending in line number (= config order).  That `allChildren` is
exactly the set of descendants is C03's theorem about the shared tree model. -/
theorem order_spec (t : T) (i : Nat) :
    order t i true = i :: allChildren t i ∧ order t i false = i :: children t i ∧
    (allChildren t i).Pairwise (· ≤ ·) ∧ (children t i).Pairwise (· < ·) :=
  ⟨rfl, rfl, Ccp.Tree.sortKeep_sorted _, Ccp.Tree.children_sorted t i⟩

/-- the lines after `i` in the non-recursive order are exactly the direct children of `i`:
the other lines whose parent is `i` -/
theorem order_children_mem (t : T) (i j : Nat) :
    j ∈ (order t i false).tail ↔ j < t.size ∧ j ≠ i ∧ parentOf t j = i := by
  simp [order, children]

/-- every list of lines has a first matching line or none, never both, and the first is unique:
the two cases below (`iterTyped_first`, `iterTyped_default`) are exhaustive and exclusive -/
theorem first_or_none (c : Ctx) (l : List Nat) :
    ((∃ j, FirstMatch c l j) ∨ NoMatch c l) ∧
    (∀ j, FirstMatch c l j → ¬ NoMatch c l) ∧
    (∀ j j', FirstMatch c l j → FirstMatch c l j' → j = j') := by
  -- `FirstMatch` and `NoMatch` say what `List.find?` returns
  have hf : ∀ j, FirstMatch c l j ↔ l.find? (fun k => matched (c.at k)) = some j := fun j => by
    simp only [FirstMatch, List.find?_eq_some_iff_append, Bool.not_eq_true']
    exact ⟨fun ⟨a, b, h1, h2, h3⟩ => ⟨h3, a, b, h1, h2⟩, fun ⟨h3, a, b, h1, h2⟩ => ⟨a, b, h1, h2, h3⟩⟩
  have hn : NoMatch c l ↔ l.find? (fun k => matched (c.at k)) = none := by
    simp only [NoMatch, List.find?_eq_none, Bool.not_eq_true]
  simp only [hf, hn]
  cases l.find? _ <;> simp

/-- **First match** (`re_match_iter_typed`): when `j` is the first matching line of the family
order, the answer is `result_type(mm.group(group))` of line `j` — for every state of the
requested group (a text, `None` for a non-participating group, `IndexError` for a missing one). -/
theorem iterTyped_first (c : Ctx) (i : Nat) (ty : Ty) (d : Arg) (u r : Bool) (j : Nat)
    (h : FirstMatch c (order c.t i r) j) :
    reMatchIterTyped c i ty d u r = convGroup c.ip ty (c.at j) := by
  obtain ⟨pre, post, hl, hpre, hj⟩ := h
  rw [iter_eq_firstLoop, hl, firstLoop_split c ty pre post j hpre hj]

/-- the property's reading of `iterTyped_first`: under the hypothesis that the requested group
participated in the first matching line, the answer is that group's text converted to the
requested type.  (Without the hypothesis the code answers `result_type(None)`, see
`iterTyped_first`; the unconditional statement "the group's text, converted" has no meaning
for a group without text.) -/
theorem iterTyped_first_partial (c : Ctx) (i : Nat) (ty : Ty) (d : Arg) (u r : Bool) (j : Nat) (s : Str)
    (h : FirstMatch c (order c.t i r) j) (hs : c.at j = .val s) :
    reMatchIterTyped c i ty d u r = conv c.ip ty (.str s) := by
  rw [iterTyped_first c i ty d u r j h, hs]; rfl

/-- **Default**: when no line of the family order matches, the answer is the default, converted
to the requested type iff the caller did not ask for an untyped default. -/
theorem iterTyped_default (c : Ctx) (i : Nat) (ty : Ty) (d : Arg) (u r : Bool)
    (h : NoMatch c (order c.t i r)) :
    reMatchIterTyped c i ty d u r = (if u then .ok (Val.ofArg d) else conv c.ip ty d) := by
  rw [iter_eq_firstLoop, firstLoop_none c ty _ h]; rfl

/-- the default is returned *only* when nothing matches, in the sense that the answer is then
determined by the first matching line alone (it does not depend on `default`/`untyped_default`) -/
theorem iterTyped_ignores_default (c : Ctx) (i : Nat) (ty : Ty) (d d' : Arg) (u u' r : Bool) (j : Nat)
    (h : FirstMatch c (order c.t i r) j) :
    reMatchIterTyped c i ty d u r = reMatchIterTyped c i ty d' u' r := by
  rw [iterTyped_first c i ty d u r j h, iterTyped_first c i ty d' u' r j h]

/-- **Single line** (`re_match_typed`): the converted group when it participated; the default
(converted iff not untyped) when the line does not match *or* the group did not participate;
`IndexError` for a group the pattern does not have. -/
theorem matchTyped_spec (c : Ctx) (i : Nat) (ty : Ty) (d : Arg) (u : Bool) :
    (∀ s, c.at i = .val s → reMatchTyped c i ty d u = conv c.ip ty (.str s)) ∧
    (c.at i = .noMatch ∨ c.at i = .unset →
      reMatchTyped c i ty d u = (if u then .ok (Val.ofArg d) else conv c.ip ty d)) ∧
    (c.at i = .noGroup → reMatchTyped c i ty d u = .error .indexError) := by
  refine ⟨?_, ?_, ?_⟩
  · intro s h; simp [reMatchTyped, h]
  · rintro (h | h) <;> simp [reMatchTyped, h, typedDefault]
  · intro h; simp [reMatchTyped, h]

/-- `re_match`: the raw group (possibly `None`), or the default as given -/
theorem match_spec (c : Ctx) (i : Nat) (d : Arg) :
    (∀ s, c.at i = .val s → reMatch c i d = .ok (.str s)) ∧
    (c.at i = .noMatch → reMatch c i d = .ok (Val.ofArg d)) ∧
    (c.at i = .unset → reMatch c i d = .ok .none) ∧
    (c.at i = .noGroup → reMatch c i d = .error .indexError) := by
  refine ⟨?_, ?_, ?_, ?_⟩ <;> intros <;> simp_all [reMatch]

/-- **List variant** (`re_list_iter_typed`): the conversion of the requested group, mapped (in
the exception monad: the first failing conversion is the answer) over the matching lines of
the family order, in that order. -/
theorem listTyped_spec (c : Ctx) (i : Nat) (ty : Ty) (r : Bool) :
    reListIterTyped c i ty r =
      ((order c.t i r).filter (fun j => matched (c.at j))).mapM (fun j => convGroup c.ip ty (c.at j)) := by
  rw [← mapE_eq_mapM, ← listLoop_eq]
  cases r <;> rfl

/-- property reading of `listTyped_spec`: when the requested group participated in every
matching line of the order, the answer is the converted group text of each of them, in order;
a successful answer has one entry per matching line. -/
theorem listTyped_spec_partial (c : Ctx) (i : Nat) (ty : Ty) (r : Bool)
    (h : ∀ j ∈ order c.t i r, matched (c.at j) = true → ∃ s, c.at j = .val s) :
    reListIterTyped c i ty r =
      ((order c.t i r).filter (fun j => matched (c.at j))).mapM
        (fun j => conv c.ip ty (.str (groupText c j))) ∧
    ∀ vs, reListIterTyped c i ty r = .ok vs →
      vs.length = ((order c.t i r).filter (fun j => matched (c.at j))).length := by
  constructor
  · rw [listTyped_spec, ← mapE_eq_mapM, ← mapE_eq_mapM]
    apply mapE_congr
    intro j hj
    obtain ⟨hmem, hm⟩ := List.mem_filter.mp hj
    obtain ⟨s, hs⟩ := h j hmem hm
    simp [groupText, hs, convGroup]
  · intro vs hvs
    rw [listTyped_spec, ← mapE_eq_mapM] at hvs
    exact mapE_ok_length _ _ _ hvs

/-- **Config level** (`CiscoConfParse.re_match_iter_typed`): the lines read are exactly the root
lines (their own parent), in config order; the answer is the converted group of the first
matching root, else the default (converted iff not untyped). -/
theorem root_iter_spec (c : Ctx) (ty : Ty) (d : Arg) (u : Bool) :
    (∀ j, j ∈ roots c.t ↔ j < c.t.size ∧ parentOf c.t j = j) ∧
    (roots c.t).Pairwise (· < ·) ∧
    (∀ j, FirstMatch c (roots c.t) j → rootIterTyped c ty d u = convGroup c.ip ty (c.at j)) ∧
    (NoMatch c (roots c.t) →
      rootIterTyped c ty d u = (if u then .ok (Val.ofArg d) else conv c.ip ty d)) := by
  refine ⟨?_, ?_, ?_, ?_⟩
  · intro j; simp [roots]
  · exact List.Pairwise.filter _ List.pairwise_lt_range
  · rintro j ⟨pre, post, hl, hpre, hj⟩
    rw [root_eq_firstLoop, hl, firstLoop_split c ty pre post j hpre hj]
  · intro h
    rw [root_eq_firstLoop, firstLoop_none c ty _ h]; rfl

/-! ## parsed configs: the recursive order is "the line, then all its descendants in config order"

`Ccp.C03.parse_forest` makes every `parse cfg ls` a forest, so the statements below have no
hypothesis on the tree. -/

/-- **The recursive family order of a parsed config** is exactly line `i` followed by all its
descendants (the lines with `i` on their ancestor chain = `IsAncestor`, the transitive closure
of the parent link), in config order, each once. -/
theorem order_is_descendants (cfg : Cfg) (ls : List Str) (i : Nat) :
    let t := parse cfg ls
    order t i true = i :: (List.range t.size).filter (fun j => decide (i ∈ ancestors t j)) ∧
    (∀ j, j ∈ order t i true ↔ j = i ∨ IsAncestor t i j) ∧
    (order t i true).Pairwise (· < ·) ∧ (order t i true).Nodup := by
  intro t
  have hf : Forest t := Ccp.C03.parse_forest cfg ls
  rw [order_eq_familyLines hf i]
  exact ⟨rfl, mem_familyLines hf i, familyLines_sorted t i, nodup_of_sorted (familyLines_sorted t i)⟩

/-- the same for the non-recursive order: line `i`, then the other lines whose parent is `i`,
in config order, each once -/
theorem order_is_children (cfg : Cfg) (ls : List Str) (i : Nat) :
    let t := parse cfg ls
    (∀ j, j ∈ order t i false ↔ j = i ∨ (j < t.size ∧ parentOf t j = i ∧ j ≠ i)) ∧
    (order t i false).Pairwise (· < ·) := by
  intro t
  have hf : Forest t := Ccp.C03.parse_forest cfg ls
  refine ⟨fun j => by simp [order, mem_children], ?_⟩
  refine List.pairwise_cons.mpr ⟨fun j hj => Ccp.C03.children_after hf hj, Ccp.Tree.children_sorted t i⟩

/-- a parsed config with its oracles -/
def parsed (cfg : Cfg) (ls : List Str) (g : Str → GroupRes) (ip : Arg → Except Err Str) : Ctx :=
  { g := g, ip := ip, t := parse cfg ls }

/-- **First match, parsed configs**: `re_match_iter_typed(recurse=True)` answers with the converted
group of the first matching line among line `i` and its descendants in config order. -/
theorem iterTyped_first_parsed (cfg : Cfg) (ls : List Str) (g : Str → GroupRes) (ip : Arg → Except Err Str)
    (i : Nat) (ty : Ty) (d : Arg) (u : Bool) (j : Nat)
    (h : FirstMatch (parsed cfg ls g ip) (familyLines (parse cfg ls) i) j) :
    reMatchIterTyped (parsed cfg ls g ip) i ty d u true = convGroup ip ty ((parsed cfg ls g ip).at j) := by
  rw [← order_eq_familyLines (Ccp.C03.parse_forest cfg ls) i] at h
  exact iterTyped_first (parsed cfg ls g ip) i ty d u true j h

/-- **Default, parsed configs**: the default (converted iff not untyped) is the answer when neither
line `i` nor any of its descendants matches. -/
theorem iterTyped_default_parsed (cfg : Cfg) (ls : List Str) (g : Str → GroupRes) (ip : Arg → Except Err Str)
    (i : Nat) (ty : Ty) (d : Arg) (u : Bool)
    (h : ∀ j, j = i ∨ IsAncestor (parse cfg ls) i j → matched ((parsed cfg ls g ip).at j) = false) :
    reMatchIterTyped (parsed cfg ls g ip) i ty d u true = (if u then .ok (Val.ofArg d) else conv ip ty d) := by
  apply iterTyped_default (parsed cfg ls g ip) i ty d u true
  intro k hk
  exact h k (((order_is_descendants cfg ls i).2.1 k).mp hk)

/-- **List variant, parsed configs**: the conversion mapped over the matching lines among line `i`
and its descendants, in config order. -/
theorem listTyped_spec_parsed (cfg : Cfg) (ls : List Str) (g : Str → GroupRes) (ip : Arg → Except Err Str)
    (i : Nat) (ty : Ty) :
    reListIterTyped (parsed cfg ls g ip) i ty true =
      ((familyLines (parse cfg ls) i).filter (fun j => matched ((parsed cfg ls g ip).at j))).mapM
        (fun j => convGroup ip ty ((parsed cfg ls g ip).at j)) := by
  have he : order (parsed cfg ls g ip).t i true = familyLines (parse cfg ls) i :=
    order_eq_familyLines (Ccp.C03.parse_forest cfg ls) i
  rw [listTyped_spec, he]; rfl

/-- **Config level, parsed configs**: the lines read are those without an ancestor, in config order. -/
theorem root_iter_spec_parsed (cfg : Cfg) (ls : List Str) (g : Str → GroupRes) (ip : Arg → Except Err Str)
    (ty : Ty) (d : Arg) (u : Bool) :
    let c := parsed cfg ls g ip
    (∀ j, j ∈ roots c.t ↔ j < c.t.size ∧ ancestors c.t j = []) ∧
    (∀ j, FirstMatch c (roots c.t) j → rootIterTyped c ty d u = convGroup ip ty (c.at j)) ∧
    (NoMatch c (roots c.t) → rootIterTyped c ty d u = (if u then .ok (Val.ofArg d) else conv ip ty d)) := by
  intro c
  have hf : Forest c.t := Ccp.C03.parse_forest cfg ls
  have h := root_iter_spec c ty d u
  refine ⟨fun j => ?_, h.2.2.1, h.2.2.2⟩
  rw [h.1 j, root_iff_no_ancestors hf j]

/-! ## outside the property's quantifier (the property speaks of "the requested capture group"): the `groupdict=`
path as the code is, and the `search_safe` guard on the edit states of `Ccp.Edit` -/

/-- `get_regex_typed_dict` without a match: every key gets the default, unconverted. -/
theorem typedDict_nomatch (c : DCtx) (d : Arg) :
    typedDict c d none = .ok (c.keys.map (fun _ => Val.ofArg d)) := rfl

/-- `get_regex_typed_dict`, one key: a participating group is converted — unless its text *equals*
the default (the code tests `value != default`), in which case the text is returned unconverted;
a key that is no group name of the pattern gets the default; a non-participating group is `None`,
converted like any value (`str(None)`, `int(None)` raising) unless the default is `None` too. -/
theorem dictEntry_spec (ip : Arg → Except Err Str) (d : Arg) (ty : Ty) (s : Str) :
    (Arg.str s ≠ d → dictEntry ip d (some ty) (.val s) = conv ip ty (.str s)) ∧
    (dictEntry ip (.str s) (some ty) (.val s) = .ok (.str s)) ∧
    (dictEntry ip d none (.val s) = .ok (.str s)) ∧
    (dictEntry ip d (some ty) .noGroup = .ok (Val.ofArg d)) ∧
    (Arg.none ≠ d → dictEntry ip d (some ty) .unset = conv ip ty .none) ∧
    (dictEntry ip .none (some ty) .unset = .ok .none) := by
  refine ⟨fun h => by simp [dictEntry, h], by simp [dictEntry], rfl, rfl, fun h => by simp [dictEntry, h],
    by simp [dictEntry]⟩

/-- `re_match_iter_typed(groupdict=…, recurse=True)` does follow the family order: the typed dict of
the first matching line of `order t i true`, the all-default dict when none matches. -/
theorem iterDict_recurse (c : DCtx) (i : Nat) (d : Arg) :
    reMatchIterDict c i d true = typedDict c d (firstSome c (order c.t i true)) ∧
    (∀ pre j post rows, order c.t i true = pre ++ j :: post → (∀ k ∈ pre, c.at k = none) → c.at j = some rows →
      reMatchIterDict c i d true = typedDict c d (some rows)) ∧
    ((∀ k ∈ order c.t i true, c.at k = none) →
      reMatchIterDict c i d true = .ok (c.keys.map (fun _ => Val.ofArg d))) := by
  refine ⟨iterDict_recurse_eq c i d, ?_, ?_⟩
  · intro pre j post rows hl hpre hj
    rw [iterDict_recurse_eq, hl, firstSome_split c pre post j hpre, hj]
  · intro h
    rw [iterDict_recurse_eq, firstSome_none c _ h]; rfl

/-- **Defective behaviour** of `re_match_iter_typed(groupdict=…, recurse=False)`: when the line
itself does not match, the answer is computed from the *first child alone*, whether or not it
matches (the loop body returns unconditionally); later children are never read.  The statement
one would expect (first matching line of `order t i false`) is false, see the example below. -/
theorem iterDict_norecurse_partial (c : DCtx) (i : Nat) (d : Arg) :
    (∀ rows, c.at i = some rows → reMatchIterDict c i d false = typedDict c d (some rows)) ∧
    (c.at i = none → reMatchIterDict c i d false = typedDict c d ((children c.t i).head?.bind c.at)) := by
  constructor
  · intro rows h; simp [reMatchIterDict, h]
  · intro h
    simp only [reMatchIterDict, h]
    cases children c.t i <;> rfl

/-- **Defective behaviour** of `re_list_iter_typed(groupdict=…)`: it never returns.  The answer is
`NameError` (`retval` is read before it is assigned) unless the conversion of the first line it
processes raises first. -/
theorem listDict_never_returns_partial (c : DCtx) (i : Nat) (r : Bool) :
    (∀ rows, reListIterDict c i r ≠ .ok rows) ∧
    (listDictFirst c i r = none → reListIterDict c i r = .error .nameError) ∧
    (∀ mm vs, listDictFirst c i r = some mm → typedDict c .none mm = .ok vs →
      reListIterDict c i r = .error .nameError) := by
  refine ⟨?_, ?_, ?_⟩
  · intro rows h
    unfold reListIterDict at h
    split at h
    · cases h
    · split at h <;> cases h
  · intro h; simp [reListIterDict, h]
  · intro mm vs h hv; simp [reListIterDict, h, hv]

/-- the `groupdict=` ladder: `None` is the group-index path of the property, a `dict` the path above, and
anything else (a list of pairs, a str, an int, a tuple, `False`, …) is refused with `ValueError` whatever the
two paths would have answered -/
theorem gdDispatch_spec {α : Type} (plain dict : Except Err α) :
    gdDispatch .none plain dict = plain ∧ gdDispatch .dict plain dict = dict ∧
    gdDispatch .other plain dict = .error .valueError := ⟨rfl, rfl, rfl⟩

/-- **Stale config**: on a state whose checkpoint moved since the last commit (`S.stale`), `re_match`,
`re_match_typed`, `re_match_iter_typed` and `re_list_iter_typed` of a committed object and the config-level
`CiscoConfParse.re_match_iter_typed` all raise `NotImplementedError`; on a non-stale state they answer from the tree
of the last commit (the config-level method: from the current list, `root_on_committed`). -/
theorem stale_raises (s : Edit.S) (g : Str → GroupRes) (ip : Arg → Except Err Str)
    (h : Nat) (ty : Ty) (d : Arg) (u r : Bool) :
    (s.stale = true →
      stMatch s g ip h d = .error .notImplemented ∧ stMatchTyped s g ip h ty d u = .error .notImplemented ∧
      stIterTyped s g ip h ty d u r = .error .notImplemented ∧ stListTyped s g ip h ty r = .error .notImplemented ∧
      stRootIterTyped s g ip ty d u = .error .notImplemented) ∧
    (s.stale = false →
      stMatch s g ip h d = reMatch (onState s g ip) h d ∧
      stMatchTyped s g ip h ty d u = reMatchTyped (onState s g ip) h ty d u ∧
      stIterTyped s g ip h ty d u r = reMatchIterTyped (onState s g ip) h ty d u r ∧
      stListTyped s g ip h ty r = reListIterTyped (onState s g ip) h ty r ∧
      stRootIterTyped s g ip ty d u = rootOnItems s g ip ty d u) := by
  constructor <;> intro hs <;> simp [stMatch, stMatchTyped, stIterTyped, stListTyped, stRootIterTyped, guarded, hs]

/-- which states are stale (from `Ccp.Edit`): a fresh parse is not; `ConfigList.insert` makes the
state stale iff `auto_commit` is off; `commit` clears it; the guard of the typed helpers is the
one every search API has (`Op.probe`). -/
theorem stale_states (cfg : Cfg) (auto : Bool) (w : Nat) (ls : List Str) (s : Edit.S) (k : Int) (txt : Str) :
    (Edit.init cfg auto w ls).stale = false ∧ (Edit.init cfg auto w ls).tree = parse cfg ls ∧
    (Edit.step s (.insert k txt)).1.stale = !s.auto ∧
    (Edit.step s .commit).1.stale = false ∧
    ((Edit.step s .probe).2 = .error .notImplemented ↔ s.stale = true) := by
  refine ⟨rfl, rfl, ?_, rfl, ?_⟩
  · cases ha : s.auto <;> simp [Edit.step, Edit.autoCommit, Edit.commit, ha]
  · cases hs : s.stale <;> simp [Edit.step, hs]

/-- `CiscoConfParse.re_match_iter_typed` on a committed state (the current list is the list of the
last commit, no checkpoint moved) is the config-level extraction of `root_iter_spec` on the committed tree; whenever
the current list is the list of the last commit, the body below the guard is that extraction. -/
theorem root_on_committed (s : Edit.S) (g : Str → GroupRes) (ip : Arg → Except Err Str) (ty : Ty) (d : Arg) (u : Bool)
    (h : s.items = Edit.committedItems s.tree) :
    rootOnItems s g ip ty d u = rootIterTyped (onState s g ip) ty d u ∧
    (s.stale = false → stRootIterTyped s g ip ty d u = rootIterTyped (onState s g ip) ty d u) := by
  have hb : rootOnItems s g ip ty d u = rootIterTyped (onState s g ip) ty d u := by
    rw [rootOnItems, h, committedItems_eq, rootLoopItems_lines]; rfl
  exact ⟨hb, fun hs => by simp [stRootIterTyped, guarded, hs, hb]⟩

/-- **The config-level method is guarded like every other search**: `CiscoConfParse.re_match_iter_typed` raises
`NotImplementedError` on every stale state, whatever the list holds (it never reads an uncommitted line), and on a
non-stale state it is the loop over the current list.
(Before the repair `fix: CiscoConfParse.re_match_iter_typed() refuses to search an uncommitted config` the answer
did not depend on `S.stale`, and on a stale state the method read the current list, uncommitted lines included --
finding FC07a.) -/
theorem root_guarded (s : Edit.S) (g : Str → GroupRes) (ip : Arg → Except Err Str) (ty : Ty) (d : Arg) (u : Bool) :
    (s.stale = true → stRootIterTyped s g ip ty d u = .error .notImplemented) ∧
    (s.stale = false → stRootIterTyped s g ip ty d u = rootOnItems s g ip ty d u) := by
  constructor <;> intro hs <;> simp [stRootIterTyped, guarded, hs]

/-! ### non-vacuity: a concrete config, parsed by the tree model

The config `exLines`, its oracles and its parsed tree `exTree` are in `Ccp.Proofs.TypedExample`. -/

example : exC.t.parents = [0, 0, 1, 0, 4, 5] := by rw [exC_eq]; rfl
example : order exC.t 0 true = [0, 1, 2, 3] ∧ order exC.t 0 false = [0, 1, 3] := by rw [exC_eq]; decide +kernel
-- the grandchild (line 2) comes before the later child (line 3) with recurse, not without
example : FirstMatch exC (order exC.t 0 true) 2 := by
  simp only [exC_eq, exTree, exLines, toList_lit]
  exact ⟨[0, 1], [3], by decide +kernel, by decide +kernel, by decide +kernel⟩
example : FirstMatch exC (order exC.t 0 false) 3 := by
  simp only [exC_eq, exTree, exLines, toList_lit]
  exact ⟨[0, 1], [], by decide +kernel, by decide +kernel, by decide +kernel⟩
example : reMatchIterTyped exC 0 .int (.int (-1)) false true = .ok (.int 1500) := by
  simp only [exC_eq, exTree, exLines, toList_lit]; decide +kernel
example : reMatchIterTyped exC 0 .int (.int (-1)) false false = .ok (.int 9000) := by
  simp only [exC_eq, exTree, exLines, toList_lit]; decide +kernel
-- no line of the family of line 4 matches: default, converted / untyped
example : NoMatch exC (order exC.t 4 true) := by
  simp only [NoMatch, exC_eq, exTree, exLines, toList_lit]; decide +kernel
example : reMatchIterTyped exC 4 .int (.str "0".toList) false true = .ok (.int 0) := by
  simp only [exC_eq, exTree, exLines, toList_lit]; decide +kernel
example : reMatchIterTyped exC 4 .int (.str "0".toList) true true = .ok (.str "0".toList) := by
  simp only [exC_eq, exTree, exLines, toList_lit]; decide +kernel
example : reListIterTyped exC 0 .str true = .ok [.str "1500".toList, .str "9000".toList] := by
  simp only [exC_eq, exTree, exLines, toList_lit]; decide +kernel
-- roots are 0, 4, 5; the first matching root is line 5
example : roots exC.t = [0, 4, 5] ∧ FirstMatch exC (roots exC.t) 5 := by
  simp only [exC_eq, exTree, exLines, toList_lit]
  exact ⟨by decide +kernel, [0, 4], [], by decide +kernel, by decide +kernel, by decide +kernel⟩
example : rootIterTyped exC .float .none false = .ok (.float "7".toList) := by
  simp only [exC_eq, exTree, exLines, toList_lit]; decide +kernel
-- unset group: re_match_typed answers the default, re_match_iter_typed answers str(None)
example : reMatchTyped { exC with g := fun _ => .unset } 0 .str (.str "d".toList) false = .ok (.str "d".toList) := by
  decide +kernel
example : reMatchIterTyped { exC with g := fun _ => .unset } 0 .str (.str "d".toList) false true
    = .ok (.str "None".toList) := by decide +kernel

-- descendants of line 0 of the example config: 1, 2, 3 (line 2 is a grandchild)
example : familyLines exC.t 0 = [0, 1, 2, 3] ∧ IsAncestor exC.t 0 2 := by
  have h := (order_is_descendants exCfg exLines 0).2.1 2
  rw [parse_exLines] at h
  rw [exC_eq]
  exact ⟨by decide +kernel, (h.mp (by decide +kernel)).resolve_left (by decide +kernel)⟩

-- recurse=True finds the grandchild; recurse=False stops at the first child (" description x", no match)
-- and answers the default although the later child " mtu 9000" matches
example : reMatchIterDict exD 0 (.int (-1)) true = .ok [.int 1500] := by
  rw [exD_eq]; simp only [exTree, exLines, toList_lit]; decide +kernel
example : reMatchIterDict exD 0 (.int (-1)) false = .ok [.int (-1)] := by
  rw [exD_eq]; simp only [exTree, exLines, toList_lit]; decide +kernel
example : children exD.t 0 = [1, 3] ∧ exD.at 1 = none ∧ exD.at 3 = some [.val "9000".toList] := by
  rw [exD_eq]; simp only [exTree, exLines, toList_lit]; decide +kernel
example : reListIterDict exD 0 true = .error .nameError := by
  rw [exD_eq]; simp only [exTree, exLines, toList_lit]; decide +kernel
-- a group text equal to the default is returned unconverted
example : reMatchIterDict exD 5 (.str "7".toList) true = .ok [.str "7".toList] := by
  rw [exD_eq]; simp only [exTree, exLines, toList_lit]; decide +kernel

example : exS.stale = true := by decide +kernel
example : stIterTyped exS exG (fun _ => .error (.ext [])) 0 .int (.int (-1)) false true = .error .notImplemented := by
  decide +kernel
-- the config-level method refuses as well (before the repair of FC07a it answered 7, from the uncommitted indented line)
example : stRootIterTyped exS exG (fun _ => .error (.ext [])) .int (.int (-1)) false = .error .notImplemented := by
  decide +kernel
example : rootOnItems exS exG (fun _ => .error (.ext [])) .int (.int (-1)) false = .ok (.int 7) := by
  simp only [exS_eq, exTree, exLines, toList_lit]; decide +kernel
-- hypothesis of `root_on_committed`: after the commit the current list is the committed one, and the method answers
example : (Edit.step exS .commit).1.items = Edit.committedItems (Edit.step exS .commit).1.tree ∧
    (Edit.step exS .commit).1.stale = false ∧
    stRootIterTyped (Edit.step exS .commit).1 exG (fun _ => .error (.ext [])) .int (.int (-1)) false = .ok (.int 7) := by
  simp only [exS_commit, exTree', exLines, toList_lit]; decide +kernel
-- after a commit the state is searchable again and the inserted line is a child of line 0
example : stIterTyped (Edit.step exS .commit).1 exG (fun _ => .error (.ext [])) 0 .int (.int (-1)) false false
    = .ok (.int 7) := by simp only [exS_commit, exTree', exLines, toList_lit]; decide +kernel

end Ccp.C05

/-! ## Defaults of every type (`Ccp.Model.TypedX`: the caller's `default` may also be a `float` or a `bool`)

Python compares `0 == False == 0.0`, `1500 == 1500.0` …, but what is returned for a default depends on its TYPE. -/
namespace Ccp.C05
open Ccp.Typed Ccp.TypedX Ccp.Tree Ccp.Py

/-- **Nothing new on the old defaults**: with a default that is `None`, a `str` or an `int`, the extended helpers are
the helpers of `Ccp.Model.Typed` (whose `IPv4Obj` oracle is the extended one restricted to those arguments). -/
theorem typedX_old_defaults (x : CtxX) (i : Nat) (ty : Ty) (a : Arg) (u r : Bool) :
    reMatchIterTypedX x i ty (.base a) u r = liftV (reMatchIterTyped x.c i ty a u r) ∧
    reMatchTypedX x i ty (.base a) u = liftV (reMatchTyped x.c i ty a u) ∧
    rootIterTypedX x ty (.base a) u = liftV (rootIterTyped x.c ty a u) ∧
    reMatchX x i (.base a) = liftV (reMatch x.c i a) := by
  refine ⟨?_, ?_, ?_, ?_⟩
  · rw [iterX_eq_firstLoop, iter_eq_firstLoop]
    exact liftV_orDefault _ x ty a u
  · unfold reMatchTypedX reMatchTyped
    cases x.c.at i <;> simp only [typedDefaultX_base] <;> rfl
  · rw [rootX_eq_firstLoop, root_eq_firstLoop]
    exact liftV_orDefault _ x ty a u
  · unfold reMatchX reMatch
    cases x.c.at i <;> rfl

/-- **First match, any default**: when `j` is the first matching line of the family order the answer is the converted
group of line `j`; the default — whatever its type — plays no part. -/
theorem iterTypedX_first (x : CtxX) (i : Nat) (ty : Ty) (d : ArgX) (u r : Bool) (j : Nat)
    (h : FirstMatch x.c (order x.t i r) j) :
    reMatchIterTypedX x i ty d u r = liftV (convGroup x.c.ip ty (x.c.at j)) := by
  obtain ⟨pre, post, hl, hpre, hj⟩ := h
  rw [iterX_eq_firstLoop, hl, firstLoop_split x.c ty pre post j hpre hj]

/-- **Default, any type**: when no line of the family order matches, the answer is the default itself
(`untyped_default`) or `result_type(default)` computed from the default AS TYPED by the caller. -/
theorem iterTypedX_default (x : CtxX) (i : Nat) (ty : Ty) (d : ArgX) (u r : Bool)
    (h : NoMatch x.c (order x.t i r)) :
    reMatchIterTypedX x i ty d u r = (if u then .ok (ValX.ofArgX d) else convX x.ipx ty d) := by
  rw [iterX_eq_firstLoop, firstLoop_none x.c ty _ h]; rfl

/-- the same for the one-line variant and the config-level variant -/
theorem matchTypedX_default (x : CtxX) (i : Nat) (ty : Ty) (d : ArgX) (u : Bool)
    (h : x.c.at i = .noMatch ∨ x.c.at i = .unset) :
    reMatchTypedX x i ty d u = (if u then .ok (ValX.ofArgX d) else convX x.ipx ty d) := by
  rcases h with h | h <;> simp [reMatchTypedX, h, typedDefaultX]

theorem rootIterX_default (x : CtxX) (ty : Ty) (d : ArgX) (u : Bool) (h : NoMatch x.c (roots x.t)) :
    rootIterTypedX x ty d u = (if u then .ok (ValX.ofArgX d) else convX x.ipx ty d) := by
  rw [rootX_eq_firstLoop, firstLoop_none x.c ty _ h]; rfl

/-- `re_match` hands the default back as the object it is -/
theorem matchX_default (x : CtxX) (i : Nat) (d : ArgX) (h : x.c.at i = .noMatch) :
    reMatchX x i d = .ok (ValX.ofArgX d) := by
  simp [reMatchX, h]

/-- **`result_type(default)` by type of the default**: `str` is `str(default)`; `int` truncates a float towards zero and
maps `True/False` to `1/0`; `float` leaves a float alone and maps `True/False` to `1.0/0.0`; `IPv4Obj` is the oracle. -/
theorem convX_spec (ipx : ArgX → Except Err Str) :
    (∀ d, convX ipx .str d = .ok (.base (.str (pyStrX d)))) ∧
    (∀ neg ip frac, convX ipx .int (.float neg ip frac) = .ok (.base (.int (if neg then -(ip : Int) else ip)))) ∧
    (∀ b, convX ipx .int (.bool b) = .ok (.base (.int (if b then 1 else 0)))) ∧
    (∀ neg ip frac, convX ipx .float (.float neg ip frac) = .ok (.base (.float (floatRepr neg ip frac)))) ∧
    (∀ b, convX ipx .float (.bool b) = .ok (.base (.float (if b then "1.0".toList else "0.0".toList)))) := by
  refine ⟨?_, fun _ _ _ => rfl, fun _ => rfl, fun _ _ _ => rfl, fun _ => rfl⟩
  intro d
  cases d with
  | base a => rfl
  | float neg ip frac => rfl
  | bool b => rfl

/-- **A default keeps its type**: defaults of different types never have the same `str()` — an `int` has no decimal
point, a `float` has one, a `bool` starts with a letter — although `1500 == 1500.0`, `0 == False == 0.0`, `1 == True == 1.0`
in Python.  So `result_type=str` tells them apart: an answer remembered for one of them is wrong for the others. -/
theorem default_keeps_its_type (n : Int) (neg : Bool) (ip : Nat) (frac : Str) (b : Bool) :
    pyStrX (.base (.int n)) ≠ pyStrX (.float neg ip frac) ∧
    pyStrX (.bool b) ≠ pyStrX (.base (.int n)) ∧
    pyStrX (.bool b) ≠ pyStrX (.float neg ip frac) := by
  refine ⟨fun h => intToDec_no_point n ?_, boolStr_ne b (intToDec_head n), boolStr_ne b (floatRepr_head neg ip frac)⟩
  exact (show intToDec n = floatRepr neg ip frac from h) ▸ floatRepr_has_point neg ip frac

example : NoMatch exX.c (order exX.t 0 true) := by rw [exX_eq]; unfold NoMatch; decide +kernel
example : reMatchIterTypedX exX 0 .str (.base (.int 1500)) false true = .ok (.base (.str "1500".toList)) := by
  rw [exX_eq]; decide +kernel
example : reMatchIterTypedX exX 0 .str (.float false 1500 "0".toList) false true = .ok (.base (.str "1500.0".toList)) := by
  rw [exX_eq]; decide +kernel
example : reMatchIterTypedX exX 0 .str (.bool false) false true = .ok (.base (.str "False".toList)) := by
  rw [exX_eq]; decide +kernel
example : reMatchIterTypedX exX 0 .int (.float true 2 "5".toList) false false = .ok (.base (.int (-2))) := by
  rw [exX_eq]; decide +kernel
example : reMatchIterTypedX exX 0 .float (.bool true) false true = .ok (.base (.float "1.0".toList)) := by
  rw [exX_eq]; decide +kernel
example : reMatchIterTypedX exX 0 .int (.bool true) true true = .ok (.bool true) := by rw [exX_eq]; decide +kernel
example : rootIterTypedX exX .str (.float true 0 "0".toList) false = .ok (.base (.str "-0.0".toList)) := by
  rw [exX_eq]; decide +kernel
example : reMatchTypedX exX 1 .ip (.float false 1 "0".toList) false = .error (.ext "AddressValueError".toList) := by
  simp only [exX_eq, toList_lit]; decide +kernel
example : exX.c.at 0 = .noMatch := by decide +kernel
example : FirstMatch { exX with g := fun s => if s = " description uplink".toList then .val "7".toList else .noMatch }.c
    (order exX.t 0 true) 1 := by
  simp only [exX_eq, exXTree, toList_lit]
  exact ⟨[0], [], by decide +kernel, by decide +kernel, by decide +kernel⟩

end Ccp.C05
