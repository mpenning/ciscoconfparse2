import Ccp.Proofs.IPText
import Ccp.Proofs.IPSpell
import Ccp.Proofs.IPRender
import Ccp.Spec.IP
import Ccp.Proofs.IPTextX
import Ccp.Proofs.IPCheck
/-!
# C11 — IPv4/IPv6 objects agree with the standard library on every derived value

Property theorems only; helper lemmas live in `Ccp.Proofs.IPNum`, `IPText4`, `IPText`, `IPRun`, `IPTextX`, `IPSpell`, `IPRender`,
`IPCheck`, the reading of "what `ipaddress` says" in `Ccp.Spec.IP`.  `mk4 ip len` / `mk6 ip len` is the object every constructor stores for the
interface `(ip, len)` (theorems `*_constructors`, `v4_text_forms`, `v6_text_forms`).
-/
namespace Ccp.C11
open Ccp.Py Ccp.IPText Ccp.Spec

/-! ## value level -/

/-- the stdlib's `ALL_ONES ^ (ALL_ONES >> len)` is the netmask `2^w − 2^(w−len)`, its complement the hostmask -/
theorem masks_agree :
    (∀ len, len ≤ 32 → ipIntFromPrefix 32 len = IP.mask 32 len ∧ hostmaskInt 32 len = IP.hostmask 32 len) ∧
    (∀ len, len ≤ 128 → ipIntFromPrefix 128 len = IP.mask 128 len ∧ hostmaskInt 128 len = IP.hostmask 128 len) :=
  ⟨mask32, mask128⟩

/-- `&&&` with a netmask clears exactly the host part; `|||` with the hostmask fills it -/
theorem net_last_arith (w ip len : Nat) (hl : len ≤ w) (h : ip < 2 ^ w) :
    IP.net w ip len = ip - ip % 2 ^ (w - len) ∧
    IP.last w ip len = IP.net w ip len + (2 ^ (w - len) - 1) ∧
    IP.net w ip len ≤ ip ∧ ip ≤ IP.last w ip len := by
  have h1 := net_eq_sub_mod w (w - len) ip (by omega) h
  have h2 := net_add_host w (w - len) ip (by omega) h
  unfold IP.last IP.net IP.mask IP.hostmask
  refine ⟨h1, h2.symm, Nat.and_le_left, ?_⟩
  rw [← h2, h1]
  have := Nat.mod_lt ip (Nat.two_pow_pos (w - len))
  have := Nat.mod_le ip (2 ^ (w - len))
  omega

theorem dotted_eq (n : Nat) : strV4 n = IP.dotted n := strV4_dotted n

/-- `str(IPv4Address(n))` is the dotted quad of `n`, and reading it back (stdlib parser, and the
`as_decimal` way: split, reverse, `sum(int(x)·256^i)`) gives `n` -/
theorem dotted_roundtrip (n : Nat) (h : n < 2 ^ 32) :
    strV4 n = IP.dotted n ∧ stdV4Addr (strV4 n) = .ok n ∧
    sumPow 256 pyNat 0 (splitOn '.' (strV4 n)).reverse = some n :=
  ⟨dotted_eq n, stdV4Addr_strV4 n (by omega), sumPow_strV4 n (by omega)⟩

theorem hexDigit_eq : ∀ d : Fin 16, Nat.digitChar d.val = IP.hexDigit d.val := digitChar_hexDigit

theorem hex4_eq (g : Nat) : IPText.hex4 g = IP.hex4 g := hex4_eq_spec g

theorem groups_eq (n : Nat) : (hextets n).map IPText.hex4 = (IP.groups n).map IP.hex4 := by
  rw [hextets_eq_groups]; exact List.map_congr_left fun g _ => hex4_eq g

theorem exploded_eq (n : Nat) : explodedV6 n = IP.exploded n := by
  unfold explodedV6 IP.exploded
  rw [groups_eq]

/-- the exploded text is the eight zero-padded groups; reading it back the `as_decimal` way (split,
reverse, `sum(int(x,16)·65536^i)`) gives `n`; the compressed text `str(IPv6Address(n))` parses back to `n` -/
theorem hextets_roundtrip (n : Nat) (h : n < 2 ^ 128) :
    explodedV6 n = IP.exploded n ∧
    sumPow 65536 ofHex 0 (splitOn ':' (explodedV6 n)).reverse = some n ∧
    stdV6Addr (strV6 n) = .ok n :=
  ⟨exploded_eq n, sumPow_exploded n h, stdV6Addr_strV6 n h⟩

/-- **IPv4 values**: for every interface `(ip, len)` every derived value of the object equals what
`ipaddress` gives -/
theorem v4_values_agree (ip len : Nat) (hip : ip < 2 ^ 32) (hlen : len ≤ 32) :
    let o := mk4 ip len
    o.ip = ip ∧ o.len = len ∧ o.net = IP.net 32 ip len ∧
    V4.netmask o = IP.mask 32 len ∧ V4.hostmask o = IP.hostmask 32 len ∧ V4.broadcast o = IP.last 32 ip len ∧
    V4.network o = .ok (IP.net 32 ip len, len) ∧
    V4.asDecimal o = .ok ip ∧ V4.asDecimalNetwork o = .ok (IP.net 32 ip len) ∧
    V4.asDecimalBroadcast o = .ok (IP.last 32 ip len) ∧
    V4.numhosts o = .ok (IP.hosts 32 len) ∧
    V4.ipStr o = IP.dotted ip ∧ V4.asCidrAddr o = IP.cidr (IP.dotted ip) len ∧
    V4.asCidrNet o = .ok (IP.cidr (IP.dotted (IP.net 32 ip len)) len) := by
  intro o
  have hip' : ip < 4294967296 := by omega
  have hol : o.len = len := rfl
  have hm := mask32 len hlen
  have hnet : o.net = IP.net 32 ip len := by
    show ip &&& ipIntFromPrefix 32 len = ip &&& IP.mask 32 len
    rw [hm.1]; rfl
  have hbc : V4.broadcast o = IP.last 32 ip len := by
    show o.net ||| hostmaskInt 32 len = _
    rw [hnet, hm.2]; rfl
  refine ⟨rfl, rfl, hnet, hm.1, hm.2, hbc, ?_, V4.asDecimal_mk4 ip len hip', ?_, ?_, ?_, dotted_eq ip, ?_, ?_⟩
  · rw [← hnet]; exact V4.network_mk4 ip len hip' hlen
  · rw [← hnet]; exact V4.asDecimalNetwork_mk4 ip len hip' hlen
  · unfold V4.asDecimalBroadcast
    rw [V4.asDecimalNetwork_mk4 ip len hip' hlen]
    simp only [bind, Except.bind, pure, Except.pure]
    have := (net_last_arith 32 ip len hlen hip).2.1
    rw [hnet, this]; rfl
  · unfold V4.numhosts IP.hosts
    show (if len ≤ 30 then _ else _) = _
    by_cases h30 : len ≤ 30
    · have : len + 2 ≤ 32 := by omega
      simp [h30, this, Gen.ipv4MaxPrefixlen, hol]
    · rcases (show len = 31 ∨ len = 32 by omega) with rfl | rfl <;> simp [hol]
  · show strV4 ip ++ '/' :: toDec len = _
    rw [dotted_eq]; rfl
  · rw [V4.asCidrNet_mk4 ip len hip' hlen, dotted_eq, hnet]; rfl

-- non-vacuity: 10.1.2.3/24 keeps its host bits, network 10.1.2.0, broadcast 10.1.2.255
example : (167838211 : Nat) < 2 ^ 32 ∧ (mk4 167838211 24).ip = 167838211 ∧ (mk4 167838211 24).net = 167838208 ∧
    V4.broadcast (mk4 167838211 24) = 167838463 := by decide +kernel

/-- **IPv6 values** -/
theorem v6_values_agree (ip len : Nat) (hip : ip < 2 ^ 128) (hlen : len ≤ 128) :
    let o := mk6 ip len
    o.ip = ip ∧ o.len = len ∧ o.net = IP.net 128 ip len ∧
    V6.netmask o = IP.mask 128 len ∧ V6.hostmask o = IP.hostmask 128 len ∧ V6.lastAddress o = IP.last 128 ip len ∧
    V6.network o = .ok (IP.net 128 ip len, len) ∧
    V6.asDecimal o = .ok ip ∧ V6.asDecimalNetwork o = .ok (IP.net 128 ip len) ∧
    V6.asDecimalNetworkMaxint o = .ok (IP.last 128 ip len) ∧
    V6.numhosts o = .ok (IP.hosts 128 len) ∧
    V6.exploded o = IP.exploded ip ∧ V6.asHexTuple o = (IP.groups ip).map IP.hex4 ∧
    V6.asCidrAddr o = IP.cidr (strV6 ip) len ∧
    V6.asCidrNet o = .ok (IP.cidr (strV6 (IP.net 128 ip len)) len) ∧
    V6.compressed o = IP.cidr (strV6 (IP.net 128 ip len)) len := by
  intro o
  have hol : o.len = len := rfl
  have hm := mask128 len hlen
  have hnet : o.net = IP.net 128 ip len := by
    show ip &&& ipIntFromPrefix 128 len = ip &&& IP.mask 128 len
    rw [hm.1]; rfl
  have hbc : V6.lastAddress o = IP.last 128 ip len := by
    show o.net ||| hostmaskInt 128 len = _
    rw [hnet, hm.2]; rfl
  refine ⟨rfl, rfl, hnet, hm.1, hm.2, hbc, ?_, V6.asDecimal_mk6 ip len hip, ?_, ?_, ?_, exploded_eq ip, ?_, rfl, ?_, ?_⟩
  · rw [← hnet]; exact V6.network_mk6 ip len hip hlen
  · rw [← hnet]; exact V6.asDecimalNetwork_mk6 ip len hip hlen
  · unfold V6.asDecimalNetworkMaxint
    rw [V6.asDecimalNetwork_mk6 ip len hip hlen]
    simp only [bind, Except.bind, pure, Except.pure]
    have := (net_last_arith 128 ip len hlen hip).2.1
    rw [hnet, this]; rfl
  · unfold V6.numhosts IP.hosts
    show (if len ≤ 126 then _ else _) = _
    by_cases h126 : len ≤ 126
    · have : len + 2 ≤ 128 := by omega
      simp [h126, this, Gen.ipv6MaxPrefixlen, hol]
    · rcases (show len = 127 ∨ len = 128 by omega) with rfl | rfl <;> simp [hol]
  · exact V6.asHexTuple_mk6 ip len
  · rw [V6.asCidrNet_mk6 ip len hip hlen, hnet]; rfl
  · show strV6 o.net ++ '/' :: toDec len = _
    rw [hnet]; rfl

-- non-vacuity: a /127 inside the upper half of the address space
example : (2 ^ 127 + 5 : Nat) < 2 ^ 128 ∧ (mk6 (2 ^ 127 + 5) 127).net = 2 ^ 127 + 4 ∧
    V6.lastAddress (mk6 (2 ^ 127 + 5) 127) = 2 ^ 127 + 5 := by decide +kernel

/-- **Host bits are kept**: the object reports the address it was given, not the network address –
the stored address minus the network address is exactly the host part `ip mod 2^(w−len)` -/
theorem host_bits_kept :
    (∀ ip len, ip < 2 ^ 32 → len ≤ 32 →
      (mk4 ip len).ip = ip ∧ (mk4 ip len).ip - (mk4 ip len).net = ip % 2 ^ (32 - len) ∧
      V4.asCidrAddr (mk4 ip len) = IP.cidr (IP.dotted ip) len) ∧
    (∀ ip len, ip < 2 ^ 128 → len ≤ 128 →
      (mk6 ip len).ip = ip ∧ (mk6 ip len).ip - (mk6 ip len).net = ip % 2 ^ (128 - len) ∧
      V6.asCidrAddr (mk6 ip len) = IP.cidr (strV6 ip) len) := by
  constructor
  · intro ip len hip hlen
    have hv := v4_values_agree ip len hip hlen
    have ha := (net_last_arith 32 ip len hlen hip).1
    refine ⟨rfl, ?_, hv.2.2.2.2.2.2.2.2.2.2.2.2.1⟩
    rw [hv.2.2.1, ha]
    exact Nat.sub_sub_self (Nat.mod_le ip _)
  · intro ip len hip hlen
    have hv := v6_values_agree ip len hip hlen
    have ha := (net_last_arith 128 ip len hlen hip).1
    refine ⟨rfl, ?_, rfl⟩
    rw [hv.2.2.1, ha]
    exact Nat.sub_sub_self (Nat.mod_le ip _)

/-- **Integer and copy constructors** build the object of `(n, width)` resp. an equal object;
integers outside the address space are refused -/
theorem int_copy_constructors :
    (∀ n : Nat, n < 2 ^ 32 → V4.fromInt n = .ok (mk4 n 32)) ∧
    (∀ v : Int, (v < 0 ∨ 2 ^ 32 ≤ v) → V4.fromInt v = .error .requirementFailure) ∧
    (∀ ip len, ip < 2 ^ 32 → len ≤ 32 → V4.copy (mk4 ip len) = .ok (mk4 ip len)) ∧
    (∀ n : Nat, n < 2 ^ 128 → V6.fromInt n = .ok (mk6 n 128)) ∧
    (∀ v : Int, (v < 0 ∨ 2 ^ 128 ≤ v) → V6.fromInt v = .error .requirementFailure) ∧
    (∀ ip len, ip < 2 ^ 128 → len ≤ 128 → V6.copy (mk6 ip len) = .ok (mk6 ip len)) := by
  refine ⟨fun n h => V4.fromInt_ok n (by omega), ?_, fun ip len h1 h2 => V4.copy_mk4 ip len (by omega) h2,
    fun n h => V6.fromInt_ok n h, ?_, fun ip len h1 h2 => V6.copy_mk6 ip len h1 h2⟩
  · intro v hv
    cases v with
    | ofNat n => rw [Int.ofNat_eq_natCast] at hv; exact if_neg (by unfold Gen.ipv4MaxInt; omega)
    | negSucc n => rfl
  · intro v hv
    cases v with
    | ofNat n => rw [Int.ofNat_eq_natCast] at hv; exact if_neg (by unfold Gen.ipv6MaxInt; omega)
    | negSucc n => rfl

/-! ## IPv4 text level -/

/-- the accepted spellings of the interface `(ip, len)`, after `strip()` -/
inductive V4Form
  | plain                              -- `a`               (len = 32)
  | pfx (digits : Str)                 -- `a/digits`        ASCII digits whose value is `len` (leading zeros allowed)
  | slashMask (host : Bool)            -- `a/m`             `m` the netmask (or the hostmask) of `len`
  | spaceMask (host : Bool) (ws : Str) -- `a<blanks>m`

def maskOf (len : Nat) (host : Bool) : Nat := if host then IP.hostmask 32 len else IP.mask 32 len

def V4Form.render (ip len : Nat) : V4Form → Str
  | .plain => IP.dotted ip
  | .pfx d => IP.dotted ip ++ '/' :: d
  | .slashMask host => IP.dotted ip ++ '/' :: IP.dotted (maskOf len host)
  | .spaceMask host ws => IP.dotted ip ++ ws ++ IP.dotted (maskOf len host)

/-- side conditions: which `len` a spelling can denote (the stdlib reads all-ones / all-zeroes masks as netmasks) -/
def V4Form.Ok (len : Nat) : V4Form → Prop
  | .plain => len = 32
  | .pfx d => d ≠ [] ∧ (∀ c ∈ d, isDigit c = true) ∧ ofDigits d = some len
  | .slashMask host => host = true → 0 < len ∧ len < 32
  | .spaceMask host ws => (host = true → 0 < len ∧ len < 32) ∧ ws ≠ [] ∧ ∀ c ∈ ws, isSpace c = true

theorem readsAs_maskOf (len : Nat) (host : Bool) (hl : len ≤ 32) (h : host = true → 0 < len ∧ len < 32) :
    maskOf len host < 4294967296 ∧ ReadsAs (maskOf len host) len := by
  cases host with
  | false =>
    refine ⟨?_, readsAs_netmask len hl⟩
    show 2 ^ 32 - 2 ^ (32 - len) < 4294967296
    have := Nat.two_pow_pos (32 - len); omega
  | true =>
    have := h rfl
    refine ⟨?_, readsAs_hostmask len hl this.1 this.2⟩
    show 2 ^ (32 - len) - 1 < 4294967296
    have : 2 ^ (32 - len) ≤ 2 ^ 32 := Nat.pow_le_pow_right (by omega) (by omega)
    omega

/-- **IPv4 text forms**: every accepted spelling of `(ip, len)`, with any surrounding white space,
constructs the object of `(ip, len)` -/
theorem v4_text_forms (ip len : Nat) (hip : ip < 2 ^ 32) (hlen : len ≤ 32) (f : V4Form) (hf : f.Ok len)
    (input : Str) (hs : strip input = f.render ip len) :
    V4.fromStr input = .ok (mk4 ip len) := by
  have hip' : ip < 4294967296 := by omega
  -- the four renderings are written with `strV4`, as the constructor lemmas have them
  cases f <;> simp only [V4Form.render, ← dotted_eq] at hs
  case plain =>
    have : len = 32 := hf
    subst this
    exact V4.fromStr_plain input ip hip' hs
  case pfx d =>
    obtain ⟨h1, h2, h3⟩ := hf
    exact V4.fromStr_prefix input ip len d hip' hlen h1 h2 h3 hs
  case slashMask host =>
    have hm := readsAs_maskOf len host hlen hf
    exact V4.fromStr_slashMask input ip len (maskOf len host) hip' hlen hm.1 hm.2 hs
  case spaceMask host ws =>
    obtain ⟨h1, h2, h3⟩ := hf
    have hm := readsAs_maskOf len host hlen h1
    exact V4.fromStr_spaceMask input ip len (maskOf len host) ws hip' hlen hm.1 hm.2 h2 h3 hs

-- non-vacuity: each spelling, with blanks around, on an address with host bits
example : V4Form.Ok 24 (.spaceMask true [' ', '\t']) := ⟨fun _ => by omega, by simp, by decide +kernel⟩
example : V4Form.Ok 8 (.pfx "008".toList) := ⟨by simp, by simp only [toList_lit]; decide +kernel, by simp only [toList_lit]; decide +kernel⟩

/-- **IPv4 rejects** (no silent truncation or coercion): whenever the text constructor returns an
object, the stripped input *is* one of the accepted spellings of exactly that object's `(ip, len)` –
the address part is the canonical dotted quad (no leading zeros, every octet ≤ 255, nothing
before or after it), the mask part a run of ASCII digits with value `len ≤ 32` or the canonical
dotted quad of the netmask / hostmask of `len`.  Every other text raises. -/
theorem v4_rejects (input : Str) (o : Obj) (h : V4.fromStr input = .ok o) :
    ∃ ip len f, ip < 2 ^ 32 ∧ len ≤ 32 ∧ V4Form.Ok len f ∧ strip input = V4Form.render ip len f ∧ o = mk4 ip len := by
  obtain ⟨ip, len, hip, hlen, ho, hform⟩ := V4.fromStr_inv input o h
  simp only [dotted_eq] at hform
  have maskCase : ∀ mv, ReadsAs mv len →
      ∃ host : Bool, (host = true → 0 < len ∧ len < 32) ∧ mv = maskOf len host := by
    intro mv hr
    rcases (readsAs_sound mv len hr).2 with e | ⟨h1, h2, e⟩
    · exact ⟨false, (fun hh => by cases hh), e⟩
    · exact ⟨true, fun _ => ⟨h1, h2⟩, e⟩
  rcases hform with ⟨h32, hs⟩ | ⟨p, hp1, hp2, hp3, hs⟩ | ⟨mv, _, hr, hs⟩ | ⟨mv, ws, _, hr, hw1, hw2, hs⟩
  · exact ⟨ip, len, .plain, by omega, hlen, h32, hs, ho⟩
  · exact ⟨ip, len, .pfx p, by omega, hlen, ⟨hp1, hp2, hp3⟩, hs, ho⟩
  · obtain ⟨host, hh, rfl⟩ := maskCase mv hr
    exact ⟨ip, len, .slashMask host, by omega, hlen, hh, hs, ho⟩
  · obtain ⟨host, hh, rfl⟩ := maskCase mv hr
    exact ⟨ip, len, .spaceMask host ws, by omega, hlen, ⟨hh, hw1, hw2⟩, hs, ho⟩

/-- hence a text that is not such a spelling is refused -/
theorem v4_invalid_raises (input : Str)
    (h : ¬ ∃ ip len f, ip < 2 ^ 32 ∧ len ≤ 32 ∧ V4Form.Ok len f ∧ strip input = V4Form.render ip len f) :
    ∃ e, V4.fromStr input = .error e := by
  cases hr : V4.fromStr input with
  | error e => exact ⟨e, rfl⟩
  | ok o =>
    obtain ⟨ip, len, f, h1, h2, h3, h4, _⟩ := v4_rejects input o hr
    exact absurd ⟨ip, len, f, h1, h2, h3, h4⟩ h

-- non-vacuity: truncation candidates are refused by the model (octet 256, length 33, leading zero, junk suffix)
example : V4.fromStr "256.1.1.1".toList = .error .addressValueError := by simp only [toList_lit]; decide +kernel
example : V4.fromStr "1.2.3.4/33".toList = .error .netmaskValueError := by simp only [toList_lit]; decide +kernel
example : V4.fromStr "01.2.3.4".toList = .error .addressValueError := by simp only [toList_lit]; decide +kernel
example : V4.fromStr "1.2.3.4/24x".toList = .error .addressValueError := by simp only [toList_lit]; decide +kernel

/-! ## IPv6 text level -/

/-- **IPv6 text forms, exploded spelling** (`xxxx:xxxx:…:xxxx/len`, `xxxx:…:xxxx<blanks>len`, any
surrounding blanks, ASCII digits with leading zeros for `len`): the constructor builds the object of
`(ip, len)`.  The length guard of the code (49 characters, applied to the normalised text since the
repair of F33) only limits the number of digits of `len` to 9; blanks never count. -/
theorem v6_text_forms_exploded (ip len : Nat) (hip : ip < 2 ^ 128) (hlen : len ≤ 128)
    (digits : Str) (hne : digits ≠ []) (hd : ∀ c ∈ digits, isDigit c = true) (hv : ofDigits digits = some len)
    (hguard : digits.length ≤ 9) (input : Str)
    (hs : strip input = IP.exploded ip ++ '/' :: digits ∨
      ∃ ws, ws ≠ [] ∧ (∀ c ∈ ws, isSpace c = true) ∧ strip input = IP.exploded ip ++ ws ++ digits) :
    V6.fromStr input = .ok (mk6 ip len) := by
  rw [← exploded_eq] at hs
  refine V6.fromStr_spelling input _ ip len digits (stdV6Int_sound _ _ (stdV6Int_exploded ip hip)) hlen hne hd hv ?_ hs
  rw [List.length_append, explodedV6_length, List.length_cons]
  omega

/-- **IPv6 text forms, compressed spelling** – the text the stdlib (and the class itself: `str(ip)`,
`as_cidr_addr`) prints for `ip`, i.e. lower-case groups without leading zeros with the longest run of
≥ 2 zero groups replaced by `::` – as `a`, `a/len`, `a<blanks>len`, with any surrounding blanks and
ASCII digits (leading zeros allowed, at most 9 of them because of the 49-character guard) for `len`:
the constructor builds the object of `(ip, len)`.  Covers the hand-written regex automaton (`:::`
look-ahead, `opt1 | opt3 … opt11`, mask group), the blank-to-slash rewrite, the guard and the stdlib layer. -/
theorem v6_text_forms_compressed (ip len : Nat) (hip : ip < 2 ^ 128) (hlen : len ≤ 128)
    (digits : Str) (hne : digits ≠ []) (hd : ∀ c ∈ digits, isDigit c = true) (hv : ofDigits digits = some len)
    (hguard : digits.length ≤ 9) (input : Str)
    (hs : strip input = strV6 ip ++ '/' :: digits ∨
      ∃ ws, ws ≠ [] ∧ (∀ c ∈ ws, isSpace c = true) ∧ strip input = strV6 ip ++ ws ++ digits) :
    V6.fromStr input = .ok (mk6 ip len) := by
  refine V6.fromStr_spelling input _ ip len digits (stdV6Int_sound _ _ (stdV6Int_strV6 ip hip)) hlen hne hd hv ?_ hs
  have := strV6_length ip
  rw [List.length_append, List.length_cons]
  omega

/-- the same without a mask: prefix length 128 -/
theorem v6_text_forms_compressed_plain (ip : Nat) (hip : ip < 2 ^ 128) (input : Str) (hs : strip input = strV6 ip) :
    V6.fromStr input = .ok (mk6 ip 128) :=
  V6.fromStr_spelling_plain input _ ip (stdV6Int_sound _ _ (stdV6Int_strV6 ip hip))
    (Nat.le_trans (strV6_length ip) (by decide)) hs

/-- the stdlib layer alone reads the printed text back (what the copy constructor and every
`network`-derived value rely on) -/
theorem v6_printed_text_reads_back (ip len : Nat) (hip : ip < 2 ^ 128) (hlen : len ≤ 128) :
    stdV6Addr (strV6 ip) = .ok ip ∧
    stdV6Net false (strV6 ip ++ '/' :: toDec len) = .ok ((mk6 ip len).net, len) :=
  ⟨stdV6Addr_strV6 ip hip, stdV6Net_cidr false ip len hip hlen (fun h => by cases h)⟩

-- non-vacuity: a leading `::`, blanks around and as separator; the bare `::`; an inner run, upper case
example : V6.fromStr " ::1 64 ".toList = .ok (mk6 1 64) := by simp only [toList_lit]; decide +kernel
example : V6.fromStr "::/0".toList = .ok (mk6 0 0) := by simp only [toList_lit]; decide +kernel
example : V6.fromStr "2001:DB8::8:800:200C:417A/64".toList = .ok (mk6 0x20010DB80000000000080800200C417A 64) := by simp only [toList_lit]; decide +kernel

/-- **The stdlib IPv6 parser model is sound for RFC 4291 §2.2**: a text it accepts is a spelling of the
value it returns (eight groups of 1–4 hex digits, or `hi::lo` with at most seven groups written and the
missing ones zero, the last two groups optionally as a canonical dotted quad), and that value is a
128-bit address.  `IP.IsV6Spelling` is the short readable grammar in `Ccp.Spec.IP`. -/
theorem stdlib_v6_parser_sound (addr : Str) (n : Nat) (h : stdV6Addr addr = .ok n) :
    IP.IsV6Spelling addr n ∧ n < 2 ^ 128 := by
  have hi : stdV6Int addr = some n := by
    unfold stdV6Addr at h
    split at h
    · cases h
    · split at h
      · cases h
      · split at h
        · rename_i v hv; cases h; exact hv
        · cases h
  have hs := stdV6Int_sound addr n hi
  exact ⟨hs, spelling_lt addr n hs⟩

/-- the stdlib parser model accepts exactly the RFC 4291 spellings, with exactly their value -/
theorem stdlib_v6_parser_exact (addr : Str) (n : Nat) : stdV6Int addr = some n ↔ IP.IsV6Spelling addr n :=
  ⟨stdV6Int_sound addr n, stdV6Int_complete addr n⟩

/-- **IPv6 text forms, every spelling**: for *any* RFC 4291 spelling `addr` of `ip` – upper, lower or mixed
case, leading zeros in groups, `::` on any run of one or more zero groups (not only the RFC 5952 choice),
the last two groups as a dotted quad (`::ffff:a.b.c.d`, `x:x:x:x:x:x:a.b.c.d`, …) – written as `addr/len`
or `addr<blanks>len` with any surrounding blanks and ASCII digits for `len`, the constructor builds the
object of `(ip, len)`, provided the normalised text passes the code's 49-character guard. -/
theorem v6_text_forms (ip len : Nat) (addr : Str) (hsp : IP.IsV6Spelling addr ip) (hlen : len ≤ 128)
    (digits : Str) (hne : digits ≠ []) (hd : ∀ c ∈ digits, isDigit c = true) (hv : ofDigits digits = some len)
    (hguard : (addr ++ '/' :: digits).length ≤ 49) (input : Str)
    (hs : strip input = addr ++ '/' :: digits ∨
      ∃ ws, ws ≠ [] ∧ (∀ c ∈ ws, isSpace c = true) ∧ strip input = addr ++ ws ++ digits) :
    V6.fromStr input = .ok (mk6 ip len) :=
  V6.fromStr_spelling input addr ip len digits hsp hlen hne hd hv hguard hs

/-- the same without a mask: prefix length 128 -/
theorem v6_text_forms_plain (ip : Nat) (addr : Str) (hsp : IP.IsV6Spelling addr ip) (hguard : addr.length ≤ 49)
    (input : Str) (hs : strip input = addr) : V6.fromStr input = .ok (mk6 ip 128) :=
  V6.fromStr_spelling_plain input addr ip hsp hguard hs

-- non-vacuity: spellings outside the canonical ones (upper case + embedded quad, `::` on a single zero
-- group with leading zeros kept, full form with dotted quad) are spellings of the expected values
example : IP.IsV6Spelling "::FFFF:1.2.3.4".toList 0xFFFF01020304 := stdV6Int_sound _ _ (by simp only [toList_lit]; decide +kernel)
example : IP.IsV6Spelling "1:02:003:0004::6:7:8".toList 0x00010002000300040000000600070008 :=
  stdV6Int_sound _ _ (by simp only [toList_lit]; decide +kernel)
example : IP.IsV6Spelling "0:0:0:0:0:ffff:255.255.255.255".toList 0xFFFFFFFFFFFF := stdV6Int_sound _ _ (by simp only [toList_lit]; decide +kernel)

/-- **The choice `_compress_hextets` makes, on the zero pattern** (the statement on the group values is
`strV6_canonical` below).  On the zero pattern `zs` of the eight
printed groups (`zs[i]` ⇔ group `i` prints as `"0"`): if the loop of `_compress_hextets` shortens at all
it shortens the run `(s, len)` with `shortenedB zs s len` – at least two groups, all zero, no longer zero
run anywhere, no equally long one further left (RFC 5952 §4.2.1–4.2.3, with bounded quantifiers) – and the
text is exactly `groups-before :: groups-after`; if it does not shorten, no run of two or more zero groups
exists and the text is the eight groups joined by colons.  Groups are printed by `'%x'` (lower case, no
leading zeros: `toHex`). -/
theorem strV6_zero_pattern (n : Nat) :
    let X := (hextets n).map toHex
    let zs := X.map (· == ['0'])
    let st := runLoop {} 0 zs
    (st.bestLen > 1 → ∃ s, st.bestStart = some s ∧ shortenedB zs s st.bestLen = true ∧
      strV6 n = join [':'] (X.take s) ++ ':' :: ':' :: join [':'] (X.drop (s + st.bestLen))) ∧
    (¬ st.bestLen > 1 → (∀ s k, s < 8 → k < 9 → zeroRun zs s k = false) ∧ strV6 n = join [':'] X) :=
  strV6_choice n

/-- **IPv6 rejects** (no silent truncation or coercion; this is the statement F16 violated before the
regex was anchored): whenever the text constructor returns an object, then after `strip()` and the
blank-to-slash rewrite the *whole* text (at most 49 characters) is `addr` (then `len = 128`) or
`addr<sep>digits`, where `addr` is an RFC 4291 spelling of exactly the stored address and `digits`
are ASCII digits whose value is the stored prefix length ≤ 128; the object is the object of
`(ip, len)`.  Every other text raises. -/
theorem v6_rejects (input : Str) (o : Obj) (h : V6.fromStr input = .ok o) :
    o = mk6 o.ip o.len ∧ o.len ≤ 128 ∧ o.ip < 2 ^ 128 ∧
    ∃ joined addr, joined.length ≤ 49 ∧
      (splitWs (strip input) = [joined] ∨ ∃ a b, splitWs (strip input) = [a, b] ∧ joined = a ++ '/' :: b) ∧
      IP.IsV6Spelling addr o.ip ∧
      ((strip joined = addr ∧ o.len = 128) ∨
       ∃ sep m, strip joined = addr ++ sep :: m ∧ (sep = '/' ∨ isSpace sep = true) ∧ m ≠ [] ∧
         (∀ c ∈ m, isDigit c = true) ∧ ofDigits m = some o.len) := by
  obtain ⟨h1, h2, joined, addr, h3, h4, h5, h6⟩ := V6.fromStr_inv input o h
  have hs := stdlib_v6_parser_sound addr o.ip h5
  exact ⟨h1, h2, hs.2, joined, addr, h3, h4, hs.1, h6⟩

-- non-vacuity: the F16 witnesses and their neighbours are refused by the model
example : V6.fromStr "::1/64junk".toList = .error .addressValueError := by simp only [toList_lit]; decide +kernel
example : V6.fromStr "1::2::3".toList = .error .addressValueError := by simp only [toList_lit]; decide +kernel
example : V6.fromStr "1:2:3:4:5:6:7:8:9".toList = .error .addressValueError := by simp only [toList_lit]; decide +kernel
example : V6.fromStr "1::g".toList = .error .addressValueError := by simp only [toList_lit]; decide +kernel
example : V6.fromStr "::1/129".toList = .error .netmaskValueError := by simp only [toList_lit]; decide +kernel
example : V6.fromStr "::1 64 5".toList = .error .notImplementedError := by simp only [toList_lit]; decide +kernel
-- the guard no longer counts surrounding blanks (F33 repaired); 50 characters after normalisation are still refused
example : (V6.fromStr "   ffff:ffff:ffff:ffff:ffff:ffff:ffff:ffff/128   ".toList).toOption.isSome = true := by simp only [toList_lit]; decide +kernel
example : V6.fromStr "ffff:ffff:ffff:ffff:ffff:ffff:ffff:ffff/0000000128".toList = .error .requirementFailure := by simp only [toList_lit]; decide +kernel

/-! ## RFC 5952: the printed IPv6 text is canonical -/

/-- the two bridges from `strV6_zero_pattern` to RFC 5952: `'%x' % g` is the RFC 5952 group text, and
the bounded Boolean statement on the zero pattern is `IP.IsShortened` on the group values -/
theorem rfc5952_bridges (n : Nat) :
    (∀ g, g < 65536 → toHex g = IP.hexShort g) ∧ hextets n = IP.groups n ∧
    (∀ s l, shortenedB (((IP.groups n).map toHex).map (· == ['0'])) s l = true ↔ IP.IsShortened (IP.groups n) s l) :=
  ⟨toHex_eq_hexShort, hextets_eq_groups n, shortenedB_iff (IP.groups n) (groups_length n) (groups_lt n)⟩

/-- a group text of RFC 5952 (`IP.hexShort`: four hex digits with the leading zeros dropped) is the writing of
the group in lower-case base 16 without leading zeros (`0` for zero), one to four digits long, and no other
text is -/
theorem hexShort_spec (g : Nat) (h : g < 65536) :
    IP.IsShortest 16 (IP.hexShort g) g ∧ 1 ≤ (IP.hexShort g).length ∧ (IP.hexShort g).length ≤ 4 ∧
    ∀ t, IP.IsShortest 16 t g → t = IP.hexShort g := by
  have hs := hexShort_shortest g h
  have hp := toHex_props g h
  rw [toHex_eq_hexShort g h] at hp
  refine ⟨hs, ?_, hp.2.1, fun t ht => isShortest_unique 16 t _ g ht hs⟩
  cases hx : IP.hexShort g with
  | nil => exact absurd hx hp.1
  | cons _ _ => simp

/-- **RFC 5952 canonicity of `str(IPv6Address(n))`** (what `IPv6Obj` prints: `str(o.ip)`, `as_cidr_addr`,
`as_cidr_net`, `compressed`), for every value `n`: the text is lower-case hex groups without leading zeros
separated by `:`, with exactly the leftmost longest run of at least two zero groups replaced by `::`, and no
`::` when there is no such run (`IP.IsRfc5952`, RFC 5952 §4 as written in `Ccp.Spec.IP`). -/
theorem strV6_canonical (n : Nat) : IP.IsRfc5952 (strV6 n) n :=
  (strV6_groups n).imp id fun ⟨h, e⟩ => ⟨fun s l hsl => h s l ⟨hsl.1, groups_length n ▸ hsl.2.1, hsl.2.2.1⟩, e⟩

/-- … and for a 128-bit value it re-reads to the same value by the stdlib parser model, i.e. it is one of the
RFC 4291 spellings of `n` -/
theorem strV6_canonical_reads (n : Nat) (h : n < 2 ^ 128) :
    IP.IsRfc5952 (strV6 n) n ∧ stdV6Int (strV6 n) = some n ∧ IP.IsV6Spelling (strV6 n) n :=
  ⟨strV6_canonical n, stdV6Int_strV6 n h, stdV6Int_sound _ _ (stdV6Int_strV6 n h)⟩

-- non-vacuity: two equally long runs – the left one is taken; a single zero group is never shortened;
-- a longer run further right wins
example : strV6 0x00010000000000020000000000030004 = "1:0:0:2::3:4".toList → False := by simp only [toList_lit]; decide +kernel
example : strV6 0x00010000000000020000000000030004 = "1::2:0:0:3:4".toList := by simp only [toList_lit]; decide +kernel
example : strV6 0x00010000000200030004000500060007 = "1:0:2:3:4:5:6:7".toList := by simp only [toList_lit]; decide +kernel
example : strV6 0x00010000000000020000000000000003 = "1:0:0:2::3".toList := by simp only [toList_lit]; decide +kernel

/-- **RFC 5952 determines the text**: at most one string is the RFC 5952 text of `n` -/
theorem rfc5952_unique (s t : Str) (n : Nat) (hs : IP.IsRfc5952 s n) (ht : IP.IsRfc5952 t n) : s = t := by
  rcases hs with ⟨a, l, h1, e1⟩ | ⟨h1, e1⟩ <;> rcases ht with ⟨a', l', h2, e2⟩ | ⟨h2, e2⟩
  · obtain ⟨rfl, rfl⟩ := isShortened_unique _ _ _ _ _ h1 h2
    rw [e1, e2]
  · exact absurd h1 (h2 a l)
  · exact absurd h2 (h1 a' l')
  · rw [e1, e2]

/-- hence the predicate holds of exactly the printed text -/
theorem rfc5952_iff (s : Str) (n : Nat) : IP.IsRfc5952 s n ↔ s = strV6 n :=
  ⟨fun h => rfc5952_unique s _ n h (strV6_canonical n), fun h => h ▸ strV6_canonical n⟩

/-- and the text determines the address: an RFC 5952 text is an RFC 4291 spelling of its value, so no text is
the canonical text of two different 128-bit values -/
theorem rfc5952_value_unique (s : Str) (n m : Nat) (hn : n < 2 ^ 128) (hm : m < 2 ^ 128)
    (h1 : IP.IsRfc5952 s n) (h2 : IP.IsRfc5952 s m) : IP.IsV6Spelling s n ∧ n = m := by
  have e1 := (rfc5952_iff s n).mp h1
  have e2 := (rfc5952_iff s m).mp h2
  have r1 := stdV6Int_strV6 n hn
  have r2 := stdV6Int_strV6 m hm
  rw [← e1] at r1
  rw [← e2] at r2
  exact ⟨stdV6Int_sound _ _ r1, Option.some.inj (r1.symm.trans r2)⟩

example : IP.IsRfc5952 "::".toList 0 := (rfc5952_iff _ _).mpr (by simp only [toList_lit]; decide +kernel)
example : (1 : Nat) < 2 ^ 128 ∧ IP.IsRfc5952 "::1".toList 1 := ⟨by decide +kernel, (rfc5952_iff _ _).mpr (by simp only [toList_lit]; decide +kernel)⟩

/-- `::` appears exactly when two adjacent groups are zero (RFC 5952 §4.2.2: a single zero group is not shortened) -/
theorem rfc5952_shortens_iff (n : Nat) :
    (∃ s l, IP.IsShortened (IP.groups n) s l) ↔
      ∃ i, i + 1 < 8 ∧ (IP.groups n).getD i 1 = 0 ∧ (IP.groups n).getD (i + 1) 1 = 0 := by
  constructor
  · rintro ⟨s, l, h1, h2, h3, _⟩
    rw [groups_length] at h2
    exact ⟨s, by omega, h3 s (by omega) (by omega), h3 (s + 1) (by omega) (by omega)⟩
  · rintro ⟨i, hi, z0, z1⟩
    rcases strV6_groups n with ⟨s, l, h, _⟩ | ⟨h, _⟩
    · exact ⟨s, l, h⟩
    · refine absurd ⟨by omega, by omega, fun j h1 h2 => ?_⟩ (h i 2)
      rcases (show j = i ∨ j = i + 1 by omega) with rfl | rfl
      · exact z0
      · exact z1

/-! ## zero-padded / hex / binary renderings

Read through the positional numerals of `Ccp.Spec.IP`: `IsFixed b w s v` – `s` is exactly `w` lower-case
base-`b` digits with value `v`; `IsShortest b s v` – `s` is `v` in base `b` without leading zeros. -/

/-- a width, a base and a value leave exactly one text, with or without padding – so the statements below pin
every rendering down to the character -/
theorem numeral_unique :
    (∀ b w s t v, IP.IsFixed b w s v → IP.IsFixed b w t v → s = t) ∧
    (∀ b s t v, IP.IsShortest b s v → IP.IsShortest b t v → s = t) ∧
    (∀ b w ts ts' vs, IP.AreFixed b w ts vs → IP.AreFixed b w ts' vs → ts = ts') :=
  ⟨fun b w s t v => isFixed_unique b w s t v, fun b s t v => isShortest_unique b s t v,
   fun b w ts ts' vs => areFixed_unique b w ts ts' vs⟩

/-- `str(n)`, `'%x' % n`, `'%b' % n` (for every natural number) are the decimal / lower-case hexadecimal /
binary writings of `n` without leading zeros -/
theorem shortest_numerals (n : Nat) :
    IP.IsShortest 10 (toDec n) n ∧ IP.IsShortest 16 (toHex n) n ∧ IP.IsShortest 2 (toBin n) n :=
  ⟨toDec_shortest n, toHex_shortest n, toBin_shortest n⟩

/-- **`as_zeropadded` / `as_zeropadded_network`**: four 3-digit decimal groups separated by dots whose values are
the four octets of the address (resp. of the network address, followed by `/len` with `len` in shortest decimal) -/
theorem zeropadded_spec (ip len : Nat) (hip : ip < 2 ^ 32) (hlen : len ≤ 32) :
    ∃ ts ns, V4.asZeropadded (mk4 ip len) = .ok (join ['.'] ts) ∧ IP.AreFixed 10 3 ts (IP.octets ip) ∧
      V4.asZeropaddedNetwork (mk4 ip len) = .ok (IP.cidr (join ['.'] ns) len) ∧
      IP.AreFixed 10 3 ns (IP.octets (IP.net 32 ip len)) ∧ IP.IsShortest 10 (toDec len) len := by
  have hnet : (mk4 ip len).net = IP.net 32 ip len := (v4_values_agree ip len hip hlen).2.2.1
  refine ⟨(IP.octets ip).map (fun v => padLeft 3 '0' (toDec v)),
    (IP.octets (IP.net 32 ip len)).map (fun v => padLeft 3 '0' (toDec v)),
    V4.asZeropadded_mk4 ip len, ?_, ?_, ?_, toDec_shortest len⟩
  · exact revNumeral_dec.areFixed (by omega) (by omega) 3 (by omega) _ fun v hv => by have := octets_lt ip v hv; omega
  · rw [V4.asZeropaddedNetwork_mk4 ip len (by omega) hlen, hnet]; rfl
  · exact revNumeral_dec.areFixed (by omega) (by omega) 3 (by omega) _ fun v hv => by have := octets_lt _ v hv; omega

-- non-vacuity: 10.1.2.3/24
example : (V4.asZeropadded (mk4 167838211 24)).toOption = some "010.001.002.003".toList ∧
    (V4.asZeropaddedNetwork (mk4 167838211 24)).toOption = some "010.001.002.000/24".toList := by
  simp only [toList_lit]; decide +kernel

/-- **`as_hex`** (both families): `0x` followed by the address value in lower-case hexadecimal without leading
zeros (`hex(int)`) -/
theorem hex_spec :
    (∀ ip len, ip < 2 ^ 32 → ∃ t, V4.asHex (mk4 ip len) = .ok ('0' :: 'x' :: t) ∧ IP.IsShortest 16 t ip) ∧
    (∀ ip len, ip < 2 ^ 128 → ∃ t, V6.asHex (mk6 ip len) = .ok ('0' :: 'x' :: t) ∧ IP.IsShortest 16 t ip) :=
  ⟨fun ip len h => ⟨_, V4.asHex_mk4 ip len (by omega), toHex_shortest ip⟩,
   fun ip len h => ⟨_, V6.asHex_mk6 ip len h, toHex_shortest ip⟩⟩

/-- **`as_hex_tuple`**: IPv4 – four 2-digit lower-case hex texts whose values are the octets; IPv6 – eight
4-digit lower-case hex texts whose values are the groups -/
theorem hex_tuple_spec :
    (∀ ip len, ∃ ts, V4.asHexTuple (mk4 ip len) = .ok ts ∧ IP.AreFixed 16 2 ts (IP.octets ip)) ∧
    (∀ ip len, IP.AreFixed 16 4 (V6.asHexTuple (mk6 ip len)) (IP.groups ip)) := by
  constructor
  · intro ip len
    exact ⟨_, V4.asHexTuple_mk4 ip len, revNumeral_hex.areFixed (by omega) (by omega) 2 (by omega) _ (octets_lt ip)⟩
  · intro ip len
    rw [V6.asHexTuple_mk6]
    exact areFixed_map 16 4 _ _ (fun g hg => hex4_fixed g (groups_lt ip g hg))

/-- **`as_binary_tuple`**: IPv4 – four 8-digit binary texts whose values are the octets; IPv6 – eight 16-digit
binary texts whose values are the groups -/
theorem binary_spec :
    (∀ ip len, ∃ ts, V4.asBinaryTuple (mk4 ip len) = .ok ts ∧ IP.AreFixed 2 8 ts (IP.octets ip)) ∧
    (∀ ip len, ∃ ts, V6.asBinaryTuple (mk6 ip len) = .ok ts ∧ IP.AreFixed 2 16 ts (IP.groups ip)) := by
  constructor
  · intro ip len
    exact ⟨_, V4.asBinaryTuple_mk4 ip len, revNumeral_bin.areFixed (by omega) (by omega) 8 (by omega) _ (octets_lt ip)⟩
  · intro ip len
    exact ⟨_, V6.asBinaryTuple_mk6 ip len, revNumeral_bin.areFixed (by omega) (by omega) 16 (by omega) _ (groups_lt ip)⟩

-- non-vacuity: 10.1.2.3 and 2001:db8::1
example : (V4.asHex (mk4 167838211 24)).toOption = some "0xa010203".toList ∧
    (V4.asHexTuple (mk4 167838211 24)).toOption = some ["0a".toList, "01".toList, "02".toList, "03".toList] ∧
    (V4.asBinaryTuple (mk4 167838211 24)).toOption =
      some ["00001010".toList, "00000001".toList, "00000010".toList, "00000011".toList] ∧
    (V6.asBinaryTuple (mk6 0x20010db8000000000000000000000001 64)).toOption = some ["0010000000000001".toList,
      "0000110110111000".toList, "0000000000000000".toList, "0000000000000000".toList, "0000000000000000".toList,
      "0000000000000000".toList, "0000000000000000".toList, "0000000000000001".toList] := by
  simp only [toList_lit]; decide +kernel
example : IP.IsFixed 10 3 "007".toList 7 ∧ IP.IsShortest 16 "a010203".toList 167838211 ∧ ¬ IP.IsShortest 16 "0a".toList 10 := by
  refine ⟨⟨by decide +kernel, by decide +kernel⟩, ⟨by decide +kernel, by decide +kernel, by decide +kernel⟩, fun h => ?_⟩
  have := h.2.1 (by decide +kernel)
  exact absurd this (by decide +kernel)

/-- **the dotted quad and the CIDR texts** (`str(ip)`, `as_cidr_addr`, `as_cidr_net` of `v4_values_agree`): the four
octets, each in shortest decimal, joined by dots; `/len` appends the prefix length in shortest decimal -/
theorem dotted_spec (n len : Nat) :
    IP.dotted n = join ['.'] ((IP.octets n).map toDec) ∧ (∀ v, IP.IsShortest 10 (toDec v) v) ∧
    ∀ a, IP.cidr a len = a ++ '/' :: toDec len := by
  refine ⟨?_, toDec_shortest, fun _ => rfl⟩
  rw [← dotted_eq, ← toBytes4_eq_octets]; rfl

/-- the octets / groups the renderings speak about are the digits of the address in base 256 / 65536: they
are below the base and add up to the address -/
theorem octets_groups_value :
    (∀ ip, ip < 2 ^ 32 → (∀ v ∈ IP.octets ip, v < 256) ∧
      IP.octets ip = [ip / 256 ^ 3 % 256, ip / 256 ^ 2 % 256, ip / 256 % 256, ip % 256] ∧
      ip = ((ip / 256 ^ 3 % 256 * 256 + ip / 256 ^ 2 % 256) * 256 + ip / 256 % 256) * 256 + ip % 256) ∧
    (∀ ip, ip < 2 ^ 128 → (∀ g ∈ IP.groups ip, g < 65536) ∧ IP.groupsVal (IP.groups ip) = ip) := by
  constructor
  · intro ip h
    refine ⟨octets_lt ip, by simp [IP.octets, IP.octet, List.range, List.range.loop], ?_⟩
    simpa [fromBytes, toBytes4] using (fromBytes_toBytes4 ip h).symm
  · exact fun ip h => ⟨groups_lt ip, by rw [← hextets_eq_groups]; exact ofGroups_hextets ip h⟩

/-! ## Factories, argument guards and the remaining value properties (`Ccp.Model.IPTextX`)

`getIpv4 / getIpv6 val stdlib` are `_get_ipv4` / `_get_ipv6`, `ipFactory val stdlib mode` is `ip_factory`,
`checkValid text` is `check_valid_ipaddress`; `ctor4 / ctor6` are the constructors `IPv4Obj(val)` /
`IPv6Obj(val)` of the theorems above (`val` a `str` or an `int`), `stdNet4 / stdNet6 val` is the stdlib's own
`IPv4Network(val, strict=False)` / `IPv6Network(…)`, which the factories ask first. -/

open Ccp.IPTextX in
/-- **the factories return the constructor's object** (so every theorem above about `IPv4Obj(text)` /
`IPv6Obj(text)` holds for what they return) — exactly for the values that the stdlib itself reads *and* the
constructor accepts (no surrounding blanks, no blank instead of the slash: the stdlib refuses those);
whatever goes wrong is reported as `AddressValueError`, nothing else escapes. -/
theorem factory_is_constructor (val : Val) (stdlib : Bool) :
    (∀ r, getIpv4 val false = .ok r ↔ stdNet4 val = .ok () ∧ ∃ o, ctor4 val = .ok o ∧ r = .obj4 o) ∧
    (∀ r, getIpv6 val false = .ok r ↔ stdNet6 val = .ok () ∧ ∃ o, ctor6 val = .ok o ∧ r = .obj6 o) ∧
    (∀ e, getIpv4 val stdlib = .error e → e = .addressValueError) ∧
    (∀ e, getIpv6 val stdlib = .error e → e = .addressValueError) := by
  refine ⟨fun r => ?_, fun r => ?_, fun e h => wrapAVE_error _ e h, fun e h => wrapAVE_error _ e h⟩
  · rw [getIpv4_eq, wrapAVE_ok, getBody4_ok]; simp
  · rw [getIpv6_eq, wrapAVE_ok, getBody6_ok]; simp

open Ccp.IPTextX in
/-- **`stdlib=True`**: the factory returns the stdlib address of the object for a host route (`/32`,
`/128`) and otherwise `obj.network` — the network, *without* the host bits — and nothing else. -/
theorem factory_stdlib (val : Val) (r : Ret) :
    (getIpv4 val true = .ok r ↔ stdNet4 val = .ok () ∧ ∃ o, ctor4 val = .ok o ∧
      ((o.len = 32 ∧ r = .addr4 o.ip) ∨ (o.len ≠ 32 ∧ ∃ n, V4.network o = .ok n ∧ r = .net4 n))) ∧
    (getIpv6 val true = .ok r ↔ stdNet6 val = .ok () ∧ ∃ o, ctor6 val = .ok o ∧
      ((o.len = 128 ∧ r = .addr6 o.ip) ∨ (o.len ≠ 128 ∧ ∃ n, V6.network o = .ok n ∧ r = .net6 n))) := by
  constructor
  · rw [getIpv4_eq, wrapAVE_ok, getBody4_ok]; simp [Gen.ipv4MaxPrefixlen]
  · rw [getIpv6_eq, wrapAVE_ok, getBody6_ok]; simp [Gen.ipv6MaxPrefixlen]

-- for an object that satisfies the class invariant `obj.network` is (ip AND mask, len): the host bits are gone
example : V4.network (mk4 0x0a010203 24) = .ok (0x0a010200, 24) := by
  have := (v4_values_agree 0x0a010203 24 (by decide +kernel) (by decide +kernel)).2.2.2.2.2.2.1
  rw [this]; decide +kernel

open Ccp.IPTextX in
/-- **`ip_factory` dispatch**: `auto_detect` sends a text containing `:` to `_get_ipv6`, any other text to
`_get_ipv4` and refuses an integer (`NotImplementedError`); `ipv4` / `ipv6` call the one factory named (an
integer is fine there); any other `mode` is refused with `RequirementFailure`. -/
theorem ip_factory_dispatch (val : Val) (stdlib : Bool) (mode : Py.Str) :
    (∀ s, ipFactory (.str s) stdlib modeAuto = if s.contains ':' then getIpv6 (.str s) stdlib else getIpv4 (.str s) stdlib) ∧
    (∀ n, ipFactory (.int n) stdlib modeAuto = .error .notImplementedError) ∧
    ipFactory val stdlib modeV4 = getIpv4 val stdlib ∧
    ipFactory val stdlib modeV6 = getIpv6 val stdlib ∧
    (mode ≠ modeAuto → mode ≠ modeV4 → mode ≠ modeV6 → ipFactory val stdlib mode = .error .requirementFailure) := by
  have hm : modeV4 ≠ modeAuto ∧ modeV6 ≠ modeAuto ∧ modeV6 ≠ modeV4 := by decide +kernel
  refine ⟨fun s => rfl, fun n => rfl, ?_, ?_, fun h1 h2 h3 => ?_⟩
  · simp only [ipFactory, hm.1, if_false, if_true, getIpv4_eq, wrapAVE_idem]
  · simp only [ipFactory, hm.2.1, hm.2.2, if_false, if_true, getIpv6_eq, wrapAVE_idem]
  · simp only [ipFactory, h1, h2, h3, if_false]

/-- **`IPv4Obj` never accepts a text that holds a colon** (corollary of `v4_rejects`: the accepted texts are dotted
quads, digits, a slash and white space), so no text is accepted by both constructors as long as an IPv6 text holds
a colon -- which every RFC 4291 spelling does (`IPCheck.colon_mem_spelling`). -/
theorem v4_text_has_no_colon (input : Str) (o : Obj) (h : V4.fromStr input = .ok o) : ':' ∉ input := by
  intro hc
  obtain ⟨ip, len, f, _, _, hf, hs, _⟩ := v4_rejects input o h
  have hm : ':' ∈ V4Form.render ip len f := by
    rw [← hs]; exact Py.mem_strip_of_nonspace ':' input hc (by decide)
  have hd : ∀ n, ':' ∉ IP.dotted n := by
    intro n hn
    rw [← dotted_eq] at hn
    exact strV4_ne n ':' (by decide) (by decide) ':' hn rfl
  cases f with
  | plain => exact hd _ hm
  | pfx d =>
    simp only [V4Form.render, List.mem_append, List.mem_cons] at hm
    rcases hm with hm | hm | hm
    · exact hd _ hm
    · cases hm
    · have := hf.2.1 ':' hm; revert this; decide
  | slashMask host =>
    simp only [V4Form.render, List.mem_append, List.mem_cons] at hm
    rcases hm with hm | hm | hm
    · exact hd _ hm
    · cases hm
    · exact hd _ hm
  | spaceMask host ws =>
    simp only [V4Form.render, List.mem_append] at hm
    rcases hm with (hm | hm) | hm
    · exact hd _ hm
    · have := hf.2.2 ':' hm; revert this; decide
    · exact hd _ hm

open Ccp.IPTextX in
/-- **`check_valid_ipaddress`** (full statement; the docstring's promise "(input_addr, ipaddr_family) if the address is
valid, an error if not").  It answers `(stripped text, 4)` exactly when `IPv4Obj` accepts the stripped text,
`(stripped text, 6)` exactly when `IPv4Obj` refuses it and `IPv6Obj` accepts it, and raises `ValueError` -- nothing else
-- exactly when both refuse it; no other answer exists.
(Finding FC11a, repaired in `fix: check_valid_ipaddress() tries IPv6 when the text is not an IPv4 address`: the code
answered family 4 iff `IPv4Obj` accepts and raised `ValueError` otherwise, never family 6, so every valid IPv6 address
was rejected.) -/
theorem check_valid_spec (s : Py.Str) :
    (∀ t fam, checkValid s = .ok (t, fam) ↔ t = Py.strip s ∧
      ((fam = 4 ∧ ∃ o, V4.fromStr (Py.strip s) = .ok o) ∨
       (fam = 6 ∧ (∀ o, V4.fromStr (Py.strip s) ≠ .ok o) ∧ ∃ o, V6.fromStr (Py.strip s) = .ok o))) ∧
    (∀ e, checkValid s = .error e → e = .valueError) ∧
    (checkValid s = .error .valueError ↔
      (∀ o, V4.fromStr (Py.strip s) ≠ .ok o) ∧ ∀ o, V6.fromStr (Py.strip s) ≠ .ok o) := by
  unfold checkValid
  cases h4 : V4.fromStr (Py.strip s) <;> cases h6 : V6.fromStr (Py.strip s) <;> simp <;>
    exact fun t fam => ⟨fun ⟨a, b⟩ => ⟨a.symm, b.symm⟩, fun ⟨a, b⟩ => ⟨a.symm, b.symm⟩⟩

open Ccp.IPTextX in
/-- **The family reported is the family of the text**: a text that `IPv4Obj` accepts is family 4; a text that holds a
colon -- every spelling of an IPv6 address does -- and that `IPv6Obj` accepts is family 6 (`IPv4Obj` cannot accept
it, `v4_text_has_no_colon`); in particular every RFC 4291 spelling `addr` of an address, alone or as `addr/len`
(under the constructor's 49-character guard), surrounded by any blanks, is answered `(stripped text, 6)`. -/
theorem check_valid_families (s : Py.Str) :
    ((∃ o, V4.fromStr (Py.strip s) = .ok o) → checkValid s = .ok (Py.strip s, 4)) ∧
    (':' ∈ Py.strip s → (∃ o, V6.fromStr (Py.strip s) = .ok o) → checkValid s = .ok (Py.strip s, 6)) ∧
    (∀ addr ip, IP.IsV6Spelling addr ip → addr.length ≤ 49 → Py.strip s = addr →
      checkValid s = .ok (addr, 6)) ∧
    (∀ addr ip len digits, IP.IsV6Spelling addr ip → len ≤ 128 → digits ≠ [] → (∀ c ∈ digits, Py.isDigit c = true) →
      ofDigits digits = some len → (addr ++ '/' :: digits).length ≤ 49 → Py.strip s = addr ++ '/' :: digits →
      checkValid s = .ok (addr ++ '/' :: digits, 6)) := by
  have key : ':' ∈ Py.strip s → (∃ o, V6.fromStr (Py.strip s) = .ok o) → checkValid s = .ok (Py.strip s, 6) := by
    intro hc ⟨o, ho⟩
    refine ((check_valid_spec s).1 _ _).mpr ⟨rfl, .inr ⟨rfl, fun o4 h4 => ?_, o, ho⟩⟩
    exact v4_text_has_no_colon _ o4 h4 hc
  refine ⟨fun h => ((check_valid_spec s).1 _ _).mpr ⟨rfl, .inl ⟨rfl, h⟩⟩, key, ?_, ?_⟩
  · intro addr ip hsp hg hs
    have hacc := v6_text_forms_plain ip addr hsp hg (Py.strip s) (by rw [Py.strip_strip, hs])
    have := key (by rw [hs]; exact IPCheck.colon_mem_spelling addr ip hsp) ⟨_, hacc⟩
    rw [hs] at this; exact this
  · intro addr ip len digits hsp hlen hne hd hv hg hs
    have hacc := v6_text_forms ip len addr hsp hlen digits hne hd hv hg (Py.strip s)
      (.inl (by rw [Py.strip_strip, hs]))
    have hc : ':' ∈ Py.strip s := by
      rw [hs]; exact List.mem_append_left _ (IPCheck.colon_mem_spelling addr ip hsp)
    have := key hc ⟨_, hacc⟩
    rw [hs] at this; exact this

open Ccp.IPTextX in
/-- both families, blanks stripped, and texts that neither constructor accepts (`::1` and `fe80::1/64` were rejected with
`ValueError` before the repair of FC11a) -/
example : checkValid " 10.1.2.3/24 ".toList = .ok ("10.1.2.3/24".toList, 4) ∧
    checkValid "::1".toList = .ok ("::1".toList, 6) ∧
    checkValid "  fe80::1/64 ".toList = .ok ("fe80::1/64".toList, 6) ∧
    checkValid "::ffff:1.2.3.4".toList = .ok ("::ffff:1.2.3.4".toList, 6) ∧
    checkValid "1::2::3".toList = .error .valueError ∧
    checkValid "1.2.3.256".toList = .error .valueError := by simp only [toList_lit]; decide +kernel

/-- hypotheses of `check_valid_families` (a spelling, its length guard) and of `v4_text_has_no_colon` -/
example : IP.IsV6Spelling "fe80::1".toList 0xfe800000000000000000000000000001 ∧ "fe80::1".toList.length ≤ 49 :=
  ⟨stdV6Int_sound _ _ (by simp only [toList_lit]; decide +kernel), by simp only [toList_lit]; decide +kernel⟩
example : (V4.fromStr "10.1.2.3/24".toList).toOption.isSome = true := by simp only [toList_lit]; decide +kernel

open Ccp.IPTextX in
/-- **argument guards**: `_get_ipv4` / `_get_ipv6` pass exactly when `val` is `str|int`, `strict` and `stdlib`
are `bool` and `debug` is `int`, and raise `ValueError` otherwise; `ip_factory` passes exactly when the types
are right and `mode` is one of the three names, raises `RequirementFailure` for a wrong `mode` (checked after
`val`, before the others) and `ValueError` for a wrong type.  The constructors build the empty object from
`None`, refuse any other foreign type with `AddressValueError` and a non-`int` `debug` with `ValueError`;
`check_valid_ipaddress` refuses anything but a `str` with `ValueError`. -/
theorem guards_spec (a b c d : Bool) (mode : Py.Str) :
    (guardGet a b c d = none ↔ a = true ∧ b = true ∧ c = true ∧ d = true) ∧
    (∀ e, guardGet a b c d = some e → e = .valueError) ∧
    (guardFactory a mode c d = none ↔
      a = true ∧ (mode = modeAuto ∨ mode = modeV4 ∨ mode = modeV6) ∧ c = true ∧ d = true) ∧
    (guardFactory a mode c d = some .requirementFailure ↔
      a = true ∧ ¬ (mode = modeAuto ∨ mode = modeV4 ∨ mode = modeV6)) ∧
    ctorByType .none = .ok () ∧ ctorByType .foreign = .error .addressValueError ∧
    ctorByType .badDebug = .error .valueError ∧
    guardCheck true = none ∧ guardCheck false = some .valueError := by
  -- tables over the Boolean arguments; `mode` enters only through the one test
  have hget : ∀ a b c d : Bool, (guardGet a b c d = none ↔ a = true ∧ b = true ∧ c = true ∧ d = true) ∧
      (guardGet a b c d = none ∨ guardGet a b c d = some .valueError) := by decide
  refine ⟨(hget a b c d).1, fun e he => ?_, ?_, ?_, rfl, rfl, rfl, rfl, rfl⟩
  · rcases (hget a b c d).2 with h | h <;> rw [h] at he <;> cases he
    rfl
  all_goals
    by_cases hm : mode = modeAuto ∨ mode = modeV4 ∨ mode = modeV6 <;>
      simp only [guardFactory, hm, not_true_eq_false, not_false_eq_true, if_true, if_false, true_and, and_true] <;>
      revert a c d <;> decide

open Ccp.IPTextX in
/-- **the remaining value properties of an IPv4 object** `(ip, len)`: `ipv4`, `_ip`, `as_int` are the address;
`masklen = masklength = prefixlength = len`; `packed` is the four octets (they re-read to `ip`);
`inverse_netmask` is the hostmask; `max_int = 2^32 - 1`; `version = 4`; `network_offset` is `ip - network`
unless that exceeds `numhosts` (`RequirementFailure`; C13's `get_offset_spec`). -/
theorem v4_extra_values (ip len : Nat) (hip : ip < 2 ^ 32) (hlen : len ≤ 32) :
    let x := extra4 (mk4 ip len)
    x.ip = ip ∧ x.ipInt = ip ∧ x.asInt = .ok ip ∧
    x.masklen = len ∧ x.masklength = len ∧ x.prefixlength = len ∧
    x.packed = toBytes4 ip ∧ fromBytes x.packed = ip ∧
    x.inverseNetmask = IP.hostmask 32 len ∧ x.maxInt = 2 ^ 32 - 1 ∧ x.version = 4 ∧
    x.networkOffset =
      (if ((ip : Int) - (IP.net 32 ip len : Int)) > (IP.hosts 32 len : Int) then .error .requirementFailure
       else .ok ((ip : Int) - (IP.net 32 ip len : Int))) := by
  intro x
  obtain ⟨_, _, _, _, hh, _, _, hd, hn, _, hnh, _⟩ := v4_values_agree ip len hip hlen
  -- the projections of `extra4 _` are reduced first: unifying them with `hd` unfolds `V4.asDecimal`, which is slow
  dsimp only [x, extra4]
  refine ⟨rfl, rfl, hd, rfl, rfl, rfl, rfl, fromBytes_toBytes4 ip (by omega), hh, by decide, rfl, ?_⟩
  unfold networkOffset4
  rw [hd, hn, hnh]
  rfl

open Ccp.IPTextX in
/-- **the remaining value properties of an IPv6 object**; `is_ipv4_mapped` holds exactly for `::ffff:a.b.c.d`;
`broadcast`, `as_decimal_broadcast` raise `NotImplementedError`, `teredo`, `sixtofour` raise `AttributeError`
for every object. -/
theorem v6_extra_values (ip len : Nat) (hip : ip < 2 ^ 128) (hlen : len ≤ 128) :
    let x := extra6 (mk6 ip len)
    x.ip = ip ∧ x.ipInt = ip ∧ x.asInt = .ok ip ∧
    x.masklen = len ∧ x.masklength = len ∧ x.prefixlength = len ∧
    x.packed = toBytes16 ip ∧
    x.inverseNetmask = IP.hostmask 128 len ∧ x.maxInt = 2 ^ 128 - 1 ∧ x.version = 6 ∧
    x.networkOffset =
      (if ((ip : Int) - (IP.net 128 ip len : Int)) > (IP.hosts 128 len : Int) then .error .requirementFailure
       else .ok ((ip : Int) - (IP.net 128 ip len : Int))) ∧
    (isIpv4Mapped (mk6 ip len) = true ↔ 0xffff00000000 ≤ ip ∧ ip ≤ 0xffffffffffff) := by
  intro x
  obtain ⟨_, _, _, _, hh, _, _, hd, hn, _, hnh, _⟩ := v6_values_agree ip len hip hlen
  have hmapped : (ip / 2 ^ 32 == 0xffff) = true ↔ 0xffff00000000 ≤ ip ∧ ip ≤ 0xffffffffffff := by
    rw [beq_iff_eq]; omega
  dsimp only [x, extra6]
  refine ⟨rfl, rfl, hd, rfl, rfl, rfl, rfl, hh, by decide, rfl, ?_, hmapped⟩
  unfold networkOffset6
  rw [hd, hn, hnh]
  rfl

open Ccp.IPTextX in
example : (extra4 (mk4 0x0a0102ff 24)).packed = [10, 1, 2, 255] ∧
    (extra4 (mk4 0x0a0102ff 24)).networkOffset = .error .requirementFailure ∧
    (extra4 (mk4 0x0a0102fe 24)).networkOffset = .ok 254 ∧
    isIpv4Mapped (mk6 0xffff01020304 96) = true ∧ isIpv4Mapped (mk6 0x1ffff01020304 96) = false :=
  by decide +kernel

end Ccp.C11
