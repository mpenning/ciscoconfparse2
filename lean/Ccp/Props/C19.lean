import Ccp.Proofs.IosStanza
import Ccp.Proofs.IosMore
import Ccp.Proofs.IosRoute
import Ccp.Props.C15
import Ccp.Model.FactoryGuard
/-!
# C19 — typed IOS interface / route models report what the text says; factory transparent

Property theorems only; the description grammar (`Item`, `Desc`, `Stanza`, `RouteDesc`) and the accessors on the
children live in `Ccp.Proofs.IosModels`, the tree of a stanza in `Ccp.Proofs.IosStanza`, `trunk_vlans_allowed` and
the interface line in `Ccp.Proofs.IosMore`, the route round trip in `Ccp.Proofs.IosRoute`.

**Partial.**  The model (`Ccp.Model.IosModels`) writes every regular expression of
`models_cisco.py` as a matcher over (leading whitespace, words, gaps); that translation is
modelled, not proved, and is tied to Python's `re` by the correspondence run on generated
stanzas and whitespace variants.  The theorems below are about that model.

Reading guide.  `Item` = one child command (`Item.words` its words, `Item.render` = one blank
of indent + the words joined by single blanks).  `Desc` = which commands are present with which
values; `d.items` its command lines.  `Stanza d others kids` = the children `kids` are *any
permutation* of `d.items` interleaved with the unrelated lines `others`, every value well formed
(`Item.Valid`: words without whitespace, dotted-quad shape for addresses, `shutdown`/`shut`, an
unrelated line starts with no keyword), and `d` has at most one of `vrf forwarding` /
`ip vrf forwarding` and at most one of a static address / `ip address dhcp|negotiated`.
`flatFam hdr kids` = the family C05's order visits: the interface line, then the children.
`Header hdr` = `interface` + name words at column 0.

An unrelated line (`Item.other`) starts with a word that is none of `description`, `mtu`, `vrf`,
`switchport`, `channel-group`, `interface`, `shut…`; it may start with `ip` provided its second
word is none of `address` / `mtu` / `vrf` / `ip` (`ip ospf cost 10`, `ip helper-address …`).
Lines starting with `switchport` are never unrelated: they make the port a switchport
(`switchport nonegotiate` is outside the theorem grammar and covered by the correspondence).

Not proved (correspondence only): `ordinal_list` for names with a class word, `interface_number`
for names written `.sub:chan` (the code keeps the `.sub` there), `add` / `remove` / `except`
lines of `trunk_vlans_allowed`.
-/
namespace Ccp.C19
open Ccp.Ios Ccp.Tree Ccp.Py

/-- **Lexing a rendered line**: `indent ++ words joined by single blanks` is read back as
exactly that indent and those words, each followed by one blank except the last. -/
theorem lex_render_line (ind : Str) (ws : List Str) (hind : ∀ c ∈ ind, isSpace c = true)
    (hws : ∀ w ∈ ws, Word w) : lex (line ind ws) = (ind, toksOf ws) ∧ wordsOf (line ind ws) = ws :=
  ⟨lex_line ind ws hind hws, wordsOf_line ind ws hind hws⟩

/-- **Interface accessors round trip.**  For every description `d`, every list of unrelated
lines, every permutation/interleaving `kids` of both and every interface header, each accessor
of the model returns `d`'s value, or the documented default when the command is absent:
`''` (description, vrf, ipv4_addr, ipv4_netmask), `-1` (manual_mtu, manual_ip_mtu,
portchannel_number, access/native vlan of a non-switchport), `1` (access / native vlan of a
switchport), `False`, the default (empty) address object. -/
theorem intf_accessors_roundtrip (d : Desc) (others kids : List Item) (hdr : Str)
    (st : Stanza d others kids) (hh : Header hdr) :
    let f := flatFam hdr kids
    description f = (d.descr.map (join [' '])).getD [] ∧
    vrf f = (d.vrf <|> d.ipVrf).getD [] ∧
    manualMtu f = (d.mtu.map Int.ofNat).getD (-1) ∧
    manualIpMtu f = (d.ipMtu.map Int.ofNat).getD (-1) ∧
    isShutdown f = d.shutdown.isSome ∧
    ipv4Addr f = (d.addr.map (·.1)).getD [] ∧
    ipv4Netmask f = (d.addr.map (·.2)).getD [] ∧
    ipv4AddrObject f =
      (match d.addr with
       | none => .ok none
       | some (a, m) => (match ipv4obj a m with | some r => .ok (some r) | none => .error .ipError)) ∧
    portchannelNumber f = (d.channelGroup.map (fun c => Int.ofNat c.1)).getD (-1) ∧
    isInPortchannel f = d.channelGroup.isSome ∧
    isSwitchport f = .ok d.isSw ∧
    hasManualSwitchAccess f = decide (d.mode = some kAccess) ∧
    hasManualSwitchTrunk f = decide (d.mode = some kTrunk) ∧
    accessVlan f = .ok ((d.accessVlan.map Int.ofNat).getD (if d.isSw then 1 else -1)) ∧
    nativeVlan f = .ok ((d.nativeVlan.map Int.ofNat).getD (if d.isSw then 1 else -1)) :=
  ⟨description_stanza st hh, vrf_stanza st hh, manualMtu_stanza st hh, manualIpMtu_stanza st hh,
   isShutdown_stanza st hh, ipv4Addr_stanza st hh, ipv4Netmask_stanza st hh, ipv4AddrObject_stanza st hh,
   (portchannel_stanza st hh).1, (portchannel_stanza st hh).2, isSwitchport_stanza st hdr,
   (hasManualSwitch_stanza st hdr).1, (hasManualSwitch_stanza st hdr).2, accessVlan_stanza st hdr,
   nativeVlan_stanza st hdr⟩

/-- `ipv4_masklength` and `ipv4_addr_object` for a described address whose mask is a contiguous
netmask of length `l`: the object is `a/l`, the mask length `l`; without an address line the
mask length is `-1`. -/
theorem intf_masklength_roundtrip (d : Desc) (others kids : List Item) (hdr : Str)
    (st : Stanza d others kids) (hh : Header hdr) :
    (d.addr = none → ipv4Masklength (flatFam hdr kids) = .ok (-1)) ∧
    (∀ a m l, d.addr = some (a, m) → ipv4obj a m = some (a, l) →
      ipv4AddrObject (flatFam hdr kids) = .ok (some (a, l)) ∧
      ipv4Masklength (flatFam hdr kids) = .ok (Int.ofNat l)) := by
  have h := ipv4AddrObject_stanza st hh
  constructor
  · intro hn; unfold ipv4Masklength; rw [h, hn]
  · intro a m l ha ho
    unfold ipv4Masklength; rw [h, ha]; simp [ho]

/-- the name of a rendered interface line is its name words joined by single blanks, and the
line is served by `IOSIntfLine` (`is_object_for_interface`) -/
theorem header_roundtrip (nm : List Str) (h : ∀ w ∈ nm, Word w) :
    intfName (line [] (kInterface :: nm)) = join [' '] nm ∧
    isIntfLine (line [] (kInterface :: nm)) = true := by
  rw [intfName, isIntfLine, wordsOf, lex_header h, map_fst_toksOf]
  exact ⟨rfl, decide_eq_true rfl⟩

/-- **Route round trip.**  For every structured route (vrf?, prefix, mask, interface?, next
hop?, global?, distance?, name?, permanent | track?, tag?) with at least one of interface /
next hop, rendered with single blanks, the slot consumer that stands for `_RE_IP_ROUTE`
returns every described value and `None` for every absent slot … -/
theorem route_roundtrip (d : RouteDesc) (hv : d.Valid) (h : d.intf ≠ none ∨ d.nh ≠ none) :
    isRouteLine (line [] d.words) = true ∧
    routeParse (line [] d.words) = some d.expected :=
  ⟨isRouteLine_words d, routeParse_words d hv h⟩

/-- … hence the accessors return the described values and the documented defaults
(`''`, distance `1`, `False`; `global_next_hop` is `True` without a vrf). -/
theorem route_accessors_roundtrip (d : RouteDesc) (hv : d.Valid) (h : d.intf ≠ none ∨ d.nh ≠ none) :
    ∃ r, routeParse (line [] d.words) = some r ∧
      r.vrfName = d.vrf.getD [] ∧ r.network = d.pfx ∧ r.netmask = d.mask ∧
      r.nextHopInterface = d.intf.getD [] ∧ r.nextHopAddr = d.nh.getD [] ∧
      r.adminDistance = (d.ad.map Int.ofNat).getD 1 ∧ r.routeName = d.name.getD [] ∧
      r.trackingObjectName = (d.track.map toDec).getD [] ∧ r.tagText = (d.tag.map toDec).getD [] ∧
      r.permanent = d.permanent ∧ r.multicast = false ∧
      r.globalNextHop = (if (d.vrf.getD []).isEmpty then true else d.glob) := by
  refine ⟨d.expected, (route_roundtrip d hv h).2, ?_⟩
  obtain ⟨vrf, p, m, intf, nh, glob, ad, name, perm, track, tag⟩ := d
  refine ⟨rfl, rfl, rfl, rfl, rfl, ?_, rfl, rfl, rfl, ?_, rfl, ?_⟩
  · cases ad <;> simp [RouteDesc.expected, Route.adminDistance, digitsInt_toDec]
  · cases perm <;> rfl
  · cases vrf <;> cases glob <;> simp [RouteDesc.expected, Route.globalNextHop, Route.vrfName]

/-- **F25 witness** (why the hypothesis `intf ≠ none ∨ nh ≠ none` is there): with neither, the
keyword after the mask is taken as the interface and the name is lost. -/
theorem route_f25_witness :
    (routeParse "ip route 10.0.0.0 255.0.0.0 name foo".toList).map
      (fun r => (r.nextHopInterface, r.routeName)) = some ("name".toList, []) := by
  simp only [toList_lit]
  decide +kernel

/-- **The family the accessors read is the family of the parsed stanza** (`stanza_family`).
Header `interface <name words>` at column 0 (and `i` no comment delimiter), every child the
rendering of a valid item at indent 1, no banner start among the lines, blank lines kept:
`Ccp.Tree.parse` gives the header exactly those children, none of them has children, and the
record built from C05's order (`Ccp.Typed.order`, `Ccp.C05.order_spec`) is `flatFam`. -/
theorem stanza_family (cfg : Cfg) (nm : List Str) (kids : List Item) (hv : ∀ it ∈ kids, it.Valid)
    (hd : cfg.delims.contains 'i' = false) (hi : cfg.ignoreBlank = false)
    (hb : ∀ x ∈ line [] (kInterface :: nm) :: kids.map Item.render, isBannerStart x = false) :
    famOf (parse cfg (line [] (kInterface :: nm) :: kids.map Item.render)) 0 =
      flatFam (line [] (kInterface :: nm)) kids :=
  Ios.stanza_family cfg nm kids hv hd hi hb

/-- **`intf_accessors_roundtrip` on the parsed config**: the same statement about
`famOf (Ccp.Tree.parse cfg (header :: rendered children)) 0`, the family of line 0 of the tree
the model builds from the stanza's text. -/
theorem intf_accessors_on_parse (cfg : Cfg) (d : Desc) (others kids : List Item) (nm : List Str)
    (st : Stanza d others kids) (hnm : ∀ w ∈ nm, Word w)
    (hd : cfg.delims.contains 'i' = false) (hi : cfg.ignoreBlank = false)
    (hb : ∀ x ∈ line [] (kInterface :: nm) :: kids.map Item.render, isBannerStart x = false) :
    let f := famOf (parse cfg (line [] (kInterface :: nm) :: kids.map Item.render)) 0
    description f = (d.descr.map (join [' '])).getD [] ∧
    vrf f = (d.vrf <|> d.ipVrf).getD [] ∧
    manualMtu f = (d.mtu.map Int.ofNat).getD (-1) ∧
    manualIpMtu f = (d.ipMtu.map Int.ofNat).getD (-1) ∧
    isShutdown f = d.shutdown.isSome ∧
    ipv4Addr f = (d.addr.map (·.1)).getD [] ∧
    ipv4Netmask f = (d.addr.map (·.2)).getD [] ∧
    ipv4AddrObject f =
      (match d.addr with
       | none => .ok none
       | some (a, m) => (match ipv4obj a m with | some r => .ok (some r) | none => .error .ipError)) ∧
    portchannelNumber f = (d.channelGroup.map (fun c => Int.ofNat c.1)).getD (-1) ∧
    isInPortchannel f = d.channelGroup.isSome ∧
    isSwitchport f = .ok d.isSw ∧
    hasManualSwitchAccess f = decide (d.mode = some kAccess) ∧
    hasManualSwitchTrunk f = decide (d.mode = some kTrunk) ∧
    accessVlan f = .ok ((d.accessVlan.map Int.ofNat).getD (if d.isSw then 1 else -1)) ∧
    nativeVlan f = .ok ((d.nativeVlan.map Int.ofNat).getD (if d.isSw then 1 else -1)) := by
  intro f
  have hf : f = flatFam (line [] (kInterface :: nm)) kids := Ios.stanza_family cfg nm kids st.valid hd hi hb
  rw [hf]
  exact intf_accessors_roundtrip d others kids _ st ⟨nm, hnm, rfl⟩

/-- **Secondary addresses**: when every described secondary is a canonical address with a
contiguous netmask, the loop of `ip_secondary_addresses` / `ip_secondary_networks` collects
exactly the described (address, prefix length) pairs (a permutation of them; the Python result
is their set). -/
theorem secondaries_roundtrip (d : Desc) (others kids : List Item) (hdr : Str) (st : Stanza d others kids)
    (hok : ∀ p ∈ d.secondaries, (ipv4obj p.1 p.2).isSome = true) :
    ∃ L, secondaries (flatFam hdr kids) = .ok L ∧
      L.Perm (d.secondaries.filterMap (fun p => ipv4obj p.1 p.2)) ∧
      ∀ x, x ∈ L ↔ ∃ p ∈ d.secondaries, ipv4obj p.1 p.2 = some x := by
  have hk : ∀ it ∈ kids, ∀ p, specSecondary it = some p → (ipv4obj p.1 p.2).isSome = true := by
    intro it hit p hs
    have h1 : p ∈ kids.filterMap specSecondary := List.mem_filterMap.mpr ⟨_, hit, hs⟩
    rw [(st.perm.filterMap specSecondary).mem_iff, items_secondary st.unrelated] at h1
    exact hok _ h1
  refine ⟨kids.filterMap secSpec, secondaries_flat hdr kids st.valid hk, ?_, ?_⟩
  · rw [← items_secSpec st.unrelated]; exact st.perm.filterMap secSpec
  · intro x
    rw [(st.perm.filterMap secSpec).mem_iff, items_secSpec st.unrelated, List.mem_filterMap]

/-- **`trunk_vlans_allowed`** (word after `allowed vlan`: `all`, `none`, or parts `lo` / `lo-hi`
joined by commas).  Not a switchport or `switchport mode access`: empty.  Otherwise no line or
`all`: `1 … 4094`; `none`: empty; a list: the sorted union of its parts, read through C14's
`Ccp.Range.parse` (`Ccp.C14.parse_written_parts`). -/
theorem trunk_vlans_roundtrip (d : Desc) (others kids : List Item) (hdr : Str) (st : Stanza d others kids)
    (hw : ∀ v, d.allowed = some v → AllowedWord v) :
    (d.isSw = false ∨ d.mode = some kAccess → trunkVlansAllowed (flatFam hdr kids) = .ok []) ∧
    (d.isSw = true → d.mode ≠ some kAccess →
      (d.allowed = none ∨ d.allowed = some kAll → trunkVlansAllowed (flatFam hdr kids) = .ok (Range.upto 1 4094)) ∧
      (d.allowed = some kNone → trunkVlansAllowed (flatFam hdr kids) = .ok []) ∧
      (∀ ps, ps ≠ [] → d.allowed = some (Range.renderParts ps) →
        trunkVlansAllowed (flatFam hdr kids) = .ok (Range.sortedSet (ps.flatMap Range.expandPart)))) := by
  have hgo : trunkVlansAllowed (flatFam hdr kids) =
      if d.isSw && !decide (d.mode = some kAccess) then
        applyVDict ((d.allowed.map vdAfter).getD vd0) else .ok [] := by
    rw [trunkVlansAllowed, isSwitchport_stanza st hdr, (hasManualSwitch_stanza st hdr).1]
    show (if _ then applyVDict ((kids.map Item.render).foldl vdictStep vd0) else _) = _
    rw [foldl_vdict_stanza st hw]
  rw [hgo]
  constructor
  · rintro (h | h) <;> simp [h]
  · intro h1 h2
    simp only [h1, h2, decide_false, Bool.not_false, Bool.and_self, if_true]
    refine ⟨?_, ?_, ?_⟩
    · rintro (h | h) <;> rw [h]
      · exact applyVDict_vd0
      · exact (congrArg applyVDict vdAfter_all).trans applyVDict_vd0
    · intro h; rw [h]; exact applyVDict_none
    · intro ps hne h; rw [h]; exact applyVDict_list ps hne

/-- **`port_type`** of `interface <prefix><rest>`: the prefix, for a non-empty run of letters and
hyphens followed by something that starts with neither (the number). -/
theorem port_type_roundtrip (p rest : Str) (hp : p ≠ []) (hpc : ∀ c ∈ p, isAlphaHyphen c = true)
    (hr : ∀ c, rest.head? = some c → isAlphaHyphen c = false) :
    portType (kInterface ++ ' ' :: p ++ rest) = p := by
  obtain ⟨c, p', rfl⟩ := List.exists_cons_of_ne_nil hp
  rw [portType, List.append_assoc, List.cons_append, List.cons_append,
    afterInterface_hdr c _ (alphaHyphen_not_space c (hpc c (by simp)))]
  exact (takeWhile_append_stop _ (c :: p') rest hpc hr).1

/-- **`ordinal_list`** of `interface <name>` for a one-word name: (slot, card, port, subinterface,
channel, -1) as C15's parser reads them, `-1` for an absent component; with
`Ccp.C15.name_roundtrip`, for every well-formed description without class word these are the
described components (the rendering has no whitespace — hypothesis `Word s`). -/
theorem ordinal_list_roundtrip (d : Intf.Intf) (h : C15.WellFormed d) :
    ∃ s, Intf.render d = .ok s ∧
      (Word s → ordinalList (line [] [kInterface, s]) =
        some [optI d.slot, optI d.card, Int.ofNat d.port, optI d.sub, optI d.chan, -1]) := by
  obtain ⟨s, hr, hp⟩ := C15.name_roundtrip d h
  refine ⟨s, hr, fun hs => ?_⟩
  obtain ⟨c, r, rfl⟩ := List.exists_cons_of_ne_nil hs.1
  have hw : wordsOf (line [] [kInterface, c :: r]) = [kInterface, c :: r] := by
    rw [wordsOf, lex_header fun w hw => List.mem_singleton.1 hw ▸ hs, map_fst_toksOf]
  have hl : line [] [kInterface, c :: r] = kInterface ++ ' ' :: c :: r := by simp [line, join]
  rw [ordinalList, hw, hl, isIntf_hdr c r (hs.2 c (by simp))]
  simp [hp]

/-- **`subinterface_number`** of `interface <prefix><digits><more>[ <class words>]`: the whole
number word `digits ++ more` (`2/0.100`, `1/0:3.7`).  `TailOk tl`: nothing, or one blank and
words separated by single blanks (what `(\s\S+)*\s*$` accepts). -/
theorem subinterface_number_roundtrip (p ds more tl : Str) (hp : p ≠ []) (hpc : ∀ c ∈ p, isAlphaHyphen c = true)
    (hds : ds ≠ []) (hdd : ∀ c ∈ ds, isDigit c = true)
    (hm : ∀ c ∈ more, isSpace c = false) (hmh : ∀ c, more.head? = some c → isDigit c = false)
    (ht : TailOk tl) :
    subinterfaceNumber (kInterface ++ ' ' :: p ++ (ds ++ more ++ tl)) = some (ds ++ more) := by
  have hstop : ∀ x, (more ++ tl).head? = some x → isDigit x = false := by
    cases more with
    | nil => exact tailOk_head tl ht
    | cons m ms => exact fun x hx => hmh x hx
  have hd := takeWhile_append_stop _ ds _ hdd hstop
  obtain ⟨hint, hnp⟩ := numberPart_hdr p ds (more ++ tl) hp hpc hds hdd
  rw [List.append_assoc ds, subinterfaceNumber, hint, hnp]
  simp only [hd.1, hd.2, lazySub_all more hm tl ht]

/-- **`interface_number`** of `interface <prefix><digits><mid>[.<sub>][ <class words>]`: the number
word without the trailing subinterface (`2/0` for `2/0.100`, `1/0:3` for `1/0:3.7`); `mid` has
no whitespace and no dot. -/
theorem interface_number_roundtrip (p ds mid tl : Str) (sub : Option Str) (hp : p ≠ [])
    (hpc : ∀ c ∈ p, isAlphaHyphen c = true) (hds : ds ≠ []) (hdd : ∀ c ∈ ds, isDigit c = true)
    (hm : ∀ c ∈ mid, isSpace c = false ∧ c ≠ '.') (hmh : ∀ c, mid.head? = some c → isDigit c = false)
    (hs : ∀ s, sub = some s → s ≠ [] ∧ ∀ c ∈ s, isDigit c = true) (ht : TailOk tl) :
    interfaceNumber (kInterface ++ ' ' :: p ++ (ds ++ (mid ++ (dotSub sub ++ tl)))) = some (ds ++ mid) := by
  have hstop : ∀ x, (mid ++ (dotSub sub ++ tl)).head? = some x → isDigit x = false := by
    cases mid with
    | cons m ms => exact fun x hx => hmh x hx
    | nil =>
      cases sub with
      | some s => intro x hx; cases hx; decide
      | none => exact tailOk_head tl ht
  have hrem : (dotSub sub ++ tl) = [] ∨ tail1 (dotSub sub ++ tl).length (dotSub sub ++ tl) = true := by
    cases h : dotSub sub ++ tl with
    | nil => exact .inl rfl
    | cons a b => exact .inr (h ▸ tail1_dotSub _ sub tl ht hs (by rw [h]; simp))
  have hd := takeWhile_append_stop _ ds _ hdd hstop
  obtain ⟨hint, hnp⟩ := numberPart_hdr p ds (mid ++ (dotSub sub ++ tl)) hp hpc hds hdd
  rw [interfaceNumber, hint, hnp]
  simp only [hd.1, hd.2, lazyNum_mid mid _ hm hrem]

-- non-vacuity: ` point-to-point` is an accepted tail, two blanks between class words are not
example : TailOk " point-to-point".toList ∧ ¬ TailOk " a  b".toList := by
  refine ⟨Or.inr ⟨⟨_, rfl⟩, by decide +kernel⟩, ?_⟩
  rintro (h | ⟨_, h⟩)
  · cases h
  · revert h; decide +kernel

/-- **Factory transparency** (model level): the texts, parent links and hence the derived child
lists of a parse are a function of the syntax flag, the comment delimiters, `ignore_blank_lines`
and the lines — the tree builder has no class / factory input.  Whether the real factory accepts
a config (a typed constructor may raise) and that it then links the same texts is outside the
model and is measured by the correspondence run. -/
theorem factory_transparent (cfg : Cfg) (ls : List Str) :
    treeOf true cfg ls = treeOf false cfg ls ∧
    (treeOf true cfg ls).texts = (parse cfg ls).texts ∧
    (treeOf true cfg ls).parents = (parse cfg ls).parents ∧
    ∀ p, children (treeOf true cfg ls) p = children (treeOf false cfg ls) p :=
  ⟨rfl, rfl, rfl, fun _ => rfl⟩

/-- **`port`** of `interface <name>` (one-word name): the described port number — the third component of
`ordinal_list_roundtrip` -/
theorem port_roundtrip (d : Intf.Intf) (h : C15.WellFormed d) :
    ∃ s, Intf.render d = .ok s ∧ (Word s → port (line [] [kInterface, s]) = some (Int.ofNat d.port)) := by
  obtain ⟨s, hr, ho⟩ := ordinal_list_roundtrip d h
  refine ⟨s, hr, fun hs => ?_⟩
  unfold port
  rw [ho hs]

/-- **`nexthop_str`, `address_family`** of a described route: the interface and the next hop joined by one blank
(the blank stays when there is no next-hop address), or the bare next hop; the family is `ip`; `nexthop_vrf` and
`unicast` raise (ValueError / NotImplementedError) for every `ip route` object -/
theorem route_nexthop_str_roundtrip (d : RouteDesc) (hv : d.Valid) (h : d.intf ≠ none ∨ d.nh ≠ none) :
    ∃ r, routeParse (line [] d.words) = some r ∧
      r.addressFamily = "ip".toList ∧
      r.nexthopStr = (match d.intf with
        | some i => i ++ ' ' :: d.nh.getD []
        | none => d.nh.getD []) ∧
      r.nexthopVrf = .error .valueError ∧ r.unicast = .error .notImplementedError := by
  refine ⟨d.expected, (route_roundtrip d hv h).2, rfl, ?_, rfl, rfl⟩
  obtain ⟨hvrf, hp, hps, hm, hintf, hnh, hname, hpt⟩ := hv
  obtain ⟨vrf, p, m, intf, nh, glob, ad, name, perm, track, tag⟩ := d
  cases intf with
  | none => simp [Route.nexthopStr, Route.nextHopInterface, Route.nextHopAddr, RouteDesc.expected]
  | some i =>
    have hi := hintf i rfl
    have hne : i ≠ [] := by
      intro e; subst e
      exact absurd hi (by unfold IntfWord; simp [Word])
    simp [Route.nexthopStr, Route.nextHopInterface, Route.nextHopAddr, RouteDesc.expected, hne]

open Ccp.Factory in
/-- **What `config_line_factory` accepts** (its argument checks, in source order, `Ccp.Factory.argCheck`): the class
walk is reached iff `all_lines` is a list, `line` a str, `comment_delimiters` None or a list, `debug` an int and
`syntax` one of `ALL_VALID_SYNTAX` (regenerated table) -/
theorem factory_guard_spec (a : Args) :
    argCheck a = none ↔
      (a.allLinesIsList = true ∧ a.lineIsStr = true ∧ a.delims ≠ some false ∧ a.debugIsInt = true ∧
       validSyntax a.syn = true) := by
  obtain ⟨al, ln, ds, syn, dbg⟩ := a
  -- `syntax` enters only through `validSyntax syn` and `syn.isNone`, and a non-`str` is not valid: the rest is a
  -- finite check over Booleans
  have hs : syn.isNone = true → validSyntax syn = false := fun h => by
    cases syn
    · rfl
    · cases h
  simp only [argCheck]
  generalize validSyntax syn = v at hs ⊢
  generalize syn.isNone = n at hs ⊢
  rcases ds with _ | _ | _ <;> revert al ln dbg v n <;> decide

/-! ## non-vacuity

The closed instances below are evaluated by the kernel; `simp only [toList_lit]` first writes the string literals
out as character lists (`Ccp.Py.toList_lit`), which the kernel would otherwise decode byte by byte. -/

def exCfg : Cfg := { ios := true, delims := ['!'], ignoreBlank := false }

def exDesc : Desc :=
  { descr := some ["to".toList, "core".toList], addr := some ("10.0.0.1".toList, "255.255.255.0".toList),
    addrKw := none, secondaries := [("10.0.1.1".toList, "255.255.255.0".toList)], vrf := some "BLUE".toList,
    ipVrf := none, mtu := some 1500, ipMtu := none, shutdown := some "shutdown".toList, switchport := false,
    mode := none, accessVlan := some 10, nativeVlan := none, allowed := none, channelGroup := some (5, ["mode".toList, "on".toList]) }

def exKids : List Item :=
  [.other ["no".toList, "cdp".toList], .other ["ip".toList, "ospf".toList, "cost".toList, "10".toList], .secondary "10.0.1.1".toList "255.255.255.0".toList, .mtu 1500,
   .channelGroup 5 ["mode".toList, "on".toList], .descr ["to".toList, "core".toList], .accessVlan 10,
   .shutdown "shutdown".toList, .addr "10.0.0.1".toList "255.255.255.0".toList, .vrf "BLUE".toList]

def exHdr : Str := "interface GigabitEthernet0/1".toList

-- the children above are a permutation of the description's lines plus two unrelated lines
example : exKids.Perm (exDesc.items ++ [.other ["no".toList, "cdp".toList],
    .other ["ip".toList, "ospf".toList, "cost".toList, "10".toList]]) := by
  unfold exKids exDesc
  simp only [toList_lit]
  decide +kernel
example : (exKids.map Item.render).take 3 =
    [" no cdp".toList, " ip ospf cost 10".toList, " ip address 10.0.1.1 255.255.255.0 secondary".toList] := by
  unfold exKids
  simp only [toList_lit]
  decide +kernel
-- the model's accessors on the rendered stanza (computed, not via the theorem)
example : manualMtu (flatFam exHdr exKids) = 1500 ∧ description (flatFam exHdr exKids) = "to core".toList ∧
    vrf (flatFam exHdr exKids) = "BLUE".toList ∧ ipv4Addr (flatFam exHdr exKids) = "10.0.0.1".toList ∧
    (ipv4Masklength (flatFam exHdr exKids)).toOption = some 24 ∧ (accessVlan (flatFam exHdr exKids)).toOption = some 10 ∧
    (nativeVlan (flatFam exHdr exKids)).toOption = some 1 ∧ portchannelNumber (flatFam exHdr exKids) = 5 ∧
    isShutdown (flatFam exHdr exKids) = true ∧ manualIpMtu (flatFam exHdr exKids) = -1 := by
  unfold exHdr exKids
  simp only [toList_lit]
  decide +kernel
-- the tree builder puts exactly these children under the interface line: `flatFam` is what
-- C05's order yields on the parsed stanza
theorem stanza_family_example :
    famOf (parse exCfg (exHdr :: exKids.map Item.render)) 0 = flatFam exHdr exKids := by
  unfold exHdr exKids
  simp only [toList_lit]
  decide +kernel
-- trunk_vlans_allowed / secondaries / ordinal_list on concrete inputs
example : AllowedWord "1-3,7".toList := by
  have : "1-3,7".toList = Range.renderParts [(1, some 3), (7, none)] := by decide +kernel
  rw [this]; exact AllowedWord.list _ (by simp)
example : (secondaries (flatFam exHdr exKids)).toOption = some [("10.0.1.1".toList, 24)] := by
  unfold exHdr exKids
  simp only [toList_lit]
  decide +kernel
example : ordinalList "interface Serial4/1/2.9:5".toList = some [4, 1, 2, 9, 5, -1] ∧
    portType "interface Serial4/1/2.9:5".toList = "Serial".toList ∧
    interfaceNumber "interface ATM2/0.100 point-to-point".toList = some "2/0".toList ∧
    subinterfaceNumber "interface ATM2/0.100 point-to-point".toList = some "2/0.100".toList := by
  simp only [toList_lit]
  decide +kernel
example : maskLen "255.255.255.0".toList = some 24 ∧ maskLen "0.0.0.0".toList = some 0 ∧
    maskLen "255.255.255.255".toList = some 32 ∧ maskLen "255.0.255.0".toList = none := by decide +kernel

def exRoute : RouteDesc :=
  { vrf := some "X".toList, pfx := "10.0.0.0".toList, mask := "255.0.0.0".toList, intf := some "GigabitEthernet0/1".toList,
    nh := some "1.1.1.1".toList, glob := false, ad := some 200, name := some "foo".toList, permanent := false,
    track := some 3, tag := none }
example : line [] exRoute.words = "ip route vrf X 10.0.0.0 255.0.0.0 GigabitEthernet0/1 1.1.1.1 200 name foo track 3".toList := by
  unfold exRoute
  simp only [toList_lit]
  decide +kernel
example : exRoute.intf ≠ none ∨ exRoute.nh ≠ none := Or.inl (by decide +kernel)
example : (routeParse (line [] exRoute.words)).map (fun r => (r.adminDistance, r.routeName, r.trackingObjectName)) =
    some (200, "foo".toList, "3".toList) := by
  unfold exRoute
  simp only [toList_lit]
  decide +kernel
-- the whitespace quirk the model mirrors: two blanks before the next hop make it the "interface"
example : (routeParse "ip route 10.0.0.0 255.0.0.0  1.1.1.1".toList).map (fun r => (r.nextHopInterface, r.nextHopAddr)) =
    some (" 1.1.1.1".toList, []) := by
  simp only [toList_lit]
  decide +kernel

-- `port`, `address_family`, `nexthop_str` on concrete inputs
example : port "interface Serial4/1/2.9:5".toList = some 2 ∧ port " interface Gi0/1".toList = none := by
  simp only [toList_lit]
  decide +kernel
example : (routeParse (line [] exRoute.words)).map (fun r => (r.addressFamily, r.nexthopStr)) =
    some ("ip".toList, "GigabitEthernet0/1 1.1.1.1".toList) := by
  unfold exRoute
  simp only [toList_lit]
  decide +kernel
example : (routeParse "ip route 10.0.0.0 255.0.0.0 Null0".toList).map Route.nexthopStr = some "Null0 ".toList := by
  simp only [toList_lit]
  decide +kernel
-- `factory_guard_spec`: an accepted call and the three rejection classes
example : Factory.argCheck ⟨true, true, none, some "nxos".toList, true⟩ = none ∧
    Factory.argCheck ⟨true, true, none, some "foo".toList, true⟩ = some .notImplementedError ∧
    Factory.argCheck ⟨true, true, some true, some "foo".toList, true⟩ = some .valueError ∧
    Factory.argCheck ⟨true, false, some true, some "ios".toList, true⟩ = some .invalidParameters := by decide +kernel

end Ccp.C19
