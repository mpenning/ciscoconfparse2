import Ccp.Model.Range
/-! C14: the sorted duplicate-free list (`insertAsc`, `sortedSet`) and `upto` -/
namespace Ccp.Range

-- so that closed examples about `Except` values are decided by evaluation
deriving instance DecidableEq for Except

theorem mem_insertAsc (x y : Nat) (l : List Nat) : y ∈ insertAsc x l ↔ y = x ∨ y ∈ l := by
  induction l with
  | nil => simp [insertAsc]
  | cons a as ih =>
    unfold insertAsc
    split
    · simp
    · split
      · rename_i h; subst h; simp
      · simp only [List.mem_cons, ih]; exact or_left_comm

theorem insertAsc_sorted (x : Nat) (l : List Nat) (h : l.Pairwise (· < ·)) :
    (insertAsc x l).Pairwise (· < ·) := by
  induction l with
  | nil => simp [insertAsc]
  | cons a as ih =>
    have ha := List.pairwise_cons.mp h
    unfold insertAsc
    split
    · rename_i hx
      refine List.pairwise_cons.mpr ⟨fun b hb => ?_, h⟩
      rcases List.mem_cons.mp hb with rfl | hb
      · exact hx
      · exact Nat.lt_trans hx (ha.1 b hb)
    · split
      · exact h
      · rename_i h1 h2
        refine List.pairwise_cons.mpr ⟨fun b hb => ?_, ih ha.2⟩
        rcases (mem_insertAsc x b as).mp hb with rfl | hb
        · exact Nat.lt_of_le_of_ne (Nat.le_of_not_lt h1) (Ne.symm h2)
        · exact ha.1 b hb

theorem insertAsc_of_lt_all (x : Nat) (l : List Nat) (h : ∀ y ∈ l, x < y) :
    insertAsc x l = x :: l := by
  cases l with
  | nil => rfl
  | cons a as => simp [insertAsc, h a (by simp)]

theorem sortedSet_sorted (l : List Nat) : (sortedSet l).Pairwise (· < ·) := by
  induction l with
  | nil => simp [sortedSet]
  | cons a as ih => exact insertAsc_sorted a _ ih

theorem mem_sortedSet (l : List Nat) (y : Nat) : y ∈ sortedSet l ↔ y ∈ l := by
  induction l with
  | nil => simp [sortedSet]
  | cons a as ih =>
    show y ∈ insertAsc a (sortedSet as) ↔ _
    rw [mem_insertAsc, ih]; simp

theorem sortedSet_of_sorted (l : List Nat) (h : l.Pairwise (· < ·)) : sortedSet l = l := by
  induction l with
  | nil => rfl
  | cons a as ih =>
    have ha := List.pairwise_cons.mp h
    show insertAsc a (sortedSet as) = _
    rw [ih ha.2, insertAsc_of_lt_all a as ha.1]

theorem upto_eq_range' (lo hi : Nat) : upto lo hi = List.range' lo (hi + 1 - lo) := by
  rw [upto, List.range'_eq_map_range]; congr 1; funext a; exact Nat.add_comm a lo

theorem mem_upto (lo hi n : Nat) : n ∈ upto lo hi ↔ lo ≤ n ∧ n ≤ hi := by
  rw [upto_eq_range', List.mem_range'_1]; omega

theorem upto_cons (lo hi : Nat) (h : lo ≤ hi) : upto lo hi = lo :: upto (lo + 1) hi := by
  rw [upto_eq_range', upto_eq_range', Nat.add_sub_add_right, Nat.succ_sub h, List.range'_succ]

theorem upto_self (a : Nat) : upto a a = [a] := by simp [upto]

end Ccp.Range
