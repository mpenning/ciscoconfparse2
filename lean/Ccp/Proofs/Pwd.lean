import Ccp.Model.Pwd
import Ccp.Proofs.Py
/-! For C17, about `Ccp.Model.Pwd`: the reference key and alphabets are the generated tables; the type-7
decoder reads back what the reference encoder writes, pair by pair; the base-64 text of a key and the
`$k$salt$hash` layout of types 5, 8, 9. -/
namespace Ccp.Pwd
open Ccp.Py

/-- so that the concrete examples can be closed by `decide` -/
instance decEqExcept {ε α : Type} [DecidableEq ε] [DecidableEq α] : DecidableEq (Except ε α)
  | .ok a, .ok b => if h : a = b then isTrue (h ▸ rfl) else isFalse (fun e => h (Except.ok.inj e))
  | .error a, .error b => if h : a = b then isTrue (h ▸ rfl) else isFalse (fun e => h (Except.error.inj e))
  | .ok _, .error _ => isFalse (fun e => nomatch e)
  | .error _, .ok _ => isFalse (fun e => nomatch e)

/-- The model writes its reference key and alphabets as string literals.  Evaluating `"…".toList` makes the
kernel decode the literal byte by byte; against `String.ofList` of a character list it compares the
literal at once. -/
theorem codes_of_literal {s : String} {t : List Nat} (hs : s = String.ofList (t.map Char.ofNat))
    (ht : (t.map Char.ofNat).map Char.toNat = t) : s.toList.map Char.toNat = t := by
  rw [hs, String.toList_ofList, ht]

theorem xlatRef_eq : xlatRef = Gen.xlatImpl := codes_of_literal rfl (by decide +kernel)
theorem b64Rfc_eq : b64Rfc = Gen.stdB64 := codes_of_literal rfl (by decide +kernel)
theorem ciscoRef_eq : ciscoRef = Gen.ciscoB64 := codes_of_literal rfl (by decide +kernel)

theorem xlat_at (s : Nat) : Gen.xlatImpl[s % 53]? = some (keyRef s) ∧ keyRef s < 128 := by
  have hl : Gen.xlatImpl.length = 53 := rfl
  have hlt : Gen.xlatImpl.all (· < 128) = true := by decide
  have hi : s % 53 < Gen.xlatImpl.length := by omega
  rw [keyRef, xlatRef_eq, hl, List.getD_eq_getElem?_getD, List.getElem?_eq_getElem hi]
  exact ⟨rfl, by simpa using List.all_eq_true.mp hlt _ (List.getElem_mem hi)⟩

theorem hexDigitU_facts : ∀ d : Fin 16, isSpace (hexDigitU d) = false ∧ hexDigitU d ≠ '-' ∧ hexDigitU d ≠ '+' ∧
    notNl (hexDigitU d) = true ∧ digitValB 16 (hexDigitU d) = some d.val := by decide +kernel

/-- `int("%02X" % x, 16) == x` -/
theorem pyIntB_hex2 (x : Nat) (h : x < 256) : pyIntB 16 (hex2 x) = some (Int.ofNat x) := by
  obtain ⟨s1, m1, p1, _, v1⟩ := hexDigitU_facts ⟨x / 16 % 16, Nat.mod_lt _ (by decide)⟩
  obtain ⟨s2, _, _, _, v2⟩ := hexDigitU_facts ⟨x % 16, Nat.mod_lt _ (by decide)⟩
  have e : x / 16 % 16 * 16 + x % 16 = x := by omega
  unfold pyIntB
  rw [hex2, strip_noSpace _ (by simp [s1, s2])]
  split
  · rename_i h; exact absurd (List.cons.inj h).1 m1
  · rename_i h; exact absurd (List.cons.inj h).1 p1
  · simp [ofDigitsB, v1, v2, e]

theorem notNl_xorBody (p : Bytes) : ∀ s, ∀ c ∈ xorBody s p, notNl c = true := by
  induction p with
  | nil => intro s c h; simp [xorBody] at h
  | cons b bs ih =>
    intro s c h
    simp only [xorBody, hex2, List.cons_append, List.nil_append, List.mem_cons] at h
    rcases h with h | h | h
    · subst h; exact (hexDigitU_facts ⟨_, Nat.mod_lt _ (by decide)⟩).2.2.2.1
    · subst h; exact (hexDigitU_facts ⟨_, Nat.mod_lt _ (by decide)⟩).2.2.2.1
    · exact ih _ c h

theorem length_xorBody (p : Bytes) : ∀ s, (xorBody s p).length = 2 * p.length := by
  induction p with
  | nil => intro s; rfl
  | cons b bs ih => intro s; simp [xorBody, hex2, ih]; omega

theorem decPairs_xorBody (p : Bytes) : ∀ (s : Nat), (∀ b ∈ p, b < 256) →
    decPairs (Int.ofNat s) (xorBody s p) = .ok (p.map Char.ofNat) := by
  induction p with
  | nil => intro s _; simp [xorBody, decPairs]
  | cons b bs ih =>
    intro s hb
    obtain ⟨hb0, hbs⟩ := List.forall_mem_cons.mp hb
    obtain ⟨hk, hk128⟩ := xlat_at s
    have hx : b ^^^ keyRef s < 256 := Nat.xor_lt_two_pow (n := 8) hb0 (by omega)
    have hi := pyIntB_hex2 _ hx
    have hmod : (Int.ofNat s % (Gen.xlatModulus : Int)).toNat = s % 53 := by
      show ((s : Int) % ((53 : Nat) : Int)).toNat = s % 53
      omega
    have ih' := ih (s + 1) hbs
    have hs : Int.ofNat s + 1 = Int.ofNat (s + 1) := rfl
    simp only [hex2] at hi
    simp only [xorBody, hex2, List.cons_append, List.nil_append, decPairs, hi, hmod, hk, hs, ih',
      List.map_cons]
    -- what is left: `(b ^^^ k) ^^^ k = b`
    simp [Nat.xor_assoc]

/-- `"%02d" % n` is two digits that `int()` reads back -/
theorem dec2_shape (n : Nat) (h : n < 100) :
    ∃ a b, dec2 n = [a, b] ∧ notNl a = true ∧ notNl b = true ∧ pyInt [a, b] = some (Int.ofNat n) := by
  have h1 := isDigit_digitChar (n / 10) (by omega)
  have h2 := isDigit_digitChar (n % 10) (by omega)
  have e : n / 10 * 10 + n % 10 = n := by omega
  refine ⟨Nat.digitChar (n / 10), Nat.digitChar (n % 10), by simp [dec2, h], ?_, ?_, ?_⟩
  · simp [notNl, ne_of_isDigit _ '\n' h1 (by decide)]
  · simp [notNl, ne_of_isDigit _ '\n' h2 (by decide)]
  · unfold pyInt
    rw [strip_digits _ (by simp [h1, h2])]
    split
    · rename_i h; exact absurd ((List.cons.inj h).1 ▸ h1) (by decide)
    · rename_i h; exact absurd ((List.cons.inj h).1 ▸ h1) (by decide)
    · simp [ofDigits, ofDigitsAux, h1, h2, digitVal_digitChar _ (show n / 10 < 10 by omega),
        digitVal_digitChar _ (show n % 10 < 10 by omega), e]

theorem encodeUtf8_ascii (s : Str) (h : ∀ c ∈ s, c.toNat < 128) : encodeUtf8 s = s.map Char.toNat := by
  induction s with
  | nil => rfl
  | cons c cs ih =>
    obtain ⟨hc, hcs⟩ := List.forall_mem_cons.mp h
    simp only [encodeUtf8, List.flatMap_cons, List.map_cons] at ih ⊢
    rw [ih hcs]
    simp [utf8, hc]

/-- `str.maketrans(std_b64chars, cisco_b64chars)` sends the i-th standard symbol to the i-th Cisco symbol -/
theorem b64_translate : Gen.stdB64.map (fun n => (translate (Char.ofNat n)).toNat) = Gen.ciscoB64 := by
  decide +kernel

theorem inj_of_nodup_map {α β} {f : α → β} {l : List α} (h : (l.map f).Nodup) :
    ∀ a ∈ l, ∀ b ∈ l, f a = f b → a = b :=
  have hp : l.Pairwise (fun a b => f a ≠ f b) := List.pairwise_map.mp h
  fun _ ha _ hb => List.Pairwise.forall_of_forall_of_flip (R := fun x y => f x = f y → x = y)
    (fun _ _ _ => rfl) (hp.imp fun hne e => absurd e hne) (hp.imp fun hne e => absurd e.symm hne) ha hb

theorem cisco_b64Char (i : Nat) : isCiscoChar (translate (b64Char i)) = true := by
  have hi : i % 64 < Gen.stdB64.length := Nat.mod_lt _ (by decide)
  rw [b64Char, b64Rfc_eq, List.getD_eq_getElem?_getD, List.getElem?_eq_getElem hi, Option.getD_some,
    isCiscoChar, ← b64_translate, List.contains_iff_mem]
  exact List.mem_map.mpr ⟨_, List.getElem_mem hi, rfl⟩

/-- four symbols for three bytes, three for the last two, then one `=` -/
theorem b64Encode_shape (raw : Bytes) (h : raw.length % 3 = 2) :
    ∃ idx : List Nat, b64Encode raw = idx.map b64Char ++ ['='] ∧ 3 * idx.length = 4 * raw.length + 1 := by
  fun_induction b64Encode raw with
  | case1 => simp at h
  | case2 a => simp at h
  | case3 a b => exact ⟨[_, _, _], rfl, rfl⟩
  | case4 a b c rest ih =>
    obtain ⟨idx, hb, hl⟩ := ih (by simp only [List.length_cons] at h; omega)
    exact ⟨_ :: _ :: _ :: _ :: idx, by rw [hb]; rfl, by simp only [List.length_cons]; omega⟩

theorem ciscoHash_shape (raw : Bytes) (h : raw.length % 3 = 2) :
    3 * (ciscoHash raw).length = 4 * raw.length + 1 ∧ ∀ c ∈ ciscoHash raw, isCiscoChar c = true := by
  obtain ⟨idx, hb, hl⟩ := b64Encode_shape raw h
  have : ciscoHash raw = (idx.map b64Char).map translate := by
    rw [ciscoHash, hb, List.map_append, List.map_singleton, List.dropLast_concat]
  rw [this]
  refine ⟨by rw [List.length_map, List.length_map]; exact hl, fun c hc => ?_⟩
  obtain ⟨x, hx, hc⟩ := List.mem_map.mp hc
  obtain ⟨i, _, hi⟩ := List.mem_map.mp hx
  rw [← hc, ← hi]; exact cisco_b64Char i

theorem no_dollar (s : Str) (h : ∀ c ∈ s, isCiscoChar c = true) : '$' ∉ s :=
  fun hm => absurd (h _ hm) (by decide)

theorem fmt_split (k salt h : Str) (hk : '$' ∉ k) (hs : ∀ c ∈ salt, isCiscoChar c = true)
    (hh : ∀ c ∈ h, isCiscoChar c = true) : splitOn '$' (fmt k salt h) = [[], k, salt, h] := by
  have e : fmt k salt h = [] ++ '$' :: (k ++ '$' :: (salt ++ '$' :: h)) := by simp [fmt]
  rw [e, splitOn_append _ _ _ (by simp), splitOn_append _ _ _ hk, splitOn_append _ _ _ (no_dollar _ hs),
    splitOn_not_mem _ _ (no_dollar _ hh)]

/-- types 8 and 9: a 32-byte key is 43 symbols of the Cisco alphabet -/
theorem hash_layout (k salt : Str) (raw : Bytes) (hraw : raw.length = 32) (hk : '$' ∉ k)
    (hs : ∀ c ∈ salt, isCiscoChar c = true) :
    (ciscoHash raw).length = 43 ∧ (∀ c ∈ ciscoHash raw, isCiscoChar c = true) ∧
      splitOn '$' (fmt k salt (ciscoHash raw)) = [[], k, salt, ciscoHash raw] := by
  obtain ⟨hl, hc⟩ := ciscoHash_shape raw (by rw [hraw])
  exact ⟨by omega, hc, fmt_split k salt _ hk hs hc⟩

end Ccp.Pwd
