import Ccp.Model.TypedX
import Ccp.Proofs.Typed
import Ccp.Proofs.Py
/-!
The typed-default extension of C05 (`Ccp.Model.TypedX`): the extended helpers are the
first-match loops of `Ccp.Model.Typed` followed by the extended default; on the old defaults they are the old
helpers; `str(default)` tells the types apart.
-/
namespace Ccp.TypedX
open Ccp.Py Ccp.Tree Ccp.Typed

theorem iterX_eq_firstLoop (x : CtxX) (i : Nat) (ty : Ty) (d : ArgX) (u r : Bool) :
    reMatchIterTypedX x i ty d u r =
      match firstLoop x.c ty (order x.t i r) with
      | some v => liftV v
      | none => typedDefaultX x ty d u := by
  unfold reMatchIterTypedX order
  rw [firstLoop]
  cases matched (x.c.at i)
  · cases r <;> rfl
  · rfl

theorem rootX_eq_firstLoop (x : CtxX) (ty : Ty) (d : ArgX) (u : Bool) :
    rootIterTypedX x ty d u =
      match firstLoop x.c ty (roots x.t) with
      | some v => liftV v
      | none => typedDefaultX x ty d u := by
  unfold rootIterTypedX roots
  rw [rootLoop_eq]
  rfl

theorem convX_base (ipx : ArgX → Except Err Str) (ty : Ty) (a : Arg) :
    convX ipx ty (.base a) = liftV (conv (fun b => ipx (.base b)) ty a) := by
  cases ty <;> rfl

theorem typedDefaultX_base (x : CtxX) (ty : Ty) (a : Arg) (u : Bool) :
    typedDefaultX x ty (.base a) u = liftV (typedDefault x.c ty a u) := by
  unfold typedDefaultX typedDefault
  cases u
  · simp only [Bool.false_eq_true, if_false]; exact convX_base x.ipx ty a
  · rfl

/-- "the first match, else the default" commutes with the embedding of the old values -/
theorem liftV_orDefault (o : Option (Except Err Val)) (x : CtxX) (ty : Ty) (a : Arg) (u : Bool) :
    (match o with | some v => liftV v | none => typedDefaultX x ty (.base a) u) =
      liftV (match o with | some v => v | none => typedDefault x.c ty a u) := by
  cases o
  · exact typedDefaultX_base x ty a u
  · rfl

theorem floatRepr_has_point (neg : Bool) (ip : Nat) (frac : Str) : '.' ∈ floatRepr neg ip frac := by
  simp [floatRepr]

theorem floatRepr_head (neg : Bool) (ip : Nat) (frac : Str) :
    ∃ c cs, floatRepr neg ip frac = c :: cs ∧ (c = '-' ∨ isDigit c = true) := by
  cases neg
  · obtain ⟨c, cs, hd, hc⟩ := toDec_cons ip
    exact ⟨c, cs ++ '.' :: frac, by simp [floatRepr, hd], Or.inr hc⟩
  · exact ⟨'-', toDec ip ++ '.' :: frac, by simp [floatRepr], Or.inl rfl⟩

/-- `str(True)`, `str(False)` start with a letter -/
theorem boolStr_ne (b : Bool) {s : Str} (h : ∃ c cs, s = c :: cs ∧ (c = '-' ∨ isDigit c = true)) :
    pyStrX (.bool b) ≠ s := by
  obtain ⟨c, cs, rfl, hd⟩ := h
  cases b <;> (intro e; injection e with e1; subst e1; revert hd; decide)

end Ccp.TypedX
