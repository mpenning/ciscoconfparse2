import Ccp.Model.IPValX
import Ccp.Proofs.IPValCollapse
/-!
The operands at the edge of the value model (`Ccp.Model.IPValX`): a list of items is read item by item
until one is neither object nor network (`ipNets_append`), families are compared pairwise
(`sameVersion_*`), and on objects / networks of one family `collapseX` is `collapseNets`
(`collapseX_good`).
-/
namespace Ccp.IPValX
open Ccp.IPVal

instance {α : Type} [DecidableEq α] : DecidableEq (Except XErr α) := fun a b =>
  match a, b with
  | .ok x, .ok y => if h : x = y then isTrue (by rw [h]) else isFalse (by intro e; cases e; exact h rfl)
  | .error x, .error y => if h : x = y then isTrue (by rw [h]) else isFalse (by intro e; cases e; exact h rfl)
  | .ok _, .error _ => isFalse (by intro e; cases e)
  | .error _, .ok _ => isFalse (by intro e; cases e)

instance {α : Type} [DecidableEq α] : DecidableEq (Except SErr α) := fun a b =>
  match a, b with
  | .ok x, .ok y => if h : x = y then isTrue (by rw [h]) else isFalse (by intro e; cases e; exact h rfl)
  | .error x, .error y => if h : x = y then isTrue (by rw [h]) else isFalse (by intro e; cases e; exact h rfl)
  | .ok _, .error _ => isFalse (by intro e; cases e)
  | .error _, .ok _ => isFalse (by intro e; cases e)

theorem objOf_eq_some {a : Arg} {x : Obj} (h : objOf a = some x) : a = .obj4 x ∨ a = .obj6 x := by
  cases a with
  | obj4 _ => exact .inl (congrArg _ (Option.some.inj h))
  | obj6 _ => exact .inr (congrArg _ (Option.some.inj h))
  | _ => cases h

/-- an item that is an object or a network (not the empty object, nothing of another type) -/
def GoodItem : Item → Prop
  | .obj _ _ => True
  | .net _ _ => True
  | _ => False

/-- the `(family, network)` an object / network item stands for -/
def itemNet : Item → Nat × Net
  | .obj fam x => (fam, network x)
  | .net fam n => (fam, n)
  | _ => (0, (0, 0))

theorem ipNet_good (i : Item) (h : GoodItem i) : ipNet i = .ok (itemNet i) := by
  cases i <;> simp_all [GoodItem, ipNet, itemNet]

theorem ipNets_append (pre rest : List Item) (hp : ∀ i ∈ pre, GoodItem i) :
    ipNets (pre ++ rest) = (ipNets rest).map (pre.map itemNet ++ ·) := by
  induction pre with
  | nil => rw [List.nil_append]; cases ipNets rest <;> rfl
  | cons i is ih =>
    rw [List.cons_append, ipNets, ipNet_good i (hp i (List.mem_cons_self ..)),
      ih fun j hj => hp j (List.mem_cons_of_mem _ hj)]
    cases ipNets rest <;> rfl

theorem ipNets_good (items : List Item) (hg : ∀ i ∈ items, GoodItem i) :
    ipNets items = .ok (items.map itemNet) := by
  have := ipNets_append items [] hg
  rwa [List.append_nil, show ipNets [] = .ok [] from rfl, Except.map, List.append_nil] at this

theorem ipNets_first_bad (pre : List Item) (b : Item) (post : List Item) (hp : ∀ i ∈ pre, GoodItem i)
    (e : XErr) (hb : ipNet b = .error e) : ipNets (pre ++ b :: post) = .error e := by
  rw [ipNets_append pre _ hp, ipNets, hb]
  rfl

theorem sameVersion_const (fam : Nat) (l : List (Nat × Net)) (h : ∀ p ∈ l, p.1 = fam) :
    sameVersion l = true := by
  induction l with
  | nil => rfl
  | cons a l ih =>
    cases l with
    | nil => rfl
    | cons b rest =>
      rw [sameVersion, h a (List.mem_cons_self ..), h b (List.mem_cons_of_mem _ (List.mem_cons_self ..)),
        beq_self_eq_true, Bool.true_and]
      exact ih fun p hp => h p (List.mem_cons_of_mem _ hp)

theorem sameVersion_tail (p : Nat × Net) (l : List (Nat × Net)) (h : sameVersion (p :: l) = true) :
    sameVersion l = true := by
  cases l with
  | nil => rfl
  | cons a l => exact ((Bool.and_eq_true _ _).mp h).2

theorem sameVersion_adjacent (pre : List (Nat × Net)) (a b : Nat × Net) (post : List (Nat × Net))
    (h : a.1 ≠ b.1) : sameVersion (pre ++ a :: b :: post) = false := by
  induction pre with
  | nil => exact (congrArg (· && _) (beq_eq_false_iff_ne.mpr h)).trans (Bool.false_and _)
  | cons p pre ih => exact Bool.eq_false_iff.mpr fun hc => Bool.eq_false_iff.mp ih (sameVersion_tail _ _ hc)

/-- the empty list included, whatever `fam` -/
theorem collapseX_good (fam : Nat) (items : List Item) (hg : ∀ i ∈ items, GoodItem i)
    (hf : ∀ i ∈ items, (itemNet i).1 = fam) :
    collapseX true items = .ok (collapseNets (famOfNat fam) (items.map (fun i => (itemNet i).2))) := by
  have hs : sameVersion (items.map itemNet) = true :=
    sameVersion_const fam _ (List.forall_mem_map.mpr hf)
  simp only [collapseX, Bool.not_true, Bool.false_eq_true, if_false, ipNets_good items hg, hs]
  cases items with
  | nil => exact congrArg Except.ok (collapseNets_nil _).symm
  | cons i is =>
    have := hf i (List.mem_cons_self ..)
    simp only [List.map_cons, this, List.map_map]
    rfl

end Ccp.IPValX
