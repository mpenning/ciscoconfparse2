import Ccp.Model.Tree
import Ccp.Proofs.Py
/-!
The two test configs of C03 that many of its examples speak of (`C03.exBanner`, `C03.exDeep`
under `C03.exCfg`), parsed once: an example about the parsed tree rewrites with the equation
here and evaluates a view of a literal tree, instead of parsing the config again.  (Decoding the
string literals of the recognisers is what makes a kernel evaluation of `parse` dear.)
-/
namespace Ccp.Tree
open Ccp.Py

def vecCfg : Cfg := { ios := true, delims := ['!'], ignoreBlank := false }

def vecBanner : List Str :=
  ["banner motd ^".toList, " hi".toList, "".toList, "x^".toList, "interface X".toList, " shutdown".toList]

def vecDeep : List Str :=
  ["interface X".toList, " a".toList, "  b".toList, "   c".toList, " d".toList,
   "macro name m".toList, " x".toList, "  y".toList, "@".toList,
   "banner exec #".toList, "  z".toList, "w".toList]

theorem parse_vecBanner :
    parse vecCfg vecBanner = ⟨vecBanner, [0, 0, 0, 0, 4, 4], [true, true, true, false, false, false]⟩ := by
  simp only [vecBanner, toList_lit]; decide +kernel

theorem parse_vecDeep :
    parse vecCfg vecDeep = ⟨vecDeep, [0, 0, 1, 2, 0, 5, 5, 5, 5, 9, 9, 9],
      [false, false, false, false, false, true, true, true, true, true, true, true]⟩ := by
  simp only [vecDeep, toList_lit]; decide +kernel

end Ccp.Tree
