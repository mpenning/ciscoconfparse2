import Ccp.Proofs.IPSpell
/-!
For `check_valid_ipaddress` (C11, `Ccp.IPTextX.checkValid`): every RFC 4291 spelling of an IPv6 address holds a colon.
-/
namespace Ccp.IPCheck
open Ccp.Py Ccp.IPText Ccp.Spec

/-- it has at least three parts -/
theorem colon_mem_spelling (addr : Str) (n : Nat) (h : IP.IsV6Spelling addr n) : ':' ∈ addr := by
  obtain ⟨P, -, e, h3, -⟩ := spelling_parts addr n h
  obtain ⟨f, g, rest, rfl⟩ : ∃ f g rest, P = f :: g :: rest := by
    match P, h3 with
    | f :: g :: rest, _ => exact ⟨f, g, rest, rfl⟩
  rw [e, join_cons_cons]
  exact List.mem_append_left _ (List.mem_append_right _ (List.mem_singleton.mpr rfl))

end Ccp.IPCheck
