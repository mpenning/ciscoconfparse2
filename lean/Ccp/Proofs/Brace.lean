import Ccp.Spec.Brace
import Ccp.Proofs.Py
/-!
The round trip of C08: a well-formed statement tree rendered in any layout converts to its flattening
(`braceText_render`).  `expandtabs` turns a rendering into a rendering without tabs (`RendStmt`,
`rendStmt_expand`); on those the tokenizer, the recursive descent with enough fuel and `cleanTok` are
followed statement by statement (`stmt_rt`).
-/
namespace Ccp.Brace
open Ccp.Py

theorem mem_opt {b : Bool} {c x : Char} (h : x ∈ (if b = true then [c] else [])) : x = c := by
  split at h
  · exact List.mem_singleton.mp h
  · cases h

/-- blank, LF, CR: the white space left after tab expansion -/
def AllWs0 (w : Str) : Prop := ∀ c ∈ w, c = ' ' ∨ c = '\n' ∨ c = '\r'

def NoBrace (x : Str) : Prop := ∀ c ∈ x, c ≠ '{' ∧ c ≠ '}'

theorem allWs_of_allWs0 {w : Str} (h : AllWs0 w) : AllWs w := fun c hc => by
  rcases h c hc with h | h | h <;> simp [h]

/-- layout white space is exactly what pyparsing skips before a token -/
theorem allWs_iff (w : Str) : AllWs w ↔ ∀ c ∈ w, isSkip c = true := by
  simp only [AllWs, isSkip, Bool.or_eq_true, beq_iff_eq]
  refine forall_congr' fun c => imp_congr_right fun _ => ⟨?_, ?_⟩
  · rintro (h | h | h | h) <;> simp [h]
  · rintro (((h | h) | h) | h) <;> simp [h]

theorem allWs_isSkip {w : Str} (h : AllWs w) : ∀ c ∈ w, isSkip c = true := (allWs_iff w).mp h

theorem isSkip_nobrace {c : Char} (h : isSkip c = true) : c ≠ '{' ∧ c ≠ '}' := by
  constructor <;> (rintro rfl; revert h; decide)

theorem isRunChar_nobrace {c : Char} (h : isRunChar c = true) : c ≠ '{' ∧ c ≠ '}' := by
  constructor <;> (rintro rfl; revert h; decide)

theorem allWs_noBrace {w : Str} (h : AllWs w) : NoBrace w := fun c hc => isSkip_nobrace (allWs_isSkip h c hc)

theorem ws_nobrace {w : Str} (hw : AllWs0 w) : NoBrace w := allWs_noBrace (allWs_of_allWs0 hw)

theorem printable_not_isSpace {c : Char} (h : isPrintable c = true) : isSpace c = false := by
  simp only [isPrintable, Bool.and_eq_true, decide_eq_true_eq] at h
  exact isSpace_of_printable c (by omega) (by omega)

theorem printable_not_skip {c : Char} (h : isPrintable c = true) : isSkip c = false := by
  cases hs : isSkip c with
  | false => rfl
  | true =>
    simp only [isSkip, Bool.or_eq_true, beq_iff_eq] at hs
    rcases hs with ((rfl | rfl) | rfl) | rfl <;> revert h <;> decide

theorem printable_run {c : Char} (h : isPrintable c = true ∧ c ≠ '{' ∧ c ≠ '}') : isRunChar c = true := by
  simp [isRunChar, h.1, h.2.1, h.2.2]

theorem nextTok_ws {w : Str} (hw : AllWs w) (s : Str) : nextTok (w ++ s) = nextTok s := by
  unfold nextTok
  rw [List.dropWhile_append_of_pos (allWs_isSkip hw)]

theorem nextTok_close (k : Str) : nextTok ('}' :: k) = .close k := by
  simp [nextTok, lexHead, isSkip]

theorem nextTok_open (k : Str) : nextTok ('{' :: k) = .opn k := by
  simp [nextTok, lexHead, isSkip]

/-- with any fuel above the input length the group items are `items` and `r` remains -/
def Parses (s : Str) (items : List Item) (r : Str) : Prop :=
  ∀ f, s.length < f → parseItems f s = .ok (items, r)

/-- `parseItems` looks at its input through `nextTok`, which skips white space -/
theorem parses_ws {w s : Str} {items : List Item} {r : Str} (hw : AllWs0 w)
    (h : Parses s items r) : Parses (w ++ s) items r := by
  intro f hf
  cases f with
  | zero => omega
  | succ f =>
    have := h (f + 1) (by rw [List.length_append] at hf; omega)
    simp only [parseItems, nextTok_ws (allWs_of_allWs0 hw)] at this ⊢
    exact this

theorem parses_close (k : Str) : Parses ('}' :: k) [] k := by
  intro f hf
  cases f with
  | zero => omega
  | succ f => simp only [parseItems, nextTok_close]

theorem parses_text {s t r0 : Str} {items : List Item} {r : Str}
    (ht : nextTok s = .text t r0) (hl : r0.length < s.length)
    (h : Parses r0 items r) : Parses s (.tok t :: items) r := by
  intro f hf
  cases f with
  | zero => omega
  | succ f => simp only [parseItems, ht, h f (by omega)]

theorem parses_open {s r0 r1 : Str} {g items : List Item} {r : Str}
    (ho : nextTok s = .opn r0) (hl0 : r0.length < s.length) (hg : Parses r0 g r1)
    (hl1 : r1.length < s.length) (h : Parses r1 items r) : Parses s (.grp g :: items) r := by
  intro f hf
  cases f with
  | zero => omega
  | succ f => simp only [parseItems, ho, hg f (by omega), h f (by omega)]

/-- what the tokenizer and `cleanTok` need to know about a statement text -/
structure TextOk (t : Str) : Prop where
  head : ∃ c t', t = c :: t' ∧ isPrintable c = true ∧ (c ≠ '"' ∧ c ≠ '\'') ∧ (c ≠ '{' ∧ c ≠ '}')
  run : ∀ x ∈ t, isRunChar x = true
  nobrace : ∀ x ∈ t, x ≠ '{' ∧ x ≠ '}'
  last : ∃ ini l, t = ini ++ [l] ∧ isPrintable l = true ∧ l ≠ ';'

theorem words_textOk {ws : List Str} (h : WordsOk ws) : TextOk (stmtText ws) := by
  obtain ⟨hne, hall, hfirst, hlast⟩ := h
  have hr : ∀ x ∈ join [' '] ws, isRunChar x = true :=
    join_chars [' '] ws _ (by simp; rfl) (fun w hw x hx => printable_run ((hall w hw).2 x hx))
  refine ⟨?_, hr, fun x hx => isRunChar_nobrace (hr x hx), ?_⟩
  · -- the text begins with the first word
    obtain ⟨w, ws', rfl⟩ := List.exists_cons_of_ne_nil hne
    obtain ⟨c, w', rfl⟩ := List.exists_cons_of_ne_nil (hall w (by simp)).1
    obtain ⟨rest, hrest⟩ : ∃ rest, join [' '] ((c :: w') :: ws') = c :: w' ++ rest := by
      cases ws' with
      | nil => exact ⟨[], (List.append_nil _).symm⟩
      | cons v vs => exact ⟨[' '] ++ join [' '] (v :: vs), by rw [join_cons_cons, List.append_assoc]⟩
    have hc := (hall (c :: w') (by simp)).2 c (by simp)
    exact ⟨c, w' ++ rest, by simp [stmtText, hrest], hc.1, by simpa using hfirst (c :: w') (by simp), hc.2⟩
  · -- and ends with the last one
    have e := (List.dropLast_concat_getLast hne).symm
    generalize ws.dropLast = M, ws.getLast hne = lw at e
    subst e
    have hw := hall lw (by simp)
    have hl := (List.dropLast_concat_getLast hw.1).symm
    obtain ⟨ini, hi⟩ : ∃ ini, join [' '] (M ++ [lw]) = ini ++ lw := by
      cases M with
      | nil => exact ⟨[], rfl⟩
      | cons a M => exact ⟨_, join_snoc [' '] (a :: M) (by simp) lw⟩
    refine ⟨ini ++ lw.dropLast, lw.getLast hw.1, by rw [stmtText, hi, List.append_assoc, ← hl],
      (hw.2 _ (List.getLast_mem hw.1)).1, fun e => hlast lw (by simp) ?_⟩
    rw [hl, ← e]; simp

theorem textOk_head {t : Str} (ht : TextOk t) : ∀ x, t.head? = some x → isSpace x = false := by
  obtain ⟨c, t', rfl, hc, -, -⟩ := ht.head
  intro x hx
  cases hx
  exact printable_not_isSpace hc

theorem textOk_last {t : Str} (ht : TextOk t) : ∀ x, t.getLast? = some x → isSpace x = false := by
  obtain ⟨ini, l, rfl, hl, -⟩ := ht.last
  intro x hx
  rw [List.getLast?_concat] at hx
  cases hx
  exact printable_not_isSpace hl

theorem nextTok_text {t : Str} (ht : TextOk t) (u Z : Str) (hu : ∀ x ∈ u, isRunChar x = true)
    (hZ : ∀ x, Z.head? = some x → isRunChar x = false) : nextTok (t ++ u ++ Z) = .text (t ++ u) Z := by
  obtain ⟨htk, hdr⟩ := takeWhile_append_stop isRunChar (t ++ u) Z
    (fun x hx => (List.mem_append.mp hx).elim (ht.run x) (hu x)) hZ
  obtain ⟨c, t', rfl, hc, hq, hb⟩ := ht.head
  unfold nextTok
  rw [dropWhile_head isSkip _ (fun x hx => by cases hx; exact printable_not_skip hc)]
  simp only [List.cons_append] at htk hdr ⊢
  simp only [lexHead, hq.1, hq.2, or_self, if_false, hb.1, hb.2, printable_run ⟨hc, hb⟩, if_true, htk, hdr]

theorem cleanTok_eq (t : Str) :
    cleanTok t = strip (if (strip t).getLast? = some ';' then (strip t).dropLast else strip t) := rfl

/-- the token of a statement: its text, the semicolon if written, the blanks before the line break -/
theorem cleanTok_text {t : Str} (h : TextOk t) (semi : Bool) (j : Nat) :
    cleanTok (t ++ (if semi then [';'] else []) ++ List.replicate j ' ') = t := by
  have h0 : strip t = t := strip_id t (textOk_head h) (textOk_last h)
  obtain ⟨c, t', rfl, -⟩ := h.head
  obtain ⟨ini, l, hl, -, hls⟩ := h.last
  have hs : ∀ e, (∀ x, (c :: t' ++ e).getLast? = some x → isSpace x = false) →
      strip (c :: t' ++ e ++ List.replicate j ' ') = c :: t' ++ e := by
    intro e he
    unfold strip
    rw [lstrip_of_head _ (fun x hx => textOk_head h x (by simpa using hx)), rstrip_replicate j _ he]
  rw [cleanTok_eq]
  cases semi with
  | true =>
    have hg : (c :: t' ++ [';']).getLast? = some ';' := List.getLast?_concat ..
    rw [if_pos rfl, hs [';'] (by intro x hx; rw [hg] at hx; cases hx; decide), if_pos hg, List.dropLast_concat, h0]
  | false =>
    have hne : (c :: t').getLast? ≠ some ';' := by rw [hl, List.getLast?_concat]; simpa using hls
    have := hs [] (by simpa using textOk_last h)
    simp only [List.append_nil] at this
    simp only [Bool.false_eq_true, if_false, List.append_nil, this, hne, h0]

/-- blanks after a statement text belong to its token; the first line break ends it -/
theorem absorb {w : Str} (hw : AllWs0 w) {c : Char} {Y : Str} (hc : isRunChar c = false)
    {items : List Item} {r : Str} (hp : Parses (c :: Y) items r) :
    ∃ j Z, w ++ c :: Y = List.replicate j ' ' ++ Z ∧ (∀ x, Z.head? = some x → isRunChar x = false) ∧
      Parses Z items r := by
  induction w with
  | nil => exact ⟨0, c :: Y, rfl, fun x hx => by cases hx; exact hc, hp⟩
  | cons a w ih =>
    rcases hw a (by simp) with rfl | ha
    · obtain ⟨j, Z, h1, h2⟩ := ih (fun x hx => hw x (by simp [hx]))
      exact ⟨j + 1, Z, by rw [List.replicate_succ, List.cons_append, List.cons_append, h1], h2⟩
    · exact ⟨0, a :: w ++ c :: Y, rfl, fun x hx => by cases hx; rcases ha with rfl | rfl <;> rfl,
        parses_ws hw hp⟩

/-- the continuation of the last statement of a block: white space, then the closing brace -/
def EndsBlock (k : Str) : Prop := ∃ w k', k = w ++ '}' :: k' ∧ AllWs0 w

/-- `Z`: white space, then a character that ends the token -/
theorem text_token {t : Str} (ht : TextOk t) (semi : Bool) {pre w : Str} (hpre : AllWs0 pre) (hw : AllWs0 w)
    {c : Char} {Y Z : Str} (hZ : Z = w ++ c :: Y) (hc : isRunChar c = false)
    {items : List Item} {r : Str} (hp : Parses (c :: Y) items r) :
    ∃ T, Parses (pre ++ (t ++ ((if semi then [';'] else []) ++ Z))) (.tok T :: items) r ∧ cleanTok T = t := by
  obtain ⟨j, Z', h1, h2, h3⟩ := absorb hw hc hp
  refine ⟨t ++ ((if semi then [';'] else []) ++ List.replicate j ' '), parses_ws hpre ?_,
    by rw [← List.append_assoc]; exact cleanTok_text ht semi j⟩
  have hs : t ++ ((if semi then [';'] else []) ++ Z) =
      t ++ ((if semi then [';'] else []) ++ List.replicate j ' ') ++ Z' := by
    rw [hZ, h1]; simp
  rw [hs]
  refine parses_text (nextTok_text ht _ Z' ?_ h2) ?_ h3
  · intro x hx
    rcases List.mem_append.mp hx with hx | hx
    · rw [mem_opt hx]; rfl
    · rw [List.eq_of_mem_replicate hx]; rfl
  · obtain ⟨a, t', rfl, -⟩ := ht.head
    simp; omega

theorem unpack_tok (stop d : Nat) (T : Str) (rest : List Item) :
    unpackList stop d (.tok T :: rest) =
      (List.replicate (d * stop) ' ' ++ cleanTok T) :: unpackList stop d rest := by
  simp [unpackList, unpackItem]

theorem unpack_grp (stop d : Nat) (g rest : List Item) :
    unpackList stop d (.grp g :: rest) = unpackList stop (d + 1) g ++ unpackList stop d rest := by
  simp [unpackList, unpackItem]

theorem unpack_append (stop d : Nat) : ∀ (a b : List Item),
    unpackList stop d (a ++ b) = unpackList stop d a ++ unpackList stop d b
  | [], b => by simp [unpackList]
  | x :: a, b => by simp [unpackList, unpack_append stop d a b]

mutual
/-- `R` is a rendering of the statement whose white space is blank / LF / CR only -/
def RendStmt (more : Bool) : Stmt → Str → Prop
  | .node ws cs, R => ∃ (pre post close after : Str) (semi blk : Bool) (Rc : Str),
      AllWs0 pre ∧ AllWs0 post ∧ AllWs0 close ∧ AllWs0 after ∧ RendList cs Rc ∧
      R = pre ++ (stmtText ws ++ ((if semi then [';'] else []) ++ (post ++
        (if (!cs.isEmpty || blk) = true then '{' :: (Rc ++ (close ++ '}' :: after))
         else if more = true then ['\n'] else []))))
def RendList : List Stmt → Str → Prop
  | [], R => R = []
  | s :: ss, R => ∃ R1 R2, RendStmt (!ss.isEmpty) s R1 ∧ RendList ss R2 ∧ R = R1 ++ R2
end

/-- after a leaf: a line break if a statement follows, else the white space before the closing brace -/
theorem leaf_tail {more : Bool} {k : Str} {items : List Item} {r : Str}
    (hk : more = false → EndsBlock k) (hp : Parses k items r) :
    ∃ w c Y, (if more = true then ['\n'] else []) ++ k = w ++ c :: Y ∧ AllWs0 w ∧ isRunChar c = false ∧
      Parses (c :: Y) items r := by
  cases more with
  | true => exact ⟨[], '\n', k, rfl, nofun, rfl, parses_ws (w := ['\n']) (by simp [AllWs0]) hp⟩
  | false =>
    obtain ⟨w, k', rfl, hw⟩ := hk rfl
    -- what `k` parses to is known: the group ends here
    have h := parses_ws hw (parses_close k') _ (Nat.lt_succ_self _)
    rw [hp _ (Nat.lt_succ_self _)] at h
    cases h
    exact ⟨w, '}', _, rfl, hw, rfl, parses_close _⟩

mutual
theorem stmt_rt : ∀ (s : Stmt) (more : Bool) (R k : Str)
    (items : List Item) (r : Str), StmtOk s → RendStmt more s R → (more = false → EndsBlock k) → Parses k items r →
    ∃ its, Parses (R ++ k) (its ++ items) r ∧ ∀ d, unpackList 4 d its = flattenStmt d s
  | .node ws cs, more, R, k, items, r, hs, hR, hk, hp => by
    obtain ⟨hws, hcs⟩ := hs
    unfold RendStmt at hR
    obtain ⟨pre, post, close, after, semi, blk, Rc, hpre, hpost, hclose, hafter, hRc, rfl⟩ := hR
    have ht := words_textOk hws
    by_cases hblk : (!cs.isEmpty || blk) = true
    · -- a block: the text, then the group of the children
      obtain ⟨g, hg, hgu⟩ := list_rt cs Rc (close ++ '}' :: (after ++ k)) [] (after ++ k)
        hcs hRc ⟨_, _, rfl, hclose⟩ (parses_ws hclose (parses_close _))
      rw [List.append_nil] at hg
      have hY : Parses ('{' :: (Rc ++ (close ++ '}' :: (after ++ k)))) (.grp g :: items) r :=
        parses_open (nextTok_open _) (Nat.lt_succ_self _) hg
          (by simp only [List.length_append, List.length_cons]; omega) (parses_ws hafter hp)
      obtain ⟨T, hT, hTc⟩ := text_token ht semi hpre hpost rfl rfl hY
      refine ⟨[.tok T, .grp g], ?_, fun d => ?_⟩
      · simpa only [if_pos hblk, List.append_assoc, List.cons_append, List.nil_append] using hT
      · rw [unpack_tok, unpack_grp, hTc, hgu]
        simp [flattenStmt, unpackList, Nat.mul_comm]
    · -- a leaf
      obtain rfl : cs = [] := by
        cases cs with
        | nil => rfl
        | cons a b => simp at hblk
      obtain ⟨w, c, Y, e, hw, hc, hY⟩ := leaf_tail hk hp
      obtain ⟨T, hT, hTc⟩ := text_token ht semi hpre
        (fun x hx => (List.mem_append.mp hx).elim (hpost x) (hw x)) (List.append_assoc ..).symm hc hY
      refine ⟨[.tok T], ?_, fun d => ?_⟩
      · simpa only [if_neg hblk, List.append_assoc, e, List.cons_append, List.nil_append] using hT
      · rw [unpack_tok, hTc]
        simp [flattenStmt, flattenList, unpackList, Nat.mul_comm]
theorem list_rt : ∀ (ss : List Stmt) (R k : Str)
    (items : List Item) (r : Str), ListOk ss → RendList ss R → EndsBlock k → Parses k items r →
    ∃ its, Parses (R ++ k) (its ++ items) r ∧ ∀ d, unpackList 4 d its = flattenList d ss
  | [], R, k, items, r, _, hR, _, hp => by
    cases hR
    exact ⟨[], hp, fun d => rfl⟩
  | s :: ss, R, k, items, r, hs, hR, hk, hp => by
    obtain ⟨hs1, hs2⟩ := hs
    unfold RendList at hR
    obtain ⟨R1, R2, hR1, hR2, rfl⟩ := hR
    obtain ⟨its2, h2, h2u⟩ := list_rt ss R2 k items r hs2 hR2 hk hp
    have hk2 : (!ss.isEmpty) = false → EndsBlock (R2 ++ k) := by
      intro h
      cases ss with
      | nil => cases hR2; exact hk
      | cons a b => cases h
    obtain ⟨its1, h1, h1u⟩ := stmt_rt s (!ss.isEmpty) R1 _ _ r hs1 hR1 hk2 h2
    refine ⟨its1 ++ its2, by simpa using h1, fun d => ?_⟩
    rw [unpack_append, h1u, h2u]; rfl
end

/-- the column at which `expandtabs`, started at column `col`, stands after `x` -/
def endCol : Nat → Str → Nat
  | col, [] => col
  | col, c :: cs =>
    if c = '\t' then endCol (col + (8 - col % 8)) cs
    else if c = '\n' ∨ c = '\r' then endCol 0 cs
    else endCol (col + 1) cs

theorem expand_append (x : Str) (col : Nat) (k : Str) :
    expandTabsFrom col (x ++ k) = expandTabsFrom col x ++ expandTabsFrom (endCol col x) k := by
  fun_induction expandTabsFrom col x <;> simp_all [expandTabsFrom, endCol]

theorem expand_cons {c : Char} (h : c ≠ '\t' ∧ c ≠ '\n' ∧ c ≠ '\r') (col : Nat) (cs : Str) :
    expandTabsFrom col (c :: cs) = c :: expandTabsFrom (col + 1) cs := by
  simp [expandTabsFrom, h.1, h.2.1, h.2.2]

theorem expand_close (col : Nat) : expandTabsFrom col ['}'] = ['}'] :=
  expand_cons (by decide) col []

theorem expand_notab : ∀ (x : Str), (∀ c ∈ x, c ≠ '\t') → ∀ col, expandTabsFrom col x = x
  | [], _, _ => rfl
  | c :: x, h, col => by
    have ih := expand_notab x (fun z hz => h z (by simp [hz]))
    simp only [expandTabsFrom, h c (by simp), if_false]
    split <;> rw [ih]

theorem expand_ws : ∀ (w : Str), AllWs w → ∀ col, AllWs0 (expandTabsFrom col w)
  | [], _, _ => nofun
  | c :: w, h, col => by
    have ih := expand_ws w (fun z hz => h z (List.mem_cons_of_mem _ hz))
    unfold expandTabsFrom
    split
    · exact fun z hz => (List.mem_append.mp hz).elim (fun hz => Or.inl (List.eq_of_mem_replicate hz)) (ih _ z)
    · have hc : c = ' ' ∨ c = '\n' ∨ c = '\r' := by
        rcases h c (List.mem_cons_self ..) with e | e | e | e <;> simp_all
      split <;> exact fun z hz => (List.mem_cons.mp hz).elim (fun e => e ▸ hc) (ih _ z)

mutual
/-- `expandtabs` maps a rendering to a rendering without tabs: the same statements, every white-space
field of the layout expanded at the column where it stands -/
theorem rendStmt_expand (L : Layout) (hL : LayoutOk L) : ∀ (s : Stmt) (p : List Nat) (more : Bool),
    StmtOk s → ∀ col, RendStmt more s (expandTabsFrom col (renderStmt L p more s))
  | .node ws cs, p, more, hs, col => by
    obtain ⟨hws, hcs⟩ := hs
    obtain ⟨hpre, hpost, hclose, hafter⟩ := hL p
    have ht := fun col => expand_notab (stmtText ws) (fun c hc e => absurd ((words_textOk hws).run c hc) (by rw [e]; decide)) col
    have hsemi := fun col => expand_notab (if (L p).semi then [';'] else [])
      (fun c hc => by rw [mem_opt hc]; decide) col
    unfold RendStmt renderStmt
    rw [expand_append, expand_append, expand_append, expand_append, ht, hsemi]
    by_cases hblk : writtenAsBlock (L p) cs = true
    · have : (!cs.isEmpty || (L p).block) = true := hblk
      rw [if_pos hblk, expand_cons (by decide), expand_append, expand_append, expand_cons (by decide)]
      exact ⟨_, _, _, _, (L p).semi, (L p).block, _, expand_ws _ hpre _, expand_ws _ hpost _,
        expand_ws _ hclose _, expand_ws _ hafter _, rendList_expand L hL cs p 0 hcs _, by rw [if_pos this]⟩
    · have : ¬ (!cs.isEmpty || (L p).block) = true := hblk
      rw [if_neg hblk, expand_notab (if more = true then ['\n'] else [])
        (fun c hc => by rw [mem_opt hc]; decide)]
      exact ⟨_, _, [], [], (L p).semi, (L p).block, _, expand_ws _ hpre _, expand_ws _ hpost _, nofun, nofun,
        rendList_expand L hL cs p 0 hcs 0, by rw [if_neg this]⟩
theorem rendList_expand (L : Layout) (hL : LayoutOk L) : ∀ (ss : List Stmt) (p : List Nat) (i : Nat),
    ListOk ss → ∀ col, RendList ss (expandTabsFrom col (renderList L p i ss))
  | [], _, _, _, _ => by unfold RendList renderList; rfl
  | s :: ss, p, i, hs, col => by
    unfold RendList renderList
    exact ⟨_, _, rendStmt_expand L hL s _ _ hs.1 col, rendList_expand L hL ss p _ hs.2 _, expand_append ..⟩
end

theorem expand_stmt (L : Layout) (hL : LayoutOk L) : ∀ (s : Stmt) (p : List Nat) (more : Bool),
    StmtOk s → ∀ col, ∃ R col', RendStmt more s R ∧ ∀ k,
      expandTabsFrom col (renderStmt L p more s ++ k) = R ++ expandTabsFrom col' k :=
  fun s p more hs col => ⟨_, _, rendStmt_expand L hL s p more hs col, expand_append _ col⟩

/-- a rendering begins with layout white space or with the first character of a statement -/
theorem render_head (L : Layout) (hL : LayoutOk L) (T : List Stmt) (hT : ListOk T) :
    ∀ x ∈ (render L T).head?, x ≠ '{' ∧ x ≠ '}' := by
  cases T with
  | nil => nofun
  | cons s ss =>
    obtain ⟨ws, cs⟩ := s
    obtain ⟨c, t', htx, -, -, hb⟩ := (words_textOk hT.1.1).head
    have hpre := allWs_noBrace (hL [0]).1
    intro x hx
    simp only [render, renderList, renderStmt, htx, List.nil_append, List.append_assoc, List.cons_append] at hx
    cases hp : (L [0]).pre with
    | nil => rw [hp] at hx; cases hx; exact hb
    | cons a w => rw [hp] at hx hpre; cases hx; exact hpre x (by simp)

theorem braceText_of_head (stop : Nat) (txt : Str) (h : ∀ x ∈ txt.head?, x ≠ '{' ∧ x ≠ '}') :
    braceText stop txt =
      match parseItems ((expandTabsFrom 1 (txt ++ ['}'])).length + 1) (expandTabsFrom 1 (txt ++ ['}'])) with
      | .ok (items, _) => .ok (unpackList stop 0 items)
      | .error e => .error e := by
  unfold braceText
  split
  · exact absurd rfl (h '{' rfl).1
  · exact absurd rfl (h '}' rfl).2
  · rfl

theorem braceText_render (L : Layout) (hL : LayoutOk L) (T : List Stmt) (hT : ListOk T) :
    braceText 4 (render L T) = .ok (flatten T) := by
  obtain ⟨its, hp, hu⟩ := list_rt T _ ['}'] [] [] hT (rendList_expand L hL T [] 0 hT 1) ⟨[], [], rfl, nofun⟩
    (parses_close [])
  rw [braceText_of_head 4 _ (render_head L hL T hT), render, expand_append, expand_close,
    hp _ (Nat.lt_succ_self _)]
  simp [hu, flatten]

/-! Well-formedness of a concrete tree and layout is decided by evaluation. -/

instance (w : Str) : Decidable (AllWs w) := decidable_of_iff _ (allWs_iff w).symm
instance (w : Str) : Decidable (WordOk w) := inferInstanceAs (Decidable (_ ∧ _))
instance (ws : List Str) : Decidable (WordsOk ws) := inferInstanceAs (Decidable (_ ∧ _))

mutual
def StmtOk.dec : (s : Stmt) → Decidable (StmtOk s)
  | .node _ cs => @instDecidableAnd _ _ _ (ListOk.dec cs)
def ListOk.dec : (ss : List Stmt) → Decidable (ListOk ss)
  | [] => .isTrue trivial
  | s :: ss => @instDecidableAnd _ _ (StmtOk.dec s) (ListOk.dec ss)
end

instance (ss : List Stmt) : Decidable (ListOk ss) := ListOk.dec ss

end Ccp.Brace
