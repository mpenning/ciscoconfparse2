import Ccp.Py.Basic
/-!
Lemmas about the Python primitives of `Ccp.Py.Basic`: `str(n)` / `int(s)` round trip, `split` / `join`,
`strip`, and the few `takeWhile` / `dropWhile` facts the scanners need.
-/
namespace Ccp.Py

/-- The kernel computes `"abc".toList` by decoding the UTF-8 bytes of the literal (about 14 k heartbeats per
character); rewriting with this lemma first (`simp only [toList_lit]; decide +kernel`) makes the elaborator expand
the literal to `String.ofList ['a', 'b', 'c']` once, and the kernel only compares.  `no_index` because the literal
is not syntactically of the form `String.ofList _`. -/
theorem toList_lit {l : List Char} : (no_index (String.ofList l)).toList = l := String.toList_ofList

theorem takeWhile_all {α} (p : α → Bool) (l : List α) (h : ∀ x ∈ l, p x = true) : l.takeWhile p = l := by
  induction l with
  | nil => rfl
  | cons x xs ih => simp [List.takeWhile, h x (by simp), ih (fun y hy => h y (by simp [hy]))]

theorem dropWhile_all {α} (p : α → Bool) (l : List α) (h : ∀ x ∈ l, p x = true) : l.dropWhile p = [] := by
  induction l with
  | nil => rfl
  | cons x xs ih => simp [List.dropWhile, h x (by simp), ih (fun y hy => h y (by simp [hy]))]

theorem dropWhile_weaken {α} (p q : α → Bool) (h : ∀ x, p x = true → q x = true) (l : List α) :
    (l.dropWhile p).dropWhile q = l.dropWhile q := by
  induction l with
  | nil => rfl
  | cons a l ih =>
    by_cases hp : p a = true
    · simp [hp, h a hp, ih]
    · simp [List.dropWhile_cons, hp]

theorem mem_takeWhile_imp {α} (p : α → Bool) (l : List α) : ∀ c ∈ l.takeWhile p, p c = true :=
  List.all_eq_true.mp List.all_takeWhile

theorem dropWhile_head {α} (p : α → Bool) (l : List α) (h : ∀ c, l.head? = some c → p c = false) :
    l.dropWhile p = l := by
  cases l with
  | nil => rfl
  | cons a as => simp [List.dropWhile, h a rfl]

theorem mem_dropWhile_of_not {α} (p : α → Bool) (c : α) (hp : p c = false) :
    ∀ l : List α, c ∈ l → c ∈ l.dropWhile p
  | [], h => by cases h
  | a :: l, h => by
    by_cases ha : p a = true
    · simp only [List.dropWhile_cons, ha, if_true]
      rcases List.mem_cons.mp h with rfl | h'
      · rw [hp] at ha; cases ha
      · exact mem_dropWhile_of_not p c hp l h'
    · simp only [List.dropWhile_cons, ha]; exact h

theorem dropWhile_idem {α} (p : α → Bool) (l : List α) : (l.dropWhile p).dropWhile p = l.dropWhile p :=
  dropWhile_head p _ (fun c hc => by simpa [hc] using List.head?_dropWhile_not p l)

theorem takeWhile_head {α} (p : α → Bool) (l : List α) (h : ∀ c, l.head? = some c → p c = false) :
    l.takeWhile p = [] := by
  cases l with
  | nil => rfl
  | cons a as => simp [List.takeWhile, h a rfl]

theorem takeWhile_append_stop {α} (p : α → Bool) (l t : List α) (hl : ∀ c ∈ l, p c = true)
    (ht : ∀ c, t.head? = some c → p c = false) :
    (l ++ t).takeWhile p = l ∧ (l ++ t).dropWhile p = t := by
  rw [List.takeWhile_append_of_pos hl, List.dropWhile_append_of_pos hl, takeWhile_head p t ht,
    dropWhile_head p t ht, List.append_nil]
  exact ⟨rfl, rfl⟩

theorem toDecRev_lt (n : Nat) (h : n < 10) : toDecRev n = [Nat.digitChar n] := by
  rw [toDecRev]; simp [h]

theorem toDecRev_ge (n : Nat) (h : ¬ n < 10) :
    toDecRev n = Nat.digitChar (n % 10) :: toDecRev (n / 10) := by
  rw [toDecRev]; simp [h]

theorem digitChar_fin : ∀ d : Fin 10,
    isDigit (Nat.digitChar d.val) = true ∧ digitVal (Nat.digitChar d.val) = d.val := by decide

theorem isDigit_digitChar (d : Nat) (h : d < 10) : isDigit (Nat.digitChar d) = true :=
  (digitChar_fin ⟨d, h⟩).1

theorem digitVal_digitChar (d : Nat) (h : d < 10) : digitVal (Nat.digitChar d) = d :=
  (digitChar_fin ⟨d, h⟩).2

theorem toDecRev_digits (n : Nat) : ∀ c ∈ toDecRev n, isDigit c = true := by
  induction n using Nat.strongRecOn with
  | _ n ih =>
    by_cases h : n < 10
    · rw [toDecRev_lt n h]; intro c hc; simp at hc; subst hc; exact isDigit_digitChar n h
    · rw [toDecRev_ge n h]; intro c hc
      rcases List.mem_cons.mp hc with hc | hc
      · subst hc; exact isDigit_digitChar _ (by omega)
      · exact ih (n / 10) (by omega) c hc

theorem toDec_digits (n : Nat) : ∀ c ∈ toDec n, isDigit c = true := by
  intro c hc; exact toDecRev_digits n c (by simpa [toDec] using hc)

theorem toDec_ne_nil (n : Nat) : toDec n ≠ [] := by
  unfold toDec
  by_cases h : n < 10
  · simp [toDecRev_lt n h]
  · simp [toDecRev_ge n h]

theorem toDec_cons (n : Nat) : ∃ c cs, toDec n = c :: cs ∧ isDigit c = true := by
  cases h : toDec n with
  | nil => exact absurd h (toDec_ne_nil n)
  | cons c cs => exact ⟨c, cs, rfl, toDec_digits n c (by simp [h])⟩

theorem ofDigitsAux_append (xs ys : Str) (acc : Nat) :
    ofDigitsAux (xs ++ ys) acc = (ofDigitsAux xs acc).bind (fun a => ofDigitsAux ys a) := by
  induction xs generalizing acc with
  | nil => simp [ofDigitsAux]
  | cons c cs ih =>
    simp only [List.cons_append, ofDigitsAux]
    split
    · exact ih _
    · rfl

theorem ofDigitsAux_digits (ds : Str) (acc : Nat) (h : ∀ c ∈ ds, isDigit c = true) :
    ofDigitsAux ds acc = some (ds.foldl (fun a c => a * 10 + digitVal c) acc) := by
  induction ds generalizing acc with
  | nil => rfl
  | cons c cs ih => simp [ofDigitsAux, h c (by simp), ih _ (fun d hd => h d (by simp [hd]))]

theorem ofDigitsAux_toDec (n : Nat) : ofDigitsAux (toDec n) 0 = some n := by
  induction n using Nat.strongRecOn with
  | _ n ih =>
    unfold toDec
    by_cases h : n < 10
    · simp [toDecRev_lt n h, ofDigitsAux, isDigit_digitChar n h, digitVal_digitChar n h]
    · have := ih (n / 10) (by omega)
      unfold toDec at this
      rw [toDecRev_ge n h]
      simp only [List.reverse_cons, ofDigitsAux_append, this, Option.bind_some]
      simp [ofDigitsAux, isDigit_digitChar (n % 10) (by omega), digitVal_digitChar (n % 10) (by omega)]
      omega

theorem ofDigits_toDec (n : Nat) : ofDigits (toDec n) = some n := by
  unfold ofDigits; simp [toDec_ne_nil, ofDigitsAux_toDec]

theorem toDec_lt (n : Nat) (h : n < 10) : toDec n = [Nat.digitChar n] := by
  rw [toDec, toDecRev_lt n h]; rfl

theorem toDec_ge (n : Nat) (h : ¬ n < 10) : toDec n = toDec (n / 10) ++ [Nat.digitChar (n % 10)] := by
  rw [toDec, toDecRev_ge n h, List.reverse_cons]; rfl

theorem toDec_head_zero (n : Nat) (h : (toDec n).head? = some '0') : n = 0 := by
  induction n using Nat.strongRecOn with
  | _ n ih =>
    by_cases hn : n < 10
    · rw [toDec_lt n hn] at h
      have e := digitVal_digitChar n hn
      rw [show Nat.digitChar n = '0' by simpa using h] at e
      exact e.symm
    · obtain ⟨c, cs, e, -⟩ := toDec_cons (n / 10)
      rw [toDec_ge n hn, e] at h
      have := ih (n / 10) (by omega) (by rw [e]; exact h)
      omega

theorem length_toDec_le (k n : Nat) (h : n < 10 ^ (k + 1)) : (toDec n).length ≤ k + 1 := by
  induction k generalizing n with
  | zero => rw [toDec_lt n (by simpa using h)]; simp
  | succ k ih =>
    by_cases hn : n < 10
    · rw [toDec_lt n hn]; simp
    · have := ih (n / 10) (by rw [Nat.pow_succ] at h; omega)
      rw [toDec_ge n hn, List.length_append]; simp; omega

theorem digitChar_table : ∀ k : Fin 58, 48 ≤ k.val → Nat.digitChar (k.val - 48) = Char.ofNat k.val := by decide +kernel

theorem digitChar_digitVal (c : Char) (h : isDigit c = true) : Nat.digitChar (digitVal c) = c ∧ digitVal c < 10 := by
  unfold isDigit at h
  simp only [Bool.and_eq_true, decide_eq_true_eq] at h
  unfold digitVal
  refine ⟨?_, by omega⟩
  have := digitChar_table ⟨c.toNat, by omega⟩ h.1
  simp only at this
  rw [this, Char.ofNat_toNat]

theorem toDec_ofDigitsAux (s : Str) (acc n : Nat) (ha : 0 < acc) (hd : ∀ c ∈ s, isDigit c = true)
    (h : ofDigitsAux s acc = some n) : toDec n = toDec acc ++ s := by
  induction s generalizing acc with
  | nil => cases h; simp
  | cons c cs ih =>
    have hc := digitChar_digitVal c (hd c (by simp))
    rw [ofDigitsAux, if_pos (hd c (by simp))] at h
    rw [ih _ (by omega) (fun x hx => hd x (by simp [hx])) h, toDec_ge _ (by omega),
      show (acc * 10 + digitVal c) / 10 = acc by omega, show (acc * 10 + digitVal c) % 10 = digitVal c by omega, hc.1]
    simp

theorem toDec_of_ofDigits (s : Str) (n : Nat) (hd : ∀ c ∈ s, isDigit c = true) (hv : ofDigits s = some n)
    (hz : s.head? = some '0' → s = ['0']) : toDec n = s := by
  cases s with
  | nil => cases hv
  | cons c cs =>
    have hc := digitChar_digitVal c (hd c (by simp))
    simp only [ofDigits, ofDigitsAux, if_neg (List.cons_ne_nil c cs), hd c (by simp), if_true, Nat.zero_mul,
      Nat.zero_add] at hv
    by_cases h0 : digitVal c = 0
    · have hc0 : c = '0' := by rw [← hc.1, h0]; rfl
      subst hc0
      cases (List.cons.inj (hz rfl)).2
      cases hv; exact toDec_lt 0 (by decide)
    · rw [toDec_ofDigitsAux cs _ n (by omega) (fun x hx => hd x (by simp [hx])) hv, toDec_lt _ hc.2, hc.1]; rfl

theorem isSpace_blank : isSpace ' ' = true := by decide

theorem isSpace_of_printable (c : Char) (h1 : 33 ≤ c.toNat) (h2 : c.toNat < 133) : isSpace c = false := by
  have hw : ∀ w ∈ Gen.whitespace, w < 33 ∨ 132 < w := by decide +kernel
  cases h : isSpace c with
  | false => rfl
  | true => have := hw _ (by simpa [isSpace] using h); omega

theorem isSpace_of_isDigit (c : Char) (h : isDigit c = true) : isSpace c = false := by
  simp only [isDigit, Bool.and_eq_true, decide_eq_true_eq] at h
  exact isSpace_of_printable c (by omega) (by omega)

theorem ne_of_isDigit (c d : Char) (h : isDigit c = true) (hd : isDigit d = false) : c ≠ d := by
  intro e; subst e; simp [h] at hd

theorem not_mem_of_digits (s : Str) (hs : ∀ c ∈ s, isDigit c = true) (d : Char)
    (hd : isDigit d = false) : d ∉ s := by
  intro hm; have := hs d hm; simp [this] at hd

theorem not_mem_of_ne {s : Str} {x : Char} (h : ∀ c ∈ s, c ≠ x) : x ∉ s := fun hx => h x hx rfl

theorem toDec_ne (n : Nat) (x : Char) (hx : isDigit x = false) : ∀ c ∈ toDec n, c ≠ x :=
  fun c hc => ne_of_isDigit c x (toDec_digits n c hc) hx

theorem contains_false (s : Str) (x : Char) (h : ∀ c ∈ s, c ≠ x) : s.contains x = false := by
  rw [Bool.eq_false_iff, ne_eq, List.contains_iff_mem]; exact not_mem_of_ne h

theorem intToDec_no_point (n : Int) : '.' ∉ intToDec n := by
  have h : ∀ k, '.' ∉ toDec k := fun k => not_mem_of_digits _ (toDec_digits k) '.' rfl
  cases n with
  | ofNat k => exact h k
  | negSucc k => exact List.not_mem_cons_of_ne_of_not_mem (by decide) (h (k + 1))

theorem intToDec_head (n : Int) : ∃ c cs, intToDec n = c :: cs ∧ (c = '-' ∨ isDigit c = true) := by
  cases n with
  | ofNat k =>
    obtain ⟨c, cs, hd, hc⟩ := toDec_cons k
    exact ⟨c, cs, hd, Or.inr hc⟩
  | negSucc k => exact ⟨'-', toDec (k + 1), rfl, Or.inl rfl⟩

theorem dash_not_mem_toDec (n : Nat) : '-' ∉ toDec n :=
  not_mem_of_digits _ (toDec_digits n) '-' (by decide)

theorem comma_not_mem_toDec (n : Nat) : ',' ∉ toDec n :=
  not_mem_of_digits _ (toDec_digits n) ',' (by decide)

/-- for a given `kw` the hypothesis is a closed Boolean: `by decide` -/
theorem kw_not_prefix_toDec (kw : Str) (n : Nat) (h : (match kw with | c :: _ => !isDigit c | [] => false) = true) :
    kw.isPrefixOf (toDec n) = false := by
  obtain ⟨x, xs, hd, hx⟩ := toDec_cons n
  cases kw with
  | nil => cases h
  | cons c r =>
    have : c ≠ x := fun e => by subst e; simp [hx] at h
    simp [hd, List.isPrefixOf, this]

theorem lstrip_of_head (l : Str) (h : ∀ c, l.head? = some c → isSpace c = false) : lstrip l = l :=
  dropWhile_head isSpace l h

theorem rstrip_of_last (l : Str) (h : ∀ c, l.getLast? = some c → isSpace c = false) : rstrip l = l := by
  unfold rstrip
  rw [dropWhile_head isSpace l.reverse (by simpa using h), List.reverse_reverse]

theorem strip_id (s : Str) (h1 : ∀ c, s.head? = some c → isSpace c = false)
    (h2 : ∀ c, s.getLast? = some c → isSpace c = false) : strip s = s := by
  unfold strip; rw [lstrip_of_head s h1, rstrip_of_last s h2]

theorem strip_noSpace (s : Str) (h : ∀ c ∈ s, isSpace c = false) : strip s = s :=
  strip_id s (fun c hc => h c (List.mem_of_mem_head? hc)) (fun c hc => h c (List.mem_of_getLast? hc))

theorem strip_digits (s : Str) (hs : ∀ c ∈ s, isDigit c = true) : strip s = s :=
  strip_noSpace s (fun c hc => isSpace_of_isDigit c (hs c hc))

theorem rstrip_prefix (l : Str) : rstrip l <+: l := by
  unfold rstrip
  have := List.reverse_prefix.mpr (List.dropWhile_suffix isSpace (l := l.reverse))
  rwa [List.reverse_reverse] at this

theorem rstrip_idem (l : Str) : rstrip (rstrip l) = rstrip l := by
  unfold rstrip; rw [List.reverse_reverse, dropWhile_idem]

theorem strip_head (l : Str) : ∀ c, (strip l).head? = some c → isSpace c = false := by
  intro c hc
  obtain ⟨t, ht⟩ := rstrip_prefix (lstrip l)
  have hl : (lstrip l).head? = some c := by
    unfold strip at hc
    cases hr : rstrip (lstrip l) with
    | nil => rw [hr] at hc; cases hc
    | cons a r => rw [hr] at hc ht; rw [← ht]; simpa using hc
  have := List.head?_dropWhile_not isSpace l
  unfold lstrip at hl
  rw [hl] at this
  exact this

theorem strip_mem (l : Str) (c : Char) (h : c ∈ strip l) : c ∈ l :=
  (List.dropWhile_sublist _).mem ((rstrip_prefix (lstrip l)).sublist.mem h)

theorem mem_strip_of_nonspace (c : Char) (l : Str) (hc : c ∈ l) (hs : isSpace c = false) : c ∈ strip l := by
  unfold strip rstrip lstrip
  rw [List.mem_reverse]
  apply mem_dropWhile_of_not isSpace c hs
  rw [List.mem_reverse]
  exact mem_dropWhile_of_not isSpace c hs l hc

theorem strip_strip (l : Str) : strip (strip l) = strip l := by
  show rstrip (lstrip (strip l)) = strip l
  rw [lstrip_of_head _ (strip_head l)]
  exact rstrip_idem _

theorem lstrip_blanks (k : Nat) (t : Str) : lstrip (List.replicate k ' ' ++ t) = lstrip t :=
  List.dropWhile_append_of_pos fun _ h => List.eq_of_mem_replicate h ▸ isSpace_blank

theorem lstrip_length_le (t : Str) : (lstrip t).length ≤ t.length := by
  unfold lstrip
  exact (List.dropWhile_sublist _).length_le

theorem indent_blanks (k : Nat) (t : Str) : indent (List.replicate k ' ' ++ t) = k + indent t := by
  unfold indent
  rw [lstrip_blanks]
  have := lstrip_length_le t
  simp only [List.length_append, List.length_replicate]
  omega

theorem lstrip_replicate (n : Nat) (t : Str) (h : ∀ c, t.head? = some c → isSpace c = false) :
    lstrip (List.replicate n ' ' ++ t) = t := by
  unfold lstrip
  rw [List.dropWhile_append_of_pos (fun c hc => by rw [List.eq_of_mem_replicate hc]; decide)]
  exact dropWhile_head isSpace t h

theorem indent_replicate (n : Nat) (t : Str) (h : ∀ c, t.head? = some c → isSpace c = false) :
    indent (List.replicate n ' ' ++ t) = n := by
  simp [indent, lstrip_replicate n t h]

theorem rstrip_replicate (n : Nat) (t : Str) (h : ∀ c, t.getLast? = some c → isSpace c = false) :
    rstrip (t ++ List.replicate n ' ') = t := by
  unfold rstrip
  rw [List.reverse_append, List.reverse_replicate,
    List.dropWhile_append_of_pos (fun c hc => by rw [List.eq_of_mem_replicate hc]; decide),
    dropWhile_head isSpace _ (by simpa using h), List.reverse_reverse]

theorem pyInt_toDec (n : Nat) : pyInt (toDec n) = some (Int.ofNat n) := by
  unfold pyInt
  rw [strip_digits _ (toDec_digits n)]
  have hd := toDec_digits n
  have ho := ofDigits_toDec n
  generalize toDec n = s at hd ho
  split
  · exact absurd (hd '-' (by simp)) (by decide)
  · exact absurd (hd '+' (by simp)) (by decide)
  · simp [ho]

theorem pyInt_intToDec (k : Int) : pyInt (intToDec k) = some k := by
  cases k with
  | ofNat n => exact pyInt_toDec n
  | negSucc n =>
    have hs : ∀ c ∈ '-' :: toDec (n + 1), isSpace c = false := by
      intro c hc
      rcases List.mem_cons.mp hc with rfl | hc
      · decide
      · exact isSpace_of_isDigit c (toDec_digits _ c hc)
    simp only [intToDec]
    unfold pyInt
    rw [strip_noSpace _ hs]
    simp only [ofDigits_toDec, Option.map_some]
    rfl

theorem splitOn_ne_nil (sep : Char) (s : Str) : splitOn sep s ≠ [] := by
  induction s with
  | nil => simp [splitOn]
  | cons c cs ih =>
    unfold splitOn
    split
    · simp
    · split <;> simp

theorem splitOn_cons_sep (sep : Char) (cs : Str) :
    splitOn sep (sep :: cs) = [] :: splitOn sep cs := by
  simp only [splitOn]
  split
  · rename_i e; exact absurd e (splitOn_ne_nil _ _)
  · rename_i e; simp [e]

theorem splitOn_not_mem (sep : Char) (w : Str) (h : sep ∉ w) : splitOn sep w = [w] := by
  induction w with
  | nil => rfl
  | cons c cs ih =>
    have hc : c ≠ sep := fun e => h (by simp [e])
    have := ih (fun hm => h (by simp [hm]))
    simp [splitOn, this, hc]

theorem splitOn_append (sep : Char) (w rest : Str) (h : sep ∉ w) :
    splitOn sep (w ++ sep :: rest) = w :: splitOn sep rest := by
  induction w with
  | nil => exact splitOn_cons_sep sep rest
  | cons c cs ih =>
    have hc : c ≠ sep := fun e => h (by simp [e])
    have := ih (fun hm => h (by simp [hm]))
    simp [splitOn, this, hc]

theorem splitOn_slash (a m : Str) (ha : ∀ c ∈ a, c ≠ '/') (hm : ∀ c ∈ m, c ≠ '/') :
    splitOn '/' (a ++ '/' :: m) = [a, m] := by
  rw [splitOn_append '/' a m (not_mem_of_ne ha), splitOn_not_mem '/' m (not_mem_of_ne hm)]

theorem tail_splitOn_cons (sep c : Char) (cs : Str) (x : Str) (hx : x ∈ (splitOn sep cs).tail) :
    x ∈ (splitOn sep (c :: cs)).tail := by
  simp only [splitOn]
  split
  · rename_i e; exact absurd e (splitOn_ne_nil _ _)
  · rename_i w ws e
    rw [e] at hx
    split <;> simp_all

theorem join_cons_cons (sep w v : Str) (ws : List Str) :
    join sep (w :: v :: ws) = w ++ sep ++ join sep (v :: ws) := rfl

theorem splitOn_join (sep : Char) (ws : List Str) (hne : ws ≠ []) (h : ∀ w ∈ ws, sep ∉ w) :
    splitOn sep (join [sep] ws) = ws := by
  induction ws with
  | nil => exact absurd rfl hne
  | cons w ws ih =>
    cases ws with
    | nil => simpa [join] using splitOn_not_mem sep w (h w (by simp))
    | cons w2 ws =>
      have := ih (by simp) (fun x hx => h x (by simp [hx]))
      rw [join_cons_cons, List.append_assoc, List.singleton_append,
        splitOn_append sep w _ (h w (by simp)), this]

theorem join_splitOn (sep : Char) (s : Str) :
    join [sep] (splitOn sep s) = s ∧ ∀ w ∈ splitOn sep s, sep ∉ w := by
  induction s with
  | nil => simp [splitOn, join]
  | cons c cs ih =>
    unfold splitOn
    split
    · rename_i e; exact absurd e (splitOn_ne_nil _ _)
    · rename_i w ws e
      rw [e] at ih
      by_cases hc : c = sep
      · subst hc
        simp only [if_true, join_cons_cons, List.nil_append, List.singleton_append, ih.1, true_and]
        intro x hx
        rcases List.mem_cons.mp hx with rfl | hx
        · simp
        · exact ih.2 x hx
      · simp only [hc, if_false]
        constructor
        · cases ws with
          | nil => simpa [join] using ih.1
          | cons v vs => simpa [join_cons_cons] using ih.1
        · intro x hx
          rcases List.mem_cons.mp hx with rfl | hx
          · have := ih.2 w (by simp)
            simp [this, Ne.symm hc]
          · exact ih.2 x (by simp [hx])

theorem join_append (sep : Str) (ws vs : List Str) (hw : ws ≠ []) (hv : vs ≠ []) :
    join sep (ws ++ vs) = join sep ws ++ sep ++ join sep vs := by
  induction ws with
  | nil => exact absurd rfl hw
  | cons w ws ih =>
    cases ws with
    | nil =>
      cases vs with
      | nil => exact absurd rfl hv
      | cons v vs => rfl
    | cons w2 ws =>
      rw [List.cons_append, List.cons_append, join_cons_cons, ← List.cons_append, ih (by simp), join_cons_cons]
      simp only [List.append_assoc]

theorem join_snoc (sep : Str) (M : List Str) (hM : M ≠ []) (x : Str) :
    join sep (M ++ [x]) = join sep M ++ sep ++ x := by
  induction M with
  | nil => exact absurd rfl hM
  | cons l r ih =>
    cases r with
    | nil => simp [join]
    | cons l2 r =>
      rw [List.cons_append, List.cons_append, join_cons_cons, join_cons_cons, ← List.cons_append, ih (by simp)]
      simp [List.append_assoc]

theorem join_final {sep : Str} {ls : List Str} (h : ls ≠ []) : join sep ls ++ sep = join sep (ls ++ [[]]) := by
  rw [join_snoc sep ls h, List.append_nil]

theorem mem_join_of_mem (sep : Str) {ws : List Str} {w : Str} (hw : w ∈ ws) {c : Char} (hc : c ∈ w) :
    c ∈ join sep ws := by
  induction ws with
  | nil => cases hw
  | cons a r ih =>
    cases r with
    | nil => simpa [join, List.mem_singleton.mp hw] using hc
    | cons b r =>
      rw [join_cons_cons]
      rcases List.mem_cons.mp hw with rfl | hw
      · simp [hc]
      · exact List.mem_append_right _ (ih hw)

theorem join_chars (sep : Str) (ws : List Str) (P : Char → Prop) (hs : ∀ c ∈ sep, P c)
    (hw : ∀ w ∈ ws, ∀ c ∈ w, P c) : ∀ c ∈ join sep ws, P c := by
  induction ws with
  | nil => simp [join]
  | cons w ws ih =>
    cases ws with
    | nil => simpa [join] using hw w (by simp)
    | cons v vs =>
      intro c hc
      rw [join_cons_cons] at hc
      rcases List.mem_append.mp hc with hc | hc
      · rcases List.mem_append.mp hc with hc | hc
        · exact hw w (by simp) c hc
        · exact hs c hc
      · exact ih (fun x hx => hw x (by simp [hx])) c hc

theorem length_join (sep : Char) (ws : List Str) (hne : ws ≠ []) :
    (join [sep] ws).length + 1 = (ws.map fun w => w.length + 1).sum := by
  induction ws with
  | nil => exact absurd rfl hne
  | cons w ws ih =>
    cases ws with
    | nil => simp [join]
    | cons v vs =>
      have := ih (by simp)
      simp only [join, List.length_append, List.map_cons, List.sum_cons, List.length_cons, List.length_nil] at this ⊢
      omega

theorem join_ne_nil (sep : Str) (ws : List Str) (hne : ws ≠ []) (h : ∀ w ∈ ws, w ≠ []) :
    join sep ws ≠ [] := by
  match ws, hne with
  | [w], _ => simpa [join] using h w (by simp)
  | w :: v :: vs, _ => simp [join_cons_cons, h w (by simp)]

end Ccp.Py
