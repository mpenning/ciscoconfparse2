import Ccp.Proofs.EditLinks
import Ccp.Proofs.TreeKeep
/-!
Parent links after an edit (C06), lifted to the parser and the edit state machine.  For a config
without banner / macro starts (`Plain`) the parse is pass 1 alone, i.e. the indentation rule, with
or without `ignore_blank_lines` (`parse_plain`); a committed auto-commit state over such a config
(`PlainCommitted`) stays one under every edit that adds copies of a plain payload (`edited_plain`),
so each operation's effect on the parents is the list-level fact of `Ccp.Proofs.EditLinks` about
the texts before and after.
-/
namespace Ccp.Tree
open Ccp.Py

def Plain (cfg : Cfg) (ls : List Str) : Prop :=
  (∀ x ∈ ls, isBannerStart x = false) ∧ (cfg.ios = true → ∀ x ∈ ls, isMacroStart x = false)

instance (cfg : Cfg) (ls : List Str) : Decidable (Plain cfg ls) := inferInstanceAs (Decidable (_ ∧ _))

theorem plain_of_mem (cfg : Cfg) {ls ls' : List Str} {txt : Str} (h : ∀ y ∈ ls', y = txt ∨ y ∈ ls)
    (hp : Plain cfg ls) (hb : isBannerStart txt = false) (hm : cfg.ios = true → isMacroStart txt = false) :
    Plain cfg ls' :=
  ⟨fun y hy => (h y hy).elim (· ▸ hb) (hp.1 y), fun hios y hy => (h y hy).elim (· ▸ hm hios) (hp.2 hios y)⟩

theorem plain_sublist (cfg : Cfg) {ls ls' : List Str} (h : ls'.Sublist ls) (hp : Plain cfg ls) : Plain cfg ls' :=
  ⟨fun x hx => hp.1 x (h.subset hx), fun hios x hx => hp.2 hios x (h.subset hx)⟩

theorem mem_take_cons_drop {α} {ls : List α} {k : Nat} {x y : α} (h : y ∈ ls.take k ++ x :: ls.drop k) : y = x ∨ y ∈ ls := by
  rcases List.mem_append.mp h with h | h
  · exact .inr (List.mem_of_mem_take h)
  · exact (List.mem_cons.mp h).imp id List.mem_of_mem_drop

def noIg (cfg : Cfg) : Cfg := { cfg with ignoreBlank := false }

theorem noIg_of_false (cfg : Cfg) (h : cfg.ignoreBlank = false) : noIg cfg = cfg := by
  cases cfg; simp only [noIg] at *; subst h; rfl

theorem link_noIg (cfg : Cfg) (ls : List Str) : link (noIg cfg) ls = link cfg ls := rfl

theorem plain_noIg (cfg : Cfg) (ls : List Str) : Plain (noIg cfg) ls ↔ Plain cfg ls := Iff.rfl

theorem parse_ignore_plain (cfg : Cfg) (ls : List Str) (hi : cfg.ignoreBlank = true) (hp : Plain cfg ls) :
    parse cfg ls = parse (noIg cfg) (ls.filter nonBlank) := by
  rw [Ccp.Edit.parse_eq_bootstrap, Ccp.Edit.parse_eq_bootstrap, Ccp.Edit.bootstrap_noignore (noIg cfg) _ rfl, link_noIg]
  rw [bootstrap_is_link cfg ls, bootstrap_texts_eq_scan cfg hi ls, keptScan_plain cfg ls hp.1 hp.2]

theorem parse_noIg (cfg : Cfg) (ls : List Str) (hp : Plain cfg ls)
    (hnb : cfg.ignoreBlank = true → ∀ x ∈ ls, nonBlank x = true) : parse cfg ls = parse (noIg cfg) ls := by
  cases hi : cfg.ignoreBlank with
  | false => rw [noIg_of_false cfg hi]
  | true => rw [parse_ignore_plain cfg ls hi hp, List.filter_eq_self.mpr (hnb hi)]

theorem parse_plain (cfg : Cfg) (ls : List Str) (hp : Plain cfg ls)
    (hnb : cfg.ignoreBlank = true → ∀ x ∈ ls, nonBlank x = true) :
    parse cfg ls = { texts := ls, parents := linkByIndent cfg ls, keep := ls.map (fun _ => false) } := by
  rw [parse_noIg cfg ls hp hnb, Ccp.Edit.parse_eq_bootstrap, Ccp.Edit.bootstrap_noignore _ _ rfl, link_noIg,
    link_plain cfg ls hp.1 hp.2]

theorem parse_texts' (cfg : Cfg) (ls : List Str) (hp : Plain cfg ls)
    (hnb : cfg.ignoreBlank = true → ∀ x ∈ ls, nonBlank x = true) : (parse cfg ls).texts = ls := by
  rw [parse_plain cfg ls hp hnb]

theorem parentOf_linkByIndent (cfg : Cfg) (ls : List Str) (keep : List Bool) {j : Nat} (hj : j < ls.length) :
    parentOf { texts := ls, parents := linkByIndent cfg ls, keep := keep } j = specParent (ls.map (info cfg)) j := by
  simp [parentOf, linkByIndent_eq_map, hj]

theorem parse_parentOf (cfg : Cfg) (ls : List Str) (hp : Plain cfg ls)
    (hnb : cfg.ignoreBlank = true → ∀ x ∈ ls, nonBlank x = true)
    (j : Nat) (hj : j < ls.length) : parentOf (parse cfg ls) j = specParent (ls.map (info cfg)) j := by
  rw [parse_plain cfg ls hp hnb, parentOf_linkByIndent cfg ls _ hj]

theorem parse_specTree (cfg : Cfg) (ls : List Str) (hp : Plain cfg ls)
    (hnb : cfg.ignoreBlank = true → ∀ x ∈ ls, nonBlank x = true) :
    SpecTree (parse cfg ls) (ls.map (info cfg)) := by
  have hsz : (parse cfg ls).size = ls.length := by rw [parse_plain cfg ls hp hnb]; rfl
  refine ⟨bootstrap_forest cfg _, by simp [hsz], fun j hj => parse_parentOf cfg ls hp hnb j (by omega), ?_⟩
  intro j l hl hc
  simp only [List.getElem?_map, Option.map_eq_some_iff] at hl
  obtain ⟨txt, _, rfl⟩ := hl
  simp only [info, isConfigLine, Bool.and_eq_true, Bool.not_eq_true'] at hc ⊢
  exact hc.2

theorem info_getD (cfg : Cfg) (ls : List Str) (j : Nat) (hj : j < ls.length) :
    (ls.map (info cfg))[j]? = some (info cfg (ls.getD j [])) := by
  simp [List.getElem?_map, List.getD_eq_getElem?_getD, List.getElem?_eq_getElem hj]

theorem isCmt_of_cfg (cfg : Cfg) (t : Str) (h : isConfigLine cfg t = true) : isComment cfg t = false := by
  simp only [isConfigLine, Bool.and_eq_true, Bool.not_eq_true'] at h
  exact h.2

theorem specTree_child {cfg : Cfg} {ls : List Str} {t : T} (h : SpecTree t (ls.map (info cfg))) {i c : Nat}
    (hc : c ∈ children t i) :
    i < c ∧ c < ls.length ∧ isConfigLine cfg (ls.getD i []) = true ∧ indent (ls.getD i []) < indent (ls.getD c []) ∧
    commentUnderDeeper (ls.map (info cfg)) c = false := by
  obtain ⟨hcs, hpc, hci⟩ := mem_children.mp hc
  obtain ⟨lp, lc, e1, e2, hic, e4, e5, e6⟩ := specTree_parent h hcs (hpc ▸ Ne.symm hci)
  have hcl : c < ls.length := by have := h.2.1; simp only [List.length_map] at this; exact this ▸ hcs
  rw [hpc] at e1 hic
  rw [info_getD cfg ls i (Nat.lt_trans hic hcl)] at e1
  rw [info_getD cfg ls c hcl] at e2
  cases e1; cases e2
  exact ⟨hic, hcl, e4, e5, e6⟩

def shiftAfter (e p : Nat) : Nat := if p ≤ e then p else p + 1

theorem shiftAfter_eq_shiftAt (e p : Nat) : shiftAfter e p = shiftAt (e + 1) p := by
  simp only [shiftAfter, shiftAt, Nat.lt_succ_iff]

end Ccp.Tree

namespace Ccp.Edit
open Ccp.Py Ccp.Tree

theorem nonBlank_eq (x : Str) : nonBlank x = !isBlank x := rfl

theorem auto_tree_after (s : S) (ha : s.auto = true) (its : List Item) (st : Bool) :
    (autoCommit { s with items := its, stale := st, dirty := true }).tree
      = parse s.cfg (its.map Item.text) := by
  simp only [autoCommit, ha, if_true, commit]
  rw [parse_eq_bootstrap]; rfl

theorem auto_texts_after (s : S) (ha : s.auto = true) (its : List Item) (st : Bool) :
    (autoCommit { s with items := its, stale := st, dirty := true }).texts
      = (parse s.cfg (its.map Item.text)).texts := by
  rw [autoCommit_on { s with items := its, stale := st, dirty := true } ha, commit_texts, parse_eq_bootstrap]
  rfl

theorem fresh_nonblank (s : S) (hd : s.dirty = false) (hinv : FreshInv s) (hp : Plain s.cfg s.texts)
    (hi : s.cfg.ignoreBlank = true) : ∀ x ∈ s.texts, nonBlank x = true := by
  have h := fresh_texts_fixed s hd hinv
  rw [bootstrap_texts_eq_scan _ hi, keptScan_plain _ _ hp.1 hp.2] at h
  exact List.filter_eq_self.mp h.symm

/-- the hypotheses under which the parent links are those of the indentation rule; `fresh` is
C07's invariant -/
structure PlainCommitted (s : S) : Prop where
  clean : s.dirty = false
  fresh : FreshInv s
  auto : s.auto = true
  plain : Plain s.cfg s.texts

/-- a payload that keeps the config plain and survives the commit -/
def PlainPayload (s : S) (txt : Str) : Prop :=
  isBannerStart txt = false ∧ (s.cfg.ios = true → isMacroStart txt = false) ∧
  (s.cfg.ignoreBlank = true → isBlank txt = false)

instance (s : S) (txt : Str) : Decidable (PlainPayload s txt) := inferInstanceAs (Decidable (_ ∧ _))

theorem PlainPayload.not_blank {s : S} {txt : Str} (hx : PlainPayload s txt) :
    ¬ (isBlank txt = true ∧ s.cfg.ignoreBlank = true) :=
  fun ⟨h1, h2⟩ => by rw [hx.2.2 h2] at h1; cases h1

namespace PlainCommitted
variable {s : S} (h : PlainCommitted s)
include h

theorem noBlank : s.cfg.ignoreBlank = true → ∀ x ∈ s.texts, nonBlank x = true :=
  fresh_nonblank s h.clean h.fresh h.plain

theorem tree_eq : s.tree = parse s.cfg s.texts := (h.fresh h.clean).1

theorem specTree : SpecTree s.tree (s.texts.map (info s.cfg)) := by
  rw [h.tree_eq]; exact parse_specTree s.cfg s.texts h.plain h.noBlank

theorem parentOf_eq {j : Nat} (hj : j < s.texts.length) :
    parentOf s.tree j = specParent (s.texts.map (info s.cfg)) j := by
  rw [h.tree_eq]; exact parse_parentOf s.cfg s.texts h.plain h.noBlank j hj

theorem size_eq : s.tree.size = s.texts.length := by rw [T.size, ← (h.fresh h.clean).2.1]

theorem indentOf_eq (i : Nat) : indentOf s.tree i = indent (s.texts.getD i []) := by
  rw [indentOf, ← (h.fresh h.clean).2.1]

end PlainCommitted

theorem auto_commit_plain (s : S) (ha : s.auto = true) (its : List Item) (st : Bool)
    (hp : Plain s.cfg (its.map Item.text))
    (hnb : s.cfg.ignoreBlank = true → ∀ x ∈ its.map Item.text, nonBlank x = true) :
    (autoCommit { s with items := its, stale := st, dirty := true }).texts = its.map Item.text ∧
    (autoCommit { s with items := its, stale := st, dirty := true }).tree = parse s.cfg (its.map Item.text) := by
  refine ⟨?_, auto_tree_after s ha its st⟩
  rw [auto_texts_after s ha, parse_texts' s.cfg _ hp hnb]

theorem edited_plain {s : S} (h : PlainCommitted s) {txt : Str} (hx : PlainPayload s txt) (its : List Item) (st : Bool)
    {new : List Str} (hnew : its.map Item.text = new) (hmem : ∀ y ∈ new, y = txt ∨ y ∈ s.texts) :
    (autoCommit { s with items := its, stale := st, dirty := true }).texts = new ∧
    (autoCommit { s with items := its, stale := st, dirty := true }).tree
      = { texts := new, parents := linkByIndent s.cfg new, keep := new.map (fun _ => false) } := by
  subst hnew
  have hp := plain_of_mem s.cfg hmem h.plain hx.1 hx.2.1
  have hnb : s.cfg.ignoreBlank = true → ∀ y ∈ its.map Item.text, nonBlank y = true := fun hi y hy =>
    (hmem y hy).elim (fun e => by rw [e, nonBlank_eq, hx.2.2 hi]; rfl) (h.noBlank hi y)
  obtain ⟨h1, h2⟩ := auto_commit_plain s h.auto its st hp hnb
  exact ⟨h1, h2.trans (parse_plain _ _ hp hnb)⟩

theorem items_insert_texts (s : S) (c : Nat) (txt : Str) :
    (s.items.take c ++ fresh txt :: s.items.drop c).map Item.text = s.texts.take c ++ txt :: s.texts.drop c := by
  simp [S.texts, List.map_take, List.map_drop, fresh]

/-- The parent frame of a one-line insertion at `c`, as in `specParent_insert`; `capturedBy` is read
by `Ccp.C06.captured_iff`. -/
def InsertFrame (s s' : S) (c : Nat) (txt : Str) : Prop :=
  s'.texts = s.texts.take c ++ txt :: s.texts.drop c ∧
  (∀ j, j < c → parentOf s'.tree j = parentOf s.tree j) ∧
  (∀ j, c ≤ j → j < s.texts.length → ¬ (j = c ∧ isComment s.cfg (s.texts.getD j []) = true) →
    parentOf s'.tree (j + 1)
      = if capturedBy (s.texts.map (info s.cfg)) (info s.cfg txt) c j = true then c
        else shiftAt c (parentOf s.tree j))

theorem auto_insert_frame (s : S) (c : Nat) (txt : Str) (st : Bool) (h : PlainCommitted s)
    (hx : PlainPayload s txt) (hc : c ≤ s.texts.length) :
    let s' := autoCommit { s with items := s.items.take c ++ fresh txt :: s.items.drop c, stale := st, dirty := true }
    InsertFrame s s' c txt ∧ s'.tree.size = s.texts.length + 1 ∧
    ∀ q, q < s.texts.length + 1 → parentOf s'.tree q
      = specParent ((s.texts.map (info s.cfg)).take c ++ info s.cfg txt :: (s.texts.map (info s.cfg)).drop c) q := by
  intro s'
  obtain ⟨h1, h2⟩ := edited_plain h hx _ st (items_insert_texts s c txt) (fun y => mem_take_cons_drop)
  have h3 := fun q => parentOf_linkByIndent s.cfg (s.texts.take c ++ txt :: s.texts.drop c)
    ((s.texts.take c ++ txt :: s.texts.drop c).map (fun _ => false)) (j := q)
  rw [← h2] at h3
  have hlen : (s.texts.take c ++ txt :: s.texts.drop c).length = s.texts.length + 1 := by simp; omega
  have hnew : (s.texts.take c ++ txt :: s.texts.drop c).map (info s.cfg)
      = (s.texts.map (info s.cfg)).take c ++ info s.cfg txt :: (s.texts.map (info s.cfg)).drop c := by
    simp [List.map_take, List.map_drop]
  rw [hlen, hnew] at h3
  obtain ⟨f1, f2⟩ := specParent_insert (s.texts.map (info s.cfg)) (info s.cfg txt) c (by simpa using hc)
  refine ⟨⟨h1, fun j hj => ?_, fun j hcj hjl hcm => ?_⟩, by rw [h2, T.size, hlen], h3⟩
  · have hjl := Nat.lt_of_lt_of_le hj hc
    rw [h3 j (Nat.lt_succ_of_lt hjl), f1 j hj, h.parentOf_eq hjl]
  · rw [h3 (j + 1) (Nat.succ_lt_succ hjl), f2 j _ hcj (info_getD s.cfg s.texts j hjl) hcm, h.parentOf_eq hjl]

theorem insertFrame_of_step (s : S) (c : Nat) (txt : Str) (st : Bool) (s' : S) (h : PlainCommitted s)
    (hx : PlainPayload s txt) (hc : c ≤ s.texts.length)
    (hs : s' = autoCommit { s with items := s.items.take c ++ fresh txt :: s.items.drop c, stale := st, dirty := true }) :
    InsertFrame s s' c txt :=
  hs ▸ (auto_insert_frame s c txt st h hx hc).1

/-- `replace_text` / `re_sub` on line `p`, then the auto-commit -/
theorem replace_parents (s : S) (p : Nat) (new : Str) (s' : S) (h : PlainCommitted s) (hx : PlainPayload s new)
    (hp : p < s.texts.length)
    (hs : s' = autoCommit { s with items := setText s.items p new, dirty := true }) :
    s'.texts = s.texts.set p new ∧
    (∀ j, j < p → parentOf s'.tree j = parentOf s.tree j) ∧
    (info s.cfg new = info s.cfg (s.texts.getD p []) → s'.tree.parents = s.tree.parents) := by
  obtain ⟨h1, h2⟩ := edited_plain h hx _ s.stale (new := s.texts.set p new) (setText_texts s.items p new)
    (fun y hy => (List.mem_or_eq_of_mem_set hy).symm)
  have hs' : s' = autoCommit { s with items := setText s.items p new, stale := s.stale, dirty := true } := hs
  rw [← hs'] at h1 h2
  have hmap : (s.texts.set p new).map (info s.cfg) = (s.texts.map (info s.cfg)).set p (info s.cfg new) :=
    List.map_set
  refine ⟨h1, fun j hj => ?_, fun hinfo => ?_⟩
  · rw [h2, parentOf_linkByIndent _ _ _ (by simp; omega), h.parentOf_eq (by omega), hmap]
    exact specParent_congr _ _ j fun m hm => List.getElem?_set_ne (by omega)
  · rw [h2, h.tree_eq, parse_plain s.cfg _ h.plain h.noBlank]
    show linkLoop St.init 0 ((s.texts.set p new).map (info s.cfg)) = linkLoop St.init 0 (s.texts.map (info s.cfg))
    rw [hmap, hinfo, ← (List.getElem?_eq_some_iff.mp (info_getD s.cfg s.texts p hp)).2, List.set_getElem_self]

theorem auto_commit_blank_noop (s : S) (its : List Item) (st : Bool) (h : PlainCommitted s)
    (hi : s.cfg.ignoreBlank = true) (hp' : Plain s.cfg (its.map Item.text))
    (hfil : (its.map Item.text).filter nonBlank = s.texts) :
    let s' := autoCommit { s with items := its, stale := st, dirty := true }
    s'.texts = s.texts ∧ s'.tree = s.tree := by
  intro s'
  have hparse : parse s.cfg (its.map Item.text) = s.tree := by
    rw [parse_ignore_plain s.cfg _ hi hp', hfil, h.tree_eq, parse_noIg s.cfg s.texts h.plain h.noBlank]
  refine ⟨?_, (auto_tree_after s h.auto its st).trans hparse⟩
  show (autoCommit _).texts = _
  rw [auto_texts_after s h.auto, hparse, h.tree_eq, parse_texts' s.cfg s.texts h.plain h.noBlank]

theorem posOf_lt_texts {s : S} {h p : Nat} (hp : posOf s.items h = some p) : p < s.texts.length := by
  rw [texts_length]; exact (posOf_some hp).1

theorem step_insert (s : S) (k : Int) (txt : Str) :
    (step s (.insert k txt)).1 = autoCommit { s with
      items := s.items.take (insertPos s.texts.length k) ++ fresh txt :: s.items.drop (insertPos s.texts.length k),
      stale := true, dirty := true } := by
  simp only [step]
  rw [pyInsert_eq, texts_length]

theorem step_objInsBefore {s : S} {h p : Nat} {txt : Str} (hp : posOf s.items h = some p)
    (hb : ¬ (isBlank txt = true ∧ s.cfg.ignoreBlank = true)) :
    step s (.objInsBefore h txt)
      = (autoCommit { s with items := s.items.take p ++ fresh txt :: s.items.drop p, dirty := true }, .ok ()) := by
  simp only [step, hp, Bool.and_eq_true, hb, if_false]

theorem step_objInsAfter {s : S} {h p : Nat} {txt : Str} (hp : posOf s.items h = some p)
    (hb : ¬ (isBlank txt = true ∧ s.cfg.ignoreBlank = true)) :
    step s (.objInsAfter h txt)
      = (autoCommit { s with items := s.items.take (p + 1) ++ fresh txt :: s.items.drop (p + 1), dirty := true },
         .ok ()) := by
  simp only [step, hp, Bool.and_eq_true, hb, if_false]

theorem step_listIns {s : S} (row : List Bool) {txt : Str} (hb : ¬ (isBlank txt = true ∧ s.cfg.ignoreBlank = true)) :
    step s (.listInsBefore false row txt)
      = (autoCommit { s with items := insertAtMatches false (fresh txt) s.items row, dirty := true }, .ok ()) ∧
    step s (.listInsAfter false row txt)
      = (autoCommit { s with items := insertAtMatches true (fresh txt) s.items row, dirty := true }, .ok ()) := by
  simp only [step, Bool.and_eq_true, hb, if_false, Bool.false_eq_true, and_self]

theorem step_replaceText {s : S} {h p : Nat} (before after : Str) (hp : posOf s.items h = some p) :
    step s (.replaceText h before after)
      = (autoCommit { s with items := setText s.items p (pyReplace before after (s.texts.getD p [])),
                             dirty := true }, .ok ()) := by
  simp only [step, hp]

theorem step_reSub {s : S} {h p : Nat} {newText : Str} (hp : posOf s.items h = some p) (hs : s.stale = false)
    (hne : newText ≠ s.texts.getD p []) :
    step s (.reSub h newText)
      = (autoCommit { s with items := setText s.items p newText, dirty := true }, .ok ()) := by
  simp only [step, hp, hs, Bool.false_eq_true, if_false, if_neg hne]

theorem step_delete {s : S} {i : Nat} (hd : s.dirty = false) (hi : i < s.texts.length) :
    step s (.delete i)
      = (autoCommit { s with items := eraseAll s.items (descendantsAndSelf s.tree i), dirty := true }, .ok ()) := by
  have : ¬ i ≥ s.items.length := by rw [← texts_length]; omega
  simp only [step, hd, Bool.false_or, decide_eq_true_eq, this, if_false]

/-- the index `appendIndex` computes is clipped to the length, like `list.insert` -/
theorem step_appendToFamily_insert (s : S) (i : Nat) (txt : Str) (ind : Int) (ai : Bool)
    (hok : (step s (.appendToFamily i txt ind ai)).2 = .ok ()) :
    ∃ idx, appendIndex s.tree s.width i (familyText (indentOf s.tree i) s.width txt ind ai) = .ok idx ∧
      i < s.texts.length ∧
      (step s (.appendToFamily i txt ind ai)).1 = autoCommit { s with
        items := s.items.take (min idx s.texts.length)
          ++ fresh (familyText (indentOf s.tree i) s.width txt ind ai) :: s.items.drop (min idx s.texts.length),
        stale := true, dirty := true } := by
  obtain ⟨_, h2, _, idx, h4, h5⟩ := step_appendToFamily_ok s i txt ind ai hok
  exact ⟨idx, h4, by rw [texts_length]; exact h2, by rw [h5, pyInsert_eq, insertPos_natCast, texts_length]⟩

theorem cfi_some_mod (w si : Nat) (txt : Str) (a : Int) (h : cfi w si txt = some a) :
    w ≠ 0 ∧ indent txt % w = 0 := by
  unfold cfi at h
  dsimp only at h
  split at h
  · cases h
  · rename_i hw
    split at h
    · cases h
    · rename_i hm
      exact ⟨hw, by simpa using hm⟩

theorem cfi_one (w si : Nat) (txt : Str) (h : cfi w si txt = some 1) :
    si < indent txt ∧ (indent txt - si) / w = 1 := by
  obtain ⟨hw, hm⟩ := cfi_some_mod w si txt 1 h
  unfold cfi at h
  dsimp only at h
  rw [if_neg hw, if_neg (by simp [hm])] at h
  split at h
  · cases h
  · injection h with h
    -- truncated division gives a positive quotient only for a positive dividend
    have hpos : si < indent txt := by
      refine Nat.lt_of_not_le fun hle => ?_
      have h1 : Int.tdiv (-((indent txt : Int) - si)) w ≥ 0 := Int.tdiv_nonneg (by omega) (Int.natCast_nonneg w)
      rw [Int.neg_tdiv] at h1
      omega
    refine ⟨hpos, ?_⟩
    rw [show ((indent txt : Int) - (si : Int)) = ((indent txt - si : Nat) : Int) by omega] at h
    have h' : (((indent txt - si) / w : Nat) : Int) = 1 := h
    exact_mod_cast h'

theorem cfi_one_eq (w si : Nat) (txt : Str) (h : cfi w si txt = some 1) (hs : si % w = 0) :
    indent txt = si + w := by
  obtain ⟨hlt, hd⟩ := cfi_one w si txt h
  have := Nat.mul_div_cancel' (Nat.dvd_sub (Nat.dvd_of_mod_eq_zero (cfi_some_mod w si txt 1 h).2)
    (Nat.dvd_of_mod_eq_zero hs))
  rw [hd] at this
  omega

theorem appendIndex_child_level_cfi (t : T) (w self : Nat) (s : Str) (idx : Nat)
    (hk : children t self ≠ []) (h : appendIndex t w self s = .ok idx)
    (h0 : cfi w (indentOf t self) s ≠ some 0) :
    (∃ a, cfi w (indentOf t self) (t.texts.getD ((children t self).getLast?.getD self) []) = some a) ∧
    (∃ b, cfi w (indentOf t self) (t.texts.getD self []) = some b) := by
  unfold appendIndex at h
  dsimp only at h
  rw [if_neg (by simpa using hk)] at h
  split at h
  · rename_i c ifi hc hifi
    refine ⟨⟨c, hc⟩, ?_⟩
    split at h
    · rename_i hz; rw [hifi, hz] at h0; exact absurd rfl h0
    · split at h
      · cases h
      · rename_i selfc hselfc
        exact ⟨selfc, hselfc⟩
  · cases h

/-- Holds for every indent width: the code classifies the last child and the target against the
width, so the last child is at least one width deeper than the target, and the configuration-line
children of a line are indented in non-increasing order. -/
theorem appendToFamily_children_deep (s : S) (i : Nat) (txt' : Str) (idx : Nat) (hc : PlainCommitted s)
    (hk : children s.tree i ≠ []) (h4 : appendIndex s.tree s.width i txt' = .ok idx)
    (h0 : cfi s.width (indentOf s.tree i) txt' ≠ some 0) :
    ∀ c, c ∈ children s.tree i → isConfigLine s.cfg (s.texts.getD c []) = true →
      indent txt' ≤ indent (s.texts.getD c []) := by
  intro c hcm hcc
  have htexts := (hc.fresh hc.clean).2.1
  have hst := hc.specTree
  obtain ⟨⟨a, ha⟩, ⟨b, hb⟩⟩ := appendIndex_child_level_cfi _ _ _ _ idx hk h4 h0
  rw [← htexts] at ha hb
  obtain ⟨k, hkl⟩ : ∃ k, (children s.tree i).getLast? = some k := by
    cases hl : (children s.tree i).getLast? with
    | none => exact absurd (List.getLast?_eq_none_iff.mp hl) hk
    | some k => exact ⟨k, rfl⟩
  rw [hkl, Option.getD_some] at ha
  have hx : indent txt' = indent (s.texts.getD i []) + s.width := by
    rw [← hc.indentOf_eq]
    exact cfi_one_eq _ _ _ (appendIndex_child_level _ _ _ _ idx hk h4 h0).2 (by rw [hc.indentOf_eq]; exact (cfi_some_mod _ _ _ _ hb).2)
  obtain ⟨_, hkl', _, hlt, e6⟩ := specTree_child hst (List.mem_of_getLast? hkl)
  have hkdeep : indent (s.texts.getD i []) + s.width ≤ indent (s.texts.getD k []) := by
    have := Nat.le_of_dvd (Nat.sub_pos_of_lt hlt) (Nat.dvd_sub (Nat.dvd_of_mod_eq_zero (cfi_some_mod _ _ _ _ ha).2)
      (Nat.dvd_of_mod_eq_zero (cfi_some_mod _ _ _ _ hb).2))
    omega
  by_cases hckeq : c = k
  · subst hckeq; exact hx ▸ hkdeep
  · obtain ⟨hic, hcl, _⟩ := specTree_child hst hcm
    have hck : c ≤ k := (getLast?_sorted_max (children_sorted s.tree i) hkl).2 c hcm
    refine Nat.le_of_not_lt fun hlt' => ?_
    have := specTree_candidate hst (info_getD s.cfg s.texts k hkl') e6 (info_getD s.cfg s.texts c hcl)
      hcc (Nat.lt_of_lt_of_le hlt' (hx ▸ hkdeep)) (Nat.lt_of_le_of_ne hck hckeq)
    exact Nat.not_le.mpr hic ((mem_children.mp (List.mem_of_getLast? hkl)).2.1 ▸ this.1)

theorem lpl_go_notin (t : T) (w self si : Nat) (l : List Nat) (acc : Option Nat)
    (h : ∀ j ∈ l, inLineage t self j = false) : lastParentLinenum0.go t w self si l acc = some acc := by
  induction l generalizing acc with
  | nil => rfl
  | cons j js ih =>
    unfold lastParentLinenum0.go
    rw [h j (List.mem_cons_self ..)]
    exact ih acc (fun k hk => h k (List.mem_cons_of_mem _ hk))

theorem lpl_go_append (t : T) (w self si : Nat) (l1 l2 : List Nat) (acc : Option Nat) :
    lastParentLinenum0.go t w self si (l1 ++ l2) acc
      = (lastParentLinenum0.go t w self si l1 acc).bind (lastParentLinenum0.go t w self si l2) := by
  induction l1 generalizing acc with
  | nil => rfl
  | cons j js ih =>
    simp only [List.cons_append]
    unfold lastParentLinenum0.go
    split
    · split
      · rfl
      · exact ih _
    · exact ih _

theorem inLineage_childless {t : T} (hf : Forest t) {i j : Nat} (hk : children t i = [])
    (h : inLineage t i j = true) : j ≤ i := by
  unfold inLineage at h
  rw [lineage_eq hf j] at h
  have h' : i ∈ allParents t j ++ [j] ++ allChildren t j := by simpa using h
  rcases List.mem_append.mp h' with h' | h'
  · rcases List.mem_append.mp h' with h' | h'
    · -- `i` would be an ancestor of `j`, but it has no children
      have hanc := (mem_allParents hf).mp h'
      obtain ⟨c, hc1, hc2, hc3⟩ := ancestors_child hanc
      have hcs : c < t.size := by
        rcases hc3 with rfl | hc
        · exact ancestors_lt_size hf hanc
        · exact Nat.lt_trans (ancestors_lt hc) (ancestors_lt_size hf hc)
      have : c ∈ children t i := mem_children.mpr ⟨hcs, hc1, by omega⟩
      rw [hk] at this; cases this
    · simp at h'; omega
  · have := ancestors_lt ((mem_allChildren hf).mp h'); omega

theorem lastParentLinenum0_childless {t : T} (hf : Forest t) (w i lp : Nat) (hi : i < t.size)
    (hk : children t i = []) (h : lastParentLinenum0 t w i = some lp) : lp = i := by
  unfold lastParentLinenum0 at h
  dsimp only at h
  have hr : List.range t.size = List.range i ++ (i :: (List.range (t.size - (i + 1))).map (i + 1 + ·)) := by
    have h1 : t.size = (i + 1) + (t.size - (i + 1)) := by omega
    conv => lhs; rw [h1, List.range_add, List.range_succ]
    simp
  rw [hr, lpl_go_append] at h
  cases h1 : lastParentLinenum0.go t w i (indentOf t i) (List.range i) none with
  | none => rw [h1] at h; cases h
  | some a =>
    rw [h1] at h
    simp only [Option.bind_some] at h
    unfold lastParentLinenum0.go at h
    have hself : inLineage t i i = true := by
      unfold inLineage
      rw [lineage_eq hf i]; simp
    rw [hself] at h
    simp only [if_true] at h
    split at h
    · cases h
    · rename_i k hk'
      have := cfi_self w t i k hk'
      subst this
      rw [lpl_go_notin] at h
      · simp at h; exact h.symm
      · intro j hj
        simp only [List.mem_map, List.mem_range] at hj
        obtain ⟨d, _, rfl⟩ := hj
        cases hin : inLineage t i (i + 1 + d) with
        | false => rfl
        | true => have := inLineage_childless hf hk hin; omega

end Ccp.Edit
