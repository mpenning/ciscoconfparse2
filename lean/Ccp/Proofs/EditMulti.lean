import Ccp.Proofs.EditFrame
/-!
Parent links after a list-level `insert_before` / `insert_after` (C06): the new
list holds the old lines at the positions marked by `insertMarks`; removing the inserted
copies gives back the old list (`sel_insertAtMatches`), so `specParent_sel` applies *in
reverse* (`specParent_sel_kept`): an old line whose new parent is an old line has the image of its
old parent as its new parent.  For copies placed above configuration lines that are not indented deeper than
the payload, no old line is adopted by a copy.
-/
namespace Ccp.Tree
open Ccp.Py

/-- which positions of `insertAtMatches after x l row` (with `n = l.length`) hold old lines -/
def insertMarks (after : Bool) : Nat → List Bool → List Bool
  | 0, _ => []
  | _ + 1, [] => []
  | n + 1, b :: bs =>
    if b then (if after then true :: false :: insertMarks after n bs else false :: true :: insertMarks after n bs)
    else true :: insertMarks after n bs

/-- positions beyond the marks hold old lines (the unmatched tail) -/
def markFn (m : List Bool) (q : Nat) : Bool := m.getD q true

theorem markFn_cons_succ (b : Bool) (m : List Bool) (q : Nat) : markFn (b :: m) (q + 1) = markFn m q := by
  simp [markFn]

theorem markFn_cons_zero (b : Bool) (m : List Bool) : markFn (b :: m) 0 = b := by simp [markFn]

theorem sel_markFn_cons (b : Bool) (m : List Bool) (a : α) (l : List α) :
    sel (markFn (b :: m)) 0 (a :: l) = if b then a :: sel (markFn m) 0 l else sel (markFn m) 0 l := by
  have : (fun q => markFn (b :: m) (q + 1)) = markFn m := by funext q; exact markFn_cons_succ b m q
  simp only [sel, markFn_cons_zero, sel_shift, this]

theorem sel_insertAtMatches (after : Bool) (x : α) (l : List α) (row : List Bool) :
    sel (markFn (insertMarks after l.length row)) 0 (Ccp.Edit.insertAtMatches after x l row) = l := by
  induction l generalizing row with
  | nil => cases row <;> rfl
  | cons a as ih =>
    cases row with
    | nil =>
      have : markFn (insertMarks after (a :: as).length []) = fun _ => true := by
        funext q; simp [insertMarks, markFn]
      rw [this]; exact sel_all 0 _
    | cons b bs =>
      simp only [List.length_cons, insertMarks, Ccp.Edit.insertAtMatches]
      cases b
      · simp [sel_markFn_cons, ih bs]
      · cases after
        · simp [sel_markFn_cons, ih bs]
        · simp [sel_markFn_cons, ih bs]

theorem insertBefore_next (x : α) (Q : α → Prop) (l : List α) (row : List Bool)
    (hQ : ∀ i a, l[i]? = some a → row.getD i false = true → Q a) :
    ∀ P, markFn (insertMarks false l.length row) P = false →
      (Ccp.Edit.insertAtMatches false x l row)[P]? = some x ∧
      markFn (insertMarks false l.length row) (P + 1) = true ∧
      ∃ a, (Ccp.Edit.insertAtMatches false x l row)[P + 1]? = some a ∧ Q a := by
  induction l generalizing row with
  | nil => intro P hP; cases row <;> cases hP
  | cons a as ih =>
    intro P hP
    cases row with
    | nil => cases hP
    | cons b bs =>
      have hQ' : ∀ i a', as[i]? = some a' → bs.getD i false = true → Q a' :=
        fun i a' h1 h2 => hQ (i + 1) a' h1 h2
      cases b with
      | false =>
        -- an unmatched head: marks and list are those of the tail behind one old line
        cases P with
        | zero => cases hP
        | succ P => exact ih bs hQ' P hP
      | true =>
        -- a matched head: the copy at 0, the head at 1, then the tail
        match P, hP with
        | 0, _ => exact ⟨rfl, rfl, a, rfl, hQ 0 a rfl rfl⟩
        | P + 2, hP => exact ih bs hQ' P hP

theorem no_adoption_before (x : Info) (infos : List Info) (row : List Bool)
    (hQ : ∀ i a, infos[i]? = some a → row.getD i false = true → a.isCfg = true ∧ a.indent ≤ x.indent)
    (q : Nat) (hq : q < (Ccp.Edit.insertAtMatches false x infos row).length)
    (hk : markFn (insertMarks false infos.length row) q = true) :
    markFn (insertMarks false infos.length row)
      (specParent (Ccp.Edit.insertAtMatches false x infos row) q) = true := by
  generalize hN : Ccp.Edit.insertAtMatches false x infos row = N at hq ⊢
  cases hP : markFn (insertMarks false infos.length row) (specParent N q) with
  | true => rfl
  | false =>
    exfalso
    have hne : specParent N q ≠ q := by intro h; rw [h, hk] at hP; cases hP
    have hl : N[q]? = some N[q] := List.getElem?_eq_getElem hq
    obtain ⟨_, hc, hlt, lP, e1, _, e3⟩ := specParent_ne_self hl hne
    obtain ⟨n1, _, a, n3, n4, n5⟩ := insertBefore_next x (fun a => a.isCfg = true ∧ a.indent ≤ x.indent) infos row hQ _ hP
    rw [hN] at n1 n3
    rw [n1] at e1; cases e1
    by_cases hnext : specParent N q + 1 = q
    · rw [hnext, hl] at n3; cases n3; omega
    · have := specParent_of_candidate hl hc n3 n4 (by omega) (by omega)
      omega

end Ccp.Tree

namespace Ccp.Edit
open Ccp.Py Ccp.Tree

/-- The parent frame of a list-level insert: `keep` marks the positions of the new list that hold
old lines; an old line at new position `q` was at `rank keep q`.  Left out: a comment directly
behind an inserted copy, and a line whose new parent is an inserted copy. -/
def MultiFrame (s s' : S) (after : Bool) (row : List Bool) (txt : Str) : Prop :=
  let keep := markFn (insertMarks after s.texts.length row)
  s'.texts = insertAtMatches after txt s.texts row ∧
  sel keep 0 s'.texts = s.texts ∧
  ∀ q, q < s'.texts.length → keep q = true →
    rank keep q < s.texts.length ∧ s.texts[rank keep q]? = s'.texts[q]? ∧
    (¬ (isComment s.cfg (s'.texts.getD q []) = true ∧ ∃ q', q = q' + 1 ∧ keep q' = false) →
      keep (parentOf s'.tree q) = true →
      parentOf s.tree (rank keep q) = rank keep (parentOf s'.tree q))

theorem multi_insert_spec (s : S) (after : Bool) (row : List Bool) (txt : Str) (s' : S) (h : PlainCommitted s)
    (hx : PlainPayload s txt)
    (hs : s' = autoCommit { s with items := insertAtMatches after (fresh txt) s.items row, dirty := true }) :
    let keep := markFn (insertMarks after s.texts.length row)
    let N := insertAtMatches after (info s.cfg txt) (s.texts.map (info s.cfg)) row
    s'.texts = insertAtMatches after txt s.texts row ∧
    sel keep 0 s'.texts = s.texts ∧
    sel keep 0 N = s.texts.map (info s.cfg) ∧ N.length = s'.texts.length ∧
    (∀ q, q < s'.texts.length → parentOf s'.tree q = specParent N q) ∧
    (∀ q (hq : q < N.length), N[q] = info s.cfg (s'.texts.getD q [])) := by
  intro keep N
  obtain ⟨h1, h2⟩ := edited_plain h hx (insertAtMatches after (fresh txt) s.items row) s.stale
    (new := insertAtMatches after txt s.texts row) (by rw [insertAtMatches_map, fresh_text, items_map_text])
    (mem_insertAtMatches after txt s.texts row)
  have hs' : s' = autoCommit
      { s with items := insertAtMatches after (fresh txt) s.items row, stale := s.stale, dirty := true } := hs
  rw [← hs'] at h1 h2
  have hNmap : s'.texts.map (info s.cfg) = N := by rw [h1]; exact insertAtMatches_map _ _ _ _ _
  have hNlen : N.length = s'.texts.length := by rw [← hNmap, List.length_map]
  refine ⟨h1, by rw [h1]; exact sel_insertAtMatches after txt s.texts row, ?_, hNlen, fun q hq => ?_, fun q hq => ?_⟩
  · simpa using sel_insertAtMatches after (info s.cfg txt) (s.texts.map (info s.cfg)) row
  · rw [h2, ← h1, parentOf_linkByIndent _ _ _ hq, hNmap]
  · have := info_getD s.cfg s'.texts q (by omega)
    rw [hNmap, List.getElem?_eq_getElem hq] at this
    exact Option.some.inj this

theorem multiFrame_of_step (s : S) (after : Bool) (row : List Bool) (txt : Str) (s' : S) (h : PlainCommitted s)
    (hx : PlainPayload s txt)
    (hs : s' = autoCommit { s with items := insertAtMatches after (fresh txt) s.items row, dirty := true }) :
    MultiFrame s s' after row txt := by
  obtain ⟨g1, g2, g3, g4, g5, g7⟩ := multi_insert_spec s after row txt s' h hx hs
  refine ⟨g1, g2, fun q hq hk => ?_⟩
  have hget := sel_getElem? (markFn (insertMarks after s.texts.length row)) s'.texts q hq hk
  rw [g2] at hget
  have hr := (List.getElem?_eq_some_iff.mp (hget.trans (List.getElem?_eq_getElem hq))).1
  refine ⟨hr, hget, fun hcm hpar => ?_⟩
  rw [g5 q hq] at hpar ⊢
  have := specParent_sel_kept _ _ q (by omega) hk (by rw [g7 q (by omega)]; exact hcm) hpar
  rw [g3] at this
  rw [h.parentOf_eq hr]; exact this

end Ccp.Edit
