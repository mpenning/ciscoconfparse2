import Ccp.Model.IPTextX
import Ccp.Proofs.IPText
/-!
The factories `_get_ipv4` / `_get_ipv6` of C11 (`Ccp.Model.IPTextX`): one body (`getBody`) under the handler `wrapAVE`.
-/
namespace Ccp.IPTextX
open Ccp.Py Ccp.IPText

instance {α : Type} [DecidableEq α] : DecidableEq (Except Err α) := fun a b =>
  match a, b with
  | .ok x, .ok y => if h : x = y then isTrue (by rw [h]) else isFalse (by intro e; cases e; exact h rfl)
  | .error x, .error y => if h : x = y then isTrue (by rw [h]) else isFalse (by intro e; cases e; exact h rfl)
  | .ok _, .error _ => isFalse (by intro e; cases e)
  | .error _, .ok _ => isFalse (by intro e; cases e)

theorem wrapAVE_error {α : Type} (r : Except Err α) (e : Err) (h : wrapAVE r = .error e) :
    e = .addressValueError := by
  cases r with
  | ok a => simp [wrapAVE] at h
  | error e' => simp [wrapAVE] at h; exact h.symm

theorem wrapAVE_ok {α : Type} (r : Except Err α) (a : α) : wrapAVE r = .ok a ↔ r = .ok a := by
  cases r <;> simp [wrapAVE]

theorem wrapAVE_idem {α : Type} (r : Except Err α) : wrapAVE (wrapAVE r) = wrapAVE r := by
  cases r <;> rfl

/-- the body of `_get_ipv4` / `_get_ipv6` before the handler; the two differ in the stdlib check, the constructor,
`.network`, the host prefix length and the kind of value returned -/
def getBody (std : Val → Except Err Unit) (ctor : Val → Except Err Obj) (network : Obj → Except Err (Nat × Nat))
    (maxLen : Nat) (obj : Obj → Ret) (addr : Nat → Ret) (net : Nat × Nat → Ret) (val : Val) (stdlib : Bool) :
    Except Err Ret := do
  std val
  let o ← ctor val
  if !stdlib then pure (obj o)
  else if o.len = maxLen then pure (addr o.ip)
  else do
    let n ← network o
    pure (net n)

theorem getBody_ok {std : Val → Except Err Unit} {ctor : Val → Except Err Obj} {network : Obj → Except Err (Nat × Nat)}
    {maxLen : Nat} {obj : Obj → Ret} {addr : Nat → Ret} {net : Nat × Nat → Ret} (val : Val) (stdlib : Bool) (r : Ret) :
    getBody std ctor network maxLen obj addr net val stdlib = .ok r ↔
      std val = .ok () ∧ ∃ o, ctor val = .ok o ∧
        ((stdlib = false ∧ r = obj o) ∨
         (stdlib = true ∧ o.len = maxLen ∧ r = addr o.ip) ∨
         (stdlib = true ∧ o.len ≠ maxLen ∧ ∃ n, network o = .ok n ∧ r = net n)) := by
  unfold getBody
  cases h1 : std val with
  | error e => simp [bind, Except.bind]
  | ok u =>
    cases h2 : ctor val with
    | error e => simp [bind, Except.bind]
    | ok o =>
      cases stdlib
      · simp [bind, Except.bind, pure, Except.pure, eq_comm]
      · by_cases hl : o.len = maxLen
        · simp [bind, Except.bind, pure, Except.pure, hl, eq_comm]
        · cases h3 : network o with
          | error e => simp [bind, Except.bind, hl, h3]
          | ok n =>
            simp only [bind, Except.bind, pure, Except.pure, hl, h3, Bool.not_true, Bool.false_eq_true, if_false,
              Except.ok.injEq, true_and, reduceCtorEq, false_and, false_or, ne_eq, not_false_eq_true, exists_eq_left']
            exact eq_comm

def getBody4 : Val → Bool → Except Err Ret :=
  getBody stdNet4 ctor4 V4.network Gen.ipv4MaxPrefixlen .obj4 .addr4 .net4

def getBody6 : Val → Bool → Except Err Ret :=
  getBody stdNet6 ctor6 V6.network Gen.ipv6MaxPrefixlen .obj6 .addr6 .net6

theorem getIpv4_eq (val : Val) (stdlib : Bool) : getIpv4 val stdlib = wrapAVE (getBody4 val stdlib) := rfl
theorem getIpv6_eq (val : Val) (stdlib : Bool) : getIpv6 val stdlib = wrapAVE (getBody6 val stdlib) := rfl

theorem getBody4_ok (val : Val) (stdlib : Bool) (r : Ret) :
    getBody4 val stdlib = .ok r ↔
      stdNet4 val = .ok () ∧ ∃ o, ctor4 val = .ok o ∧
        ((stdlib = false ∧ r = .obj4 o) ∨
         (stdlib = true ∧ o.len = Gen.ipv4MaxPrefixlen ∧ r = .addr4 o.ip) ∨
         (stdlib = true ∧ o.len ≠ Gen.ipv4MaxPrefixlen ∧ ∃ n, V4.network o = .ok n ∧ r = .net4 n)) :=
  getBody_ok val stdlib r

theorem getBody6_ok (val : Val) (stdlib : Bool) (r : Ret) :
    getBody6 val stdlib = .ok r ↔
      stdNet6 val = .ok () ∧ ∃ o, ctor6 val = .ok o ∧
        ((stdlib = false ∧ r = .obj6 o) ∨
         (stdlib = true ∧ o.len = Gen.ipv6MaxPrefixlen ∧ r = .addr6 o.ip) ∨
         (stdlib = true ∧ o.len ≠ Gen.ipv6MaxPrefixlen ∧ ∃ n, V6.network o = .ok n ∧ r = .net6 n)) :=
  getBody_ok val stdlib r

end Ccp.IPTextX
