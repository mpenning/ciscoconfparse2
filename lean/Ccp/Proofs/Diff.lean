import Ccp.Model.Diff
import Ccp.Proofs.Py
/-!
C10 (`Ccp.Model.Diff`).  A hierarchical line of a delta is analysed by its first text
(`cons_mem_paths_diff`); every fact about `diff` is an induction on the line along that.  `apply` does not
depend on the order of the commands when no removal touches an addition (`mem_apply`), as in a delta
(`not_kills_target`).  `ReadsBack` is the invariant under which the loader's indentation rule reads a printed delta back.
-/
namespace Ccp.Diff
open Ccp.Py

theorem pathsT_node (t : Str) (cs : Forest) : pathsT (.node t cs) = [t] :: (pathsF cs).map (t :: ·) := by
  simp [pathsT]
theorem pathsF_nil : pathsF [] = [] := by simp [pathsF]
theorem pathsF_cons (x : Tree) (r : Forest) : pathsF (x :: r) = pathsT x ++ pathsF r := by simp [pathsF]

theorem nil_not_mem_paths (f : Forest) : [] ∉ pathsF f := by
  induction f with
  | nil => simp [pathsF_nil]
  | cons x r ih => obtain ⟨u, cs⟩ := x; simp [pathsF_cons, pathsT_node, ih]

theorem paths_ne_nil {p : Path} {f : Forest} (h : p ∈ pathsF f) : p ≠ [] :=
  fun e => nil_not_mem_paths f (e ▸ h)

theorem cons_mem_paths {t : Str} {q : Path} {f : Forest} :
    t :: q ∈ pathsF f ↔ ∃ cs, Tree.node t cs ∈ f ∧ (q = [] ∨ q ∈ pathsF cs) := by
  induction f with
  | nil => simp [pathsF_nil]
  | cons x r ih =>
    obtain ⟨u, cs⟩ := x
    simp only [pathsF_cons, pathsT_node, List.cons_append, List.mem_cons, List.mem_append, List.mem_map, ih,
      List.cons.injEq, Tree.node.injEq]
    constructor
    · rintro (⟨rfl, rfl⟩ | ⟨q', hq, rfl, rfl⟩ | ⟨cs', hm, h⟩)
      · exact ⟨cs, Or.inl ⟨rfl, rfl⟩, Or.inl rfl⟩
      · exact ⟨cs, Or.inl ⟨rfl, rfl⟩, Or.inr hq⟩
      · exact ⟨cs', Or.inr hm, h⟩
    · rintro ⟨cs', ⟨rfl, rfl⟩ | hm, h⟩
      · rcases h with rfl | h
        · exact Or.inl ⟨rfl, rfl⟩
        · exact Or.inr (Or.inl ⟨q, h, rfl, rfl⟩)
      · exact Or.inr (Or.inr ⟨cs', hm, h⟩)

theorem mem_texts {t : Str} {f : Forest} : t ∈ texts f ↔ ∃ cs, Tree.node t cs ∈ f := by
  unfold texts
  constructor
  · intro h
    obtain ⟨⟨u, cs⟩, hx, rfl⟩ := List.mem_map.mp h
    exact ⟨cs, hx⟩
  · rintro ⟨cs, h⟩
    exact List.mem_map.mpr ⟨_, h, rfl⟩

theorem single_mem_paths {t : Str} {f : Forest} : [t] ∈ pathsF f ↔ t ∈ texts f := by
  rw [cons_mem_paths, mem_texts]
  exact ⟨fun ⟨cs, hm, _⟩ => ⟨cs, hm⟩, fun ⟨cs, hm⟩ => ⟨cs, hm, Or.inl rfl⟩⟩

theorem lookup_none {t : Str} {f : Forest} : lookup t f = none ↔ t ∉ texts f := by
  induction f with
  | nil => simp [lookup, texts]
  | cons x r ih =>
    obtain ⟨u, cs⟩ := x
    by_cases h : u = t
    · simp [lookup, texts, h, Tree.text]
    · have : ¬ t = u := fun e => h e.symm
      simp [lookup, h, this, ih, texts, Tree.text]

theorem lookup_some_mem {t : Str} {f cs : Forest} (h : lookup t f = some cs) : Tree.node t cs ∈ f := by
  induction f with
  | nil => simp [lookup] at h
  | cons x r ih =>
    obtain ⟨u, cs'⟩ := x
    by_cases e : u = t
    · simp [lookup, e] at h; subst h; subst e; exact List.mem_cons_self
    · simp [lookup, e] at h; exact List.mem_cons_of_mem _ (ih h)

theorem distinctF_cons {x : Tree} {r : Forest} :
    DistinctF (x :: r) ↔ x.text ∉ texts r ∧ DistinctF x.children ∧ DistinctF r := by
  obtain ⟨t, cs⟩ := x
  simp [DistinctF, DistinctT, Tree.text, Tree.children]

theorem distinct_child {f : Forest} (hd : DistinctF f) {t : Str} {cs : Forest}
    (h : Tree.node t cs ∈ f) : DistinctF cs := by
  induction f with
  | nil => cases h
  | cons x r ih =>
    rw [distinctF_cons] at hd
    rcases List.mem_cons.mp h with rfl | h
    · exact hd.2.1
    · exact ih hd.2.2 h

theorem lookup_of_distinct {f : Forest} (hd : DistinctF f) {t : Str} {cs : Forest}
    (h : Tree.node t cs ∈ f) : lookup t f = some cs := by
  induction f with
  | nil => cases h
  | cons x r ih =>
    rw [distinctF_cons] at hd
    obtain ⟨u, cs'⟩ := x
    rcases List.mem_cons.mp h with e | h
    · cases e; simp [lookup]
    · have hne : u ≠ t := by
        rintro rfl
        exact hd.1 (mem_texts.mpr ⟨cs, h⟩)
      simp [lookup, hne, ih hd.2.2 h]

theorem distinct_unique {f : Forest} (hd : DistinctF f) {t : Str} {cs cs' : Forest}
    (h : Tree.node t cs ∈ f) (h' : Tree.node t cs' ∈ f) : cs = cs' :=
  Option.some.inj ((lookup_of_distinct hd h).symm.trans (lookup_of_distinct hd h'))

theorem Tree.ind {P : Tree → Prop} (h : ∀ t cs, (∀ x ∈ cs, P x) → P (.node t cs)) (x : Tree) : P x :=
  Tree.rec (motive_1 := P) (motive_2 := fun f => ∀ x ∈ f, P x) h (fun _ hx => nomatch hx)
    (fun _ _ hx hr _ hm => (List.mem_cons.mp hm).elim (· ▸ hx) (hr _)) x

theorem Forest.ind {P : Forest → Prop} (h : ∀ f, (∀ t cs, Tree.node t cs ∈ f → P cs) → P f) (f : Forest) : P f :=
  h f fun t cs _ => Tree.ind (P := fun x => P x.children)
    (fun _ cs ih => h cs fun t' cs' hm => ih (.node t' cs') hm) (.node t cs)

theorem mem_diffLeft {x : Tree} {o n : Forest} :
    x ∈ diffLeft o n ↔ ∃ t cs, Tree.node t cs ∈ o ∧ t ∉ texts n ∧ x = .node (negate t) [] := by
  unfold diffLeft
  simp only [List.mem_map, List.mem_filter]
  constructor
  · rintro ⟨⟨t, cs⟩, ⟨hc, hnot⟩, rfl⟩
    exact ⟨t, cs, hc, by simpa [Tree.text] using hnot, rfl⟩
  · rintro ⟨t, cs, hc, hnot, rfl⟩
    exact ⟨.node t cs, ⟨hc, by simpa [Tree.text] using hnot⟩, rfl⟩

theorem diffF_eq_flatMap (o n : Forest) : diffF o n = n.flatMap (diffT o) := by
  induction n with
  | nil => simp [diffF]
  | cons x r ih => simp [diffF, ih]

theorem diffT_node (o : Forest) (t : Str) (tcs : Forest) :
    diffT o (.node t tcs) =
      match lookup t o with
      | some scs => if (diff scs tcs).isEmpty then [] else [.node t (diff scs tcs)]
      | none => [.node t tcs] := by
  rw [diffT]; rfl

theorem mem_diff {x : Tree} {o n : Forest} :
    x ∈ diff o n ↔
      (∃ t cs, Tree.node t cs ∈ o ∧ t ∉ texts n ∧ x = .node (negate t) []) ∨
      (∃ t ncs, Tree.node t ncs ∈ n ∧ lookup t o = none ∧ x = .node t ncs) ∨
      (∃ t ncs ocs, Tree.node t ncs ∈ n ∧ lookup t o = some ocs ∧ diff ocs ncs ≠ [] ∧
        x = .node t (diff ocs ncs)) := by
  rw [show diff o n = diffLeft o n ++ diffF o n from rfl, List.mem_append, mem_diffLeft, diffF_eq_flatMap,
    List.mem_flatMap]
  refine or_congr_right ⟨?_, ?_⟩
  · rintro ⟨⟨t, ncs⟩, hm, h⟩
    rw [diffT_node] at h
    cases hl : lookup t o with
    | none => rw [hl] at h; exact Or.inl ⟨t, ncs, hm, hl, by simpa using h⟩
    | some ocs =>
      rw [hl] at h
      by_cases he : diff ocs ncs = []
      · simp [he] at h
      · exact Or.inr ⟨t, ncs, ocs, hm, hl, he, by simpa [he] using h⟩
  · rintro (⟨t, ncs, hm, hl, rfl⟩ | ⟨t, ncs, ocs, hm, hl, hne, rfl⟩)
    · exact ⟨_, hm, by simp [diffT_node, hl]⟩
    · exact ⟨_, hm, by simp [diffT_node, hl, hne]⟩

theorem cons_mem_paths_diff {a : Str} {q : Path} {o n : Forest} :
    a :: q ∈ pathsF (diff o n) ↔
      (q = [] ∧ ∃ t cs, Tree.node t cs ∈ o ∧ t ∉ texts n ∧ a = negate t) ∨
      (lookup a o = none ∧ a :: q ∈ pathsF n) ∨
      (∃ ncs ocs, Tree.node a ncs ∈ n ∧ lookup a o = some ocs ∧
        (q = [] ∧ diff ocs ncs ≠ [] ∨ q ∈ pathsF (diff ocs ncs))) := by
  simp only [cons_mem_paths, mem_diff]
  constructor
  · rintro ⟨ds, ⟨t, cs, ho, hn, e⟩ | ⟨t, ncs, hn, hl, e⟩ | ⟨t, ncs, ocs, hn, hl, hne, e⟩, hq⟩ <;>
      obtain ⟨rfl, rfl⟩ := Tree.node.inj e
    · exact Or.inl ⟨hq.resolve_right (by simp [pathsF_nil]), t, cs, ho, hn, rfl⟩
    · exact Or.inr (Or.inl ⟨hl, ds, hn, hq⟩)
    · exact Or.inr (Or.inr ⟨ncs, ocs, hn, hl, hq.imp_left (⟨·, hne⟩)⟩)
  · rintro (⟨rfl, t, cs, ho, hn, rfl⟩ | ⟨hl, ncs, hn, hq⟩ | ⟨ncs, ocs, hn, hl, hq⟩)
    · exact ⟨[], Or.inl ⟨t, cs, ho, hn, rfl⟩, Or.inl rfl⟩
    · exact ⟨ncs, Or.inr (Or.inl ⟨a, ncs, hn, hl, rfl⟩), hq⟩
    · have hne : diff ocs ncs ≠ [] := hq.elim (·.2) fun h e => by rw [e, pathsF_nil] at h; cases h
      exact ⟨_, Or.inr (Or.inr ⟨a, ncs, ocs, hn, hl, hne, rfl⟩), hq.imp_left (·.1)⟩

theorem isRem_single (t : Str) : isRem [t] = negPrefix.isPrefixOf t := by simp [isRem]

theorem isRem_cons (t : Str) {q : Path} (hq : q ≠ []) : isRem (t :: q) = isRem q := by
  cases q with
  | nil => exact absurd rfl hq
  | cons a r => simp [isRem, List.getLast?_cons_cons]

theorem target_single (t : Str) : target [t] = [t.drop 3] := by simp [target]

theorem target_cons (t : Str) {q : Path} (hq : q ≠ []) : target (t :: q) = t :: target q := by
  cases q with
  | nil => exact absurd rfl hq
  | cons a r =>
    simp only [target, List.getLast?_cons_cons]
    cases h : (a :: r).getLast? with
    | none => simp at h
    | some l => simp [List.dropLast]

theorem target_ne_nil {q : Path} (hq : q ≠ []) : target q ≠ [] := by
  cases q with
  | nil => exact absurd rfl hq
  | cons a r =>
    unfold target
    cases h : (a :: r).getLast? with
    | none => simp at h
    | some l => simp

theorem negate_plain {t : Str} (h : negPrefix.isPrefixOf t = false) : negate t = negPrefix ++ t := by
  simp [negate, h]

theorem isRem_negate {t : Str} (h : negPrefix.isPrefixOf t = false) : isRem [negate t] = true := by
  rw [negate_plain h, isRem_single]; simp [negPrefix]

theorem target_negate {t : Str} (h : negPrefix.isPrefixOf t = false) : target [negate t] = [t] := by
  rw [negate_plain h, target_single]; simp [negPrefix]

theorem plain_text {f : Forest} (hp : Plain f) {t : Str} {cs : Forest} (h : Tree.node t cs ∈ f) :
    negPrefix.isPrefixOf t = false := by
  have := hp [t] (cons_mem_paths.mpr ⟨cs, h, Or.inl rfl⟩)
  rwa [isRem_single] at this

theorem plain_child {f : Forest} (hp : Plain f) {t : Str} {cs : Forest} (h : Tree.node t cs ∈ f) :
    Plain cs := by
  intro q hq
  have := hp (t :: q) (cons_mem_paths.mpr ⟨cs, h, Or.inr hq⟩)
  rwa [isRem_cons t (paths_ne_nil hq)] at this

theorem rem_spec {c : Path} : ∀ {o n : Forest}, DistinctF n → Plain o → Plain n →
    c ∈ pathsF (diff o n) → isRem c = true → target c ∈ pathsF o ∧ target c ∉ pathsF n := by
  induction c with
  | nil => intro o n _ _ _ h; exact absurd h (nil_not_mem_paths _)
  | cons a q ih =>
    intro o n dN pO pN h hr
    rcases cons_mem_paths_diff.mp h with ⟨rfl, t, cs, ho, hn, rfl⟩ | ⟨_, hc⟩ | ⟨ncs, ocs, hn, hl, hq⟩
    · rw [target_negate (plain_text pO ho)]
      exact ⟨single_mem_paths.mpr (mem_texts.mpr ⟨cs, ho⟩), fun hx => hn (single_mem_paths.mp hx)⟩
    · rw [pN _ hc] at hr; cases hr
    · rcases hq with ⟨rfl, _⟩ | hq
      · rw [isRem_single, plain_text pN hn] at hr; cases hr
      · have hne := paths_ne_nil hq
        have ho := lookup_some_mem hl
        rw [isRem_cons _ hne] at hr
        have := ih (distinct_child dN hn) (plain_child pO ho) (plain_child pN hn) hq hr
        rw [target_cons _ hne]
        refine ⟨cons_mem_paths.mpr ⟨ocs, ho, Or.inr this.1⟩, fun hx => ?_⟩
        obtain ⟨cs', hm', hq'⟩ := cons_mem_paths.mp hx
        rw [distinct_unique dN hm' hn] at hq'
        exact this.2 (hq'.resolve_left (target_ne_nil hne))

/-- second part: a command that is also a line of the source is only the header of a deeper command -/
theorem add_spec {c : Path} : ∀ {o n : Forest}, DistinctF o → Plain o →
    c ∈ pathsF (diff o n) → isRem c = false →
    c ∈ pathsF n ∧ (c ∈ pathsF o → ∃ x, c ++ [x] ∈ pathsF (diff o n)) := by
  induction c with
  | nil => intro o n _ _ h; exact absurd h (nil_not_mem_paths _)
  | cons a q ih =>
    intro o n dO pO h hr
    rcases cons_mem_paths_diff.mp h with ⟨rfl, t, cs, ho, hn, rfl⟩ | ⟨hl, hc⟩ | ⟨ncs, ocs, hn, hl, hq⟩
    · rw [isRem_negate (plain_text pO ho)] at hr; cases hr
    · refine ⟨hc, fun hin => ?_⟩
      obtain ⟨cs, hm, _⟩ := cons_mem_paths.mp hin
      exact absurd (mem_texts.mpr ⟨cs, hm⟩) (lookup_none.mp hl)
    · have ho := lookup_some_mem hl
      rcases hq with ⟨rfl, hne⟩ | hq
      · refine ⟨cons_mem_paths.mpr ⟨ncs, hn, Or.inl rfl⟩, fun _ => ?_⟩
        -- the delta of the children is not empty: its first line is a deeper command
        cases hd : diff ocs ncs with
        | nil => exact absurd hd hne
        | cons x r =>
          obtain ⟨u, us⟩ := x
          have : [u] ∈ pathsF (diff ocs ncs) := hd ▸ cons_mem_paths.mpr ⟨us, List.mem_cons_self, Or.inl rfl⟩
          exact ⟨u, cons_mem_paths_diff.mpr (Or.inr (Or.inr ⟨ncs, ocs, hn, hl, Or.inr this⟩))⟩
      · have hqne := paths_ne_nil hq
        rw [isRem_cons _ hqne] at hr
        obtain ⟨h1, h2⟩ := ih (distinct_child dO ho) (plain_child pO ho) hq hr
        refine ⟨cons_mem_paths.mpr ⟨ncs, hn, Or.inr h1⟩, fun hin => ?_⟩
        obtain ⟨cs', hm', hq'⟩ := cons_mem_paths.mp hin
        rw [distinct_unique dO hm' ho] at hq'
        obtain ⟨x, hx⟩ := h2 (hq'.resolve_left hqne)
        exact ⟨x, cons_mem_paths_diff.mpr (Or.inr (Or.inr ⟨ncs, ocs, hn, hl, Or.inr hx⟩))⟩

theorem target_covered {p : Path} : ∀ {o n : Forest},
    p ∈ pathsF n → p ∈ pathsF o ∨ p ∈ pathsF (diff o n) := by
  induction p with
  | nil => intro o n h; exact absurd h (nil_not_mem_paths _)
  | cons a q ih =>
    intro o n h
    cases hl : lookup a o with
    | none => exact Or.inr (cons_mem_paths_diff.mpr (Or.inr (Or.inl ⟨hl, h⟩)))
    | some ocs =>
      obtain ⟨ncs, hn, hq⟩ := cons_mem_paths.mp h
      have ho := lookup_some_mem hl
      rcases hq with rfl | hq
      · exact Or.inl (cons_mem_paths.mpr ⟨ocs, ho, Or.inl rfl⟩)
      · rcases ih (o := ocs) hq with h1 | h1
        · exact Or.inl (cons_mem_paths.mpr ⟨ocs, ho, Or.inr h1⟩)
        · exact Or.inr (cons_mem_paths_diff.mpr (Or.inr (Or.inr ⟨ncs, ocs, hn, hl, Or.inr h1⟩)))

theorem gone_removed {p : Path} : ∀ {o n : Forest}, DistinctF o → Plain o →
    p ∈ pathsF o → p ∉ pathsF n →
    ∃ c, c ∈ pathsF (diff o n) ∧ isRem c = true ∧ target c <+: p := by
  induction p with
  | nil => intro o n _ _ h; exact absurd h (nil_not_mem_paths _)
  | cons a q ih =>
    intro o n dO pO h hnot
    obtain ⟨ocs, ho, hq⟩ := cons_mem_paths.mp h
    have hpl := plain_text pO ho
    by_cases htn : a ∈ texts n
    · obtain ⟨ncs, hn⟩ := mem_texts.mp htn
      have hq' : q ∈ pathsF ocs ∧ q ∉ pathsF ncs :=
        ⟨hq.resolve_left fun e => hnot (cons_mem_paths.mpr ⟨ncs, hn, Or.inl e⟩),
         fun hx => hnot (cons_mem_paths.mpr ⟨ncs, hn, Or.inr hx⟩)⟩
      obtain ⟨c, hcm, hcr, hcp⟩ := ih (distinct_child dO ho) (plain_child pO ho) hq'.1 hq'.2
      have hcne := paths_ne_nil hcm
      refine ⟨a :: c, cons_mem_paths_diff.mpr (Or.inr (Or.inr
        ⟨ncs, ocs, hn, lookup_of_distinct dO ho, Or.inr hcm⟩)), ?_, ?_⟩
      · rw [isRem_cons _ hcne]; exact hcr
      · rw [target_cons _ hcne]; exact (List.prefix_cons_inj a).mpr hcp
    · refine ⟨[negate a], cons_mem_paths_diff.mpr (Or.inl ⟨rfl, a, ocs, ho, htn, rfl⟩), isRem_negate hpl, ?_⟩
      rw [target_negate hpl]
      simp

theorem paths_prefix_closed {p : Path} : ∀ {f : Forest} {q : Path},
    p ∈ pathsF f → q <+: p → q ≠ [] → q ∈ pathsF f := by
  induction p with
  | nil => intro f q h; exact absurd h (nil_not_mem_paths _)
  | cons a r ih =>
    intro f q h hpre hq
    cases q with
    | nil => exact absurd rfl hq
    | cons b q' =>
      obtain ⟨rfl, hpre'⟩ := List.cons_prefix_cons.mp hpre
      obtain ⟨cs, hm, hr⟩ := cons_mem_paths.mp h
      refine cons_mem_paths.mpr ⟨cs, hm, ?_⟩
      by_cases hq' : q' = []
      · exact Or.inl hq'
      · rcases hr with rfl | hr
        · exact absurd (List.prefix_nil.mp hpre') hq'
        · exact Or.inr (ih hr hpre' hq')

def Kills (c p : Path) : Prop := isRem c = true ∧ target c <+: p

theorem mem_applyCmd {s : List Path} {c p : Path} :
    p ∈ applyCmd s c ↔ (p ∈ s ∧ ¬ Kills c p) ∨ (isRem c = false ∧ p = c) := by
  unfold applyCmd Kills
  cases h : isRem c <;> simp [← List.isPrefixOf_iff_prefix]

theorem mem_apply {cmds : List Path} : ∀ {s : List Path} {p : Path},
    (∀ a ∈ cmds, isRem a = false → ∀ r ∈ cmds, ¬ Kills r a) →
    (p ∈ apply cmds s ↔ (p ∈ s ∧ ∀ c ∈ cmds, ¬ Kills c p) ∨ (p ∈ cmds ∧ isRem p = false)) := by
  induction cmds with
  | nil => intro s p _; simp [apply]
  | cons c rest ih =>
    intro s p hsep
    have hsep' : ∀ a ∈ rest, isRem a = false → ∀ r ∈ rest, ¬ Kills r a :=
      fun a ha hr r hrm => hsep a (List.mem_cons_of_mem _ ha) hr r (List.mem_cons_of_mem _ hrm)
    have : apply (c :: rest) s = apply rest (applyCmd s c) := rfl
    rw [this, ih hsep', mem_applyCmd]
    constructor
    · rintro (⟨(⟨hs, hk⟩ | ⟨hr, rfl⟩), hall⟩ | ⟨hm, hr⟩)
      · exact Or.inl ⟨hs, fun c' hc' => by
          rcases List.mem_cons.mp hc' with rfl | h
          · exact hk
          · exact hall c' h⟩
      · exact Or.inr ⟨List.mem_cons_self, hr⟩
      · exact Or.inr ⟨List.mem_cons_of_mem _ hm, hr⟩
    · rintro (⟨hs, hall⟩ | ⟨hm, hr⟩)
      · exact Or.inl ⟨Or.inl ⟨hs, hall c List.mem_cons_self⟩, fun c' hc' => hall c' (List.mem_cons_of_mem _ hc')⟩
      · rcases List.mem_cons.mp hm with rfl | hm
        · exact Or.inl ⟨Or.inr ⟨hr, rfl⟩, fun c' hc' =>
            hsep p List.mem_cons_self hr c' (List.mem_cons_of_mem _ hc')⟩
        · exact Or.inr ⟨hm, hr⟩

theorem not_kills_target {o n : Forest} (dN : DistinctF n) (pO : Plain o)
    (pN : Plain n) {r p : Path} (hr : r ∈ pathsF (diff o n)) (hp : p ∈ pathsF n) : ¬ Kills r p := by
  rintro ⟨h1, h2⟩
  have := rem_spec dN pO pN hr h1
  exact this.2 (paths_prefix_closed hp h2 (target_ne_nil (paths_ne_nil hr)))

theorem apply_diff_mem {o n : Forest} (dO : DistinctF o) (dN : DistinctF n) (pO : Plain o)
    (pN : Plain n) (p : Path) :
    p ∈ apply (pathsF (diff o n)) (pathsF o) ↔ p ∈ pathsF n := by
  have hsep : ∀ a ∈ pathsF (diff o n), isRem a = false → ∀ r ∈ pathsF (diff o n), ¬ Kills r a :=
    fun a ha hra r hr => not_kills_target dN pO pN hr (add_spec dO pO ha hra).1
  rw [mem_apply hsep]
  constructor
  · rintro (⟨hs, hall⟩ | ⟨hm, hr⟩)
    · apply Classical.byContradiction
      intro hnot
      obtain ⟨c, hc, hcr, hcp⟩ := gone_removed dO pO hs hnot
      exact hall c hc ⟨hcr, hcp⟩
    · exact (add_spec dO pO hm hr).1
  · intro hp
    rcases target_covered (o := o) hp with h | h
    · exact Or.inl ⟨h, fun c hc => not_kills_target dN pO pN hc hp⟩
    · exact Or.inr ⟨h, pN p hp⟩

theorem diffLeft_self (f : Forest) : diffLeft f f = [] := by
  unfold diffLeft
  rw [List.map_eq_nil_iff, List.filter_eq_nil_iff]
  intro c hc
  have : c.text ∈ texts f := List.mem_map.mpr ⟨c, hc, rfl⟩
  simp [this]

theorem diff_self {f : Forest} : DistinctF f → diff f f = [] := by
  induction f using Forest.ind with
  | _ f ih =>
    intro dF
    cases hd : diff f f with
    | nil => rfl
    | cons x r =>
      exfalso
      have hx : x ∈ diff f f := hd ▸ List.mem_cons_self
      rcases mem_diff.mp hx with ⟨t, cs, ho, hn, _⟩ | ⟨t, ncs, hn, hl, _⟩ | ⟨t, ncs, ocs, hn, hl, hne, _⟩
      · exact hn (mem_texts.mpr ⟨cs, ho⟩)
      · exact (lookup_none.mp hl) (mem_texts.mpr ⟨ncs, hn⟩)
      · obtain rfl : ocs = ncs := distinct_unique dF (lookup_some_mem hl) hn
        exact hne (ih t ocs hn (distinct_child dF hn))

theorem mem_texts_upd {u t : Str} {g : Forest → Forest} {f : Forest} (h : u ∈ texts (upd t g f)) :
    u ∈ texts f ∨ u = t := by
  induction f with
  | nil => exact Or.inr (by simpa [upd, texts, Tree.text] using h)
  | cons x r ih =>
    obtain ⟨v, cs⟩ := x
    unfold upd at h
    split at h
    · exact Or.inl h
    · rcases List.mem_cons.mp h with h | h
      · exact Or.inl (List.mem_cons.mpr (Or.inl h))
      · exact (ih h).imp_left (List.mem_cons_of_mem _)

theorem distinct_upd {t : Str} {g : Forest → Forest} (hg : ∀ cs, DistinctF cs → DistinctF (g cs)) :
    ∀ {f : Forest}, DistinctF f → DistinctF (upd t g f) := by
  intro f
  induction f with
  | nil => exact fun _ => distinctF_cons.mpr ⟨nofun, hg [] trivial, trivial⟩
  | cons x r ih =>
    intro hd
    obtain ⟨u, cs⟩ := x
    rw [distinctF_cons] at hd
    unfold upd
    split
    · exact distinctF_cons.mpr ⟨hd.1, hg cs hd.2.1, hd.2.2⟩
    · rename_i h
      exact distinctF_cons.mpr ⟨fun hm => (mem_texts_upd hm).elim hd.1 h, hd.2.1, ih hd.2.2⟩

theorem distinct_insertPath (q : List Str) : ∀ {f : Forest}, DistinctF f → DistinctF (insertPath q f) := by
  induction q with
  | nil => intro f h; simpa [insertPath] using h
  | cons t q ih =>
    intro f h
    simp only [insertPath]
    exact distinct_upd (fun cs hcs => ih hcs) h

theorem distinct_foldl_insert (ps : List (List Str)) : ∀ {f : Forest}, DistinctF f →
    DistinctF (ps.foldl (fun f p => insertPath p f) f) := by
  induction ps with
  | nil => intro f h; exact h
  | cons p ps ih => intro f h; exact ih (distinct_insertPath p h)

/-- `add_child` returns the existing child for a repeated text: loaded configurations have
pairwise different siblings at every level -/
theorem loadLines_distinct (lines : List Str) : DistinctF (loadLines lines) :=
  distinct_foldl_insert _ trivial

theorem loadTree_distinct (text : Str) : DistinctF (loadTree text) := loadLines_distinct _

theorem words_blanks (k : Nat) (t : Str) : words (List.replicate k ' ' ++ t) = words t := by
  unfold words
  induction k with
  | zero => rfl
  | succ k ih =>
    simp only [List.replicate_succ, List.cons_append, wordsAux, isSpace_blank, if_true]
    exact ih

theorem normLine_blanks {t : Str} (h : NormalText t) (k : Nat) :
    normLine (List.replicate k ' ' ++ t) = some (k, t) := by
  unfold NormalText normLine at *
  rw [words_blanks, indent_blanks]
  cases hw : words t with
  | nil => rw [hw] at h; cases h
  | cons w ws =>
    rw [hw] at h
    simp only [Option.some.injEq, Prod.mk.injEq] at h ⊢
    exact ⟨by omega, h.2⟩

theorem renderT_node (d : Nat) (t : Str) (cs : Forest) :
    renderT d (.node t cs) = (List.replicate (2 * d) ' ' ++ t) :: renderF (d + 1) cs := by simp [renderT]
theorem renderF_cons (d : Nat) (x : Tree) (r : Forest) : renderF d (x :: r) = renderT d x ++ renderF d r := by
  simp [renderF]
theorem renderF_nil (d : Nat) : renderF d [] = [] := by simp [renderF]

/-- sections at depth `d` or deeper: what a line printed at depth `d` walks up past -/
abbrev Deeper (d : Nat) (p : Nat × Str) : Bool := decide (2 * d ≤ p.1)

/-- the texts of a chain (kept innermost first), outermost first -/
abbrev anc (st : List (Nat × Str)) : List Str := st.reverse.map (·.2)

theorem linePaths_cons (st : List (Nat × Str)) (i : Nat) (t : Str) (rest : List (Nat × Str)) :
    linePaths st ((i, t) :: rest) = anc (step st i t) :: linePaths (step st i t) rest := by
  simp [linePaths]

/-- The lines `ls`, printed at depth `d` below the chain `base`, are read back as the hierarchical lines
`ps` below the ancestors `base`, and leave the reader where a line at depth `d` finds `base` again;
whatever deeper sections the reader starts in, whatever lines follow. -/
def ReadsBack (d : Nat) (ls : List Str) (ps : List Path) : Prop :=
  ∀ (st base : List (Nat × Str)) (rest : List Str), st.dropWhile (Deeper d) = base →
    ∃ st', st'.dropWhile (Deeper d) = base ∧
      linePaths st ((ls ++ rest).filterMap normLine) =
        ps.map (anc base ++ ·) ++ linePaths st' (rest.filterMap normLine)

theorem readsBack_nil (d : Nat) : ReadsBack d [] [] := fun st _ _ hst => ⟨st, hst, rfl⟩

theorem readsBack_append {d : Nat} {l₁ l₂ : List Str} {p₁ p₂ : List Path} (h₁ : ReadsBack d l₁ p₁)
    (h₂ : ReadsBack d l₂ p₂) : ReadsBack d (l₁ ++ l₂) (p₁ ++ p₂) := by
  intro st base rest hst
  obtain ⟨st1, h1, e1⟩ := h₁ st base (l₂ ++ rest) hst
  obtain ⟨st2, h2, e2⟩ := h₂ st1 base rest h1
  exact ⟨st2, h2, by rw [List.append_assoc, e1, e2, List.map_append, List.append_assoc]⟩

theorem readsBack_header {d : Nat} {ls : List Str} {ps : List Path} {t : Str} (ht : NormalText t)
    (h : ReadsBack (d + 1) ls ps) :
    ReadsBack d ((List.replicate (2 * d) ' ' ++ t) :: ls) ([t] :: ps.map (t :: ·)) := by
  intro st base rest hst
  have hstep : step st (2 * d) t = (2 * d, t) :: base := hst ▸ rfl
  obtain ⟨st', h1, h2⟩ := h ((2 * d, t) :: base) ((2 * d, t) :: base) rest
    (List.dropWhile_cons_of_neg (by simp [Deeper]))
  refine ⟨st', ?_, ?_⟩
  · -- walking up past depth `d` also passes the section `t` itself
    rw [← dropWhile_weaken (Deeper (d + 1)) (Deeper d)
      (fun x h => by simp only [Deeper, decide_eq_true_eq] at h ⊢; omega) st', h1,
      List.dropWhile_cons_of_pos (by simp [Deeper]), ← hst, dropWhile_idem]
  · rw [List.cons_append, List.filterMap_cons, normLine_blanks ht, linePaths_cons, hstep, h2]
    simp [anc, List.map_map, Function.comp_def]

theorem readsBack_forest (f : Forest) (d : Nat)
    (hT : ∀ x ∈ f, (∀ p ∈ pathsT x, ∀ t ∈ p, NormalText t) → ReadsBack d (renderT d x) (pathsT x))
    (hN : ∀ p ∈ pathsF f, ∀ t ∈ p, NormalText t) : ReadsBack d (renderF d f) (pathsF f) := by
  induction f with
  | nil => rw [renderF_nil, pathsF_nil]; exact readsBack_nil d
  | cons x r ih =>
    rw [pathsF_cons] at hN ⊢
    rw [renderF_cons]
    obtain ⟨hx, hr⟩ := List.forall_mem_append.mp hN
    exact readsBack_append (hT x List.mem_cons_self hx) (ih (fun y hy => hT y (List.mem_cons_of_mem _ hy)) hr)

theorem readsBack_tree (x : Tree) : ∀ (d : Nat), (∀ p ∈ pathsT x, ∀ t ∈ p, NormalText t) →
    ReadsBack d (renderT d x) (pathsT x) := by
  induction x using Tree.ind with
  | _ t cs ih =>
    intro d hN
    rw [pathsT_node] at hN ⊢
    rw [renderT_node]
    exact readsBack_header (hN [t] List.mem_cons_self t List.mem_cons_self)
      (readsBack_forest cs (d + 1) (fun x hx => ih x hx (d + 1)) fun p hp u hu =>
        hN (t :: p) (List.mem_cons_of_mem _ (List.mem_map.mpr ⟨p, hp, rfl⟩)) u (List.mem_cons_of_mem _ hu))

theorem lpT (x : Tree) : ∀ (d : Nat) (st base : List (Nat × Str)) (rest : List Str),
    (∀ p ∈ pathsT x, ∀ t ∈ p, NormalText t) → st.dropWhile (Deeper d) = base →
    ∃ st', st'.dropWhile (Deeper d) = base ∧
      linePaths st ((renderT d x ++ rest).filterMap normLine) =
        (pathsT x).map (anc base ++ ·) ++ linePaths st' (rest.filterMap normLine) :=
  fun d st base rest hN => readsBack_tree x d hN st base rest

theorem linePaths_render (f : Forest) (hN : ∀ p ∈ pathsF f, ∀ t ∈ p, NormalText t) :
    linePaths [] ((render f).filterMap normLine) = pathsF f := by
  obtain ⟨st', _, h⟩ := readsBack_forest f 0 (fun x _ => readsBack_tree x 0) hN [] [] [] rfl
  simpa [render, linePaths] using h

end Ccp.Diff
