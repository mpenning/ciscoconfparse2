import Ccp.Model.EditX
import Ccp.Proofs.Edit
/-!
The extended edit alphabet `Ccp.EditX` (C07): an extended step leaves the state alone, or does to
it what a base operation does, or is the list-level insert of a line object (`step_sim`), so the
invariants of `Ccp.Proofs.Edit` carry over.
-/
namespace Ccp.EditX
open Ccp.Py Ccp.Tree Ccp.Edit
/-- step results can be compared (used by the `decide` examples) -/
instance : DecidableEq (Except Err Unit) := fun a b =>
  match a, b with
  | .ok (), .ok () => isTrue rfl
  | .error e, .error e' =>
    if h : e = e' then isTrue (h ▸ rfl) else isFalse (fun h' => by cases h'; exact h rfl)
  | .ok _, .error _ => isFalse (fun h => by cases h)
  | .error _, .ok _ => isFalse (fun h => by cases h)

theorem liftRes_fst (r : S × Except Edit.Err Unit) : (liftRes r).1 = r.1 := rfl

theorem liftRes_ok (r : S × Except Edit.Err Unit) : (liftRes r).2 = .ok () ↔ r.2 = .ok () := by
  rcases r with ⟨s, _ | _⟩ <;> simp [liftRes]

theorem liftRes_err (r : S × Except Edit.Err Unit) (e : Edit.Err) :
    (liftRes r).2 = .error (.base e) ↔ r.2 = .error e := by
  rcases r with ⟨s, _ | _⟩ <;> simp [liftRes]

theorem step_sim (s : S) (op : Op) :
    (step s op).1 = s ∨ (∃ o, (step s op).1 = (Edit.step s o).1 ∧ (o = .commit → op = .base .commit)) ∨
    ∃ its, (step s op).1 = autoCommit { s with items := its, dirty := true } := by
  cases op with
  | base o => exact .inr (.inl ⟨o, rfl, fun h => h ▸ rfl⟩)
  | remove h => exact .inr (.inl ⟨.delete h, rfl, nofun⟩)
  | deleteAny h =>
    simp only [step]
    split
    · exact .inl rfl
    · split
      · exact .inl rfl
      · exact .inr (.inl ⟨.delete h, rfl, nofun⟩)
  | search k => exact .inr (.inl ⟨.probe, rfl, nofun⟩)
  | listInsObj after emptyRx row txt =>
    cases emptyRx
    · exact .inr (.inr ⟨_, rfl⟩)
    · exact .inl rfl
  | insertBadIndex _ => exact .inl rfl
  | insertBadValue _ => exact .inl rfl
  | listInsBadValue _ => exact .inl rfl
  | removeBadValue => exact .inl rfl

theorem step_frame (s : S) (op : Op) :
    (step s op).1.cfg = s.cfg ∧ (step s op).1.auto = s.auto ∧ (step s op).1.width = s.width := by
  rcases step_sim s op with h | ⟨o, h, _⟩ | ⟨its, h⟩ <;> rw [h]
  · exact ⟨rfl, rfl, rfl⟩
  · exact Edit.step_frame s o
  · exact autoCommit_frame _

theorem step_fresh (s : S) (op : Op) (h : FreshInv s) : FreshInv (step s op).1 := by
  rcases step_sim s op with e | ⟨o, e, _⟩ | ⟨its, e⟩ <;> rw [e]
  · exact h
  · exact Edit.step_fresh s o h
  · exact autoCommit_fresh _ rfl

theorem step_autoInv (s : S) (op : Op) (h : AutoInv s) : AutoInv (step s op).1 := by
  rcases step_sim s op with e | ⟨o, e, _⟩ | ⟨its, e⟩ <;> rw [e]
  · exact h
  · exact Edit.step_autoInv s o h
  · exact autoCommit_autoInv _

theorem step_stale_keeps (s : S) (op : Op) (ha : s.auto = false) (hs : s.stale = true) (hop : op ≠ .base .commit) :
    (step s op).1.stale = true := by
  rcases step_sim s op with e | ⟨o, e, ho⟩ | ⟨its, e⟩ <;> rw [e]
  · exact hs
  · exact Edit.step_stale_keeps s o ha hs fun h => hop (ho h)
  · rw [edited_off s its s.stale ha]; exact hs

theorem run_eq_foldl (s : S) (ops : List Op) : run s ops = ops.foldl (fun s op => (step s op).1) s := by
  induction ops generalizing s with
  | nil => rfl
  | cons op ops ih => exact ih _

theorem run_induction {P : S → Prop} {s : S} (ops : List Op) (h : P s)
    (hstep : ∀ s, P s → ∀ op ∈ ops, P (step s op).1) : P (run s ops) := by
  rw [run_eq_foldl]; exact List.foldlRecOn ops _ h hstep

theorem run_append (s : S) (ops ops' : List Op) : run s (ops ++ ops') = run (run s ops) ops' := by
  simp only [run_eq_foldl, List.foldl_append]

theorem run_frame (s : S) (ops : List Op) :
    (run s ops).cfg = s.cfg ∧ (run s ops).auto = s.auto ∧ (run s ops).width = s.width :=
  run_induction (P := fun s' => s'.cfg = s.cfg ∧ s'.auto = s.auto ∧ s'.width = s.width) ops ⟨rfl, rfl, rfl⟩
    fun s' h op _ =>
      have h2 := step_frame s' op
      ⟨h2.1.trans h.1, h2.2.1.trans h.2.1, h2.2.2.trans h.2.2⟩

theorem run_fresh (s : S) (ops : List Op) (h : FreshInv s) : FreshInv (run s ops) :=
  run_induction ops h fun s h op _ => step_fresh s op h

theorem run_autoInv (s : S) (ops : List Op) (h : AutoInv s) : AutoInv (run s ops) :=
  run_induction ops h fun s h op _ => step_autoInv s op h

theorem run_stale_keeps (s : S) (ops : List Op) (ha : s.auto = false) (hs : s.stale = true)
    (hno : ∀ op ∈ ops, op ≠ .base .commit) : (run s ops).stale = true :=
  (run_induction (P := fun s => s.auto = false ∧ s.stale = true) ops ⟨ha, hs⟩ fun s h op hm =>
    ⟨(step_frame s op).2.1.trans h.1, step_stale_keeps s op h.1 h.2 (hno op hm)⟩).2

end Ccp.EditX
