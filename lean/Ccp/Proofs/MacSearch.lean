import Ccp.Proofs.Mac
/-!
For the `str()` / `repr()` and `search_all_formats` parts of C16: the canonical upper-case text of
macaddress re-parses to the same value, and a regex without metacharacters is found in a rendering
exactly when it is a substring of it.
-/
namespace Ccp.Mac
open Ccp.Py

theorem parseObj_hwStr (k : Kind) (v : Nat) (hv : v < 2 ^ (8 * k.nbytes)) :
    parseObj k (hwStr k.cls v) = .ok v := by
  rw [hwStr_eq, toHexU_eq, parse_fill_digits k _ (tpl_mem k 0 (by omega)) _ _ (hexWith_length _ _ _),
    ofHex_hexWith hexU hexVal_hexU, pow_bits, Nat.mod_eq_of_lt hv]
  intro d hd
  obtain ⟨n, hn, rfl⟩ := mem_hexWith _ _ _ d hd
  exact isHex_hexU n hn

theorem searchAllFormats_of_parse {k : Kind} {w : Str} {v : Nat} (h : parseObj k w = .ok v) (rgxs : List Str) :
    searchAllFormats rgxs w = rgxs.any fun r => (searchTexts k v).any fun t => rxSearch r t := by
  rw [searchAllFormats, (classify_iff_parseObj w k v).mpr h]

theorem rxMatchChar_self (c : Char) : rxMatchChar c c = true := by
  unfold rxMatchChar
  split
  · next h => subst h; decide
  · simp

theorem rxAt_self : ∀ t : Str, rxAt t t = true
  | [] => rfl
  | c :: cs => by simp [rxAt, rxMatchChar_self, rxAt_self cs]

theorem rxAt_append : ∀ (p t s : Str), rxAt p t = true → rxAt p (t ++ s) = true
  | [], _, _, _ => by simp [rxAt]
  | _ :: _, [], _, h => by simp [rxAt] at h
  | p :: ps, c :: cs, s, h => by
    simp only [rxAt, Bool.and_eq_true, List.cons_append] at h ⊢
    exact ⟨h.1, rxAt_append ps cs s h.2⟩

theorem rxSearch_of_at (p : Str) : ∀ t, rxAt p t = true → rxSearch p t = true
  | [], h => by simpa [rxSearch] using h
  | c :: cs, h => by simp [rxSearch, h]

/-- every character matches itself (`.` too), so a regex is found in every text that contains it verbatim -/
theorem rxSearch_infix (p : Str) : ∀ (pre suf : Str), rxSearch p (pre ++ p ++ suf) = true
  | [], suf => by
    rw [List.nil_append]
    exact rxSearch_of_at p _ (rxAt_append p p suf (rxAt_self p))
  | c :: pre, suf => by
    simp only [List.cons_append, rxSearch, Bool.or_eq_true]
    exact Or.inr (rxSearch_infix p pre suf)

/-- the match is under `re.I`; lower-case hex digits and separators are unchanged by lower-casing -/
theorem rxAt_literal : ∀ (p t : Str), (∀ c ∈ p, c ≠ '.' ∧ lowerChar c = c) → (∀ c ∈ t, lowerChar c = c) →
    (rxAt p t = true ↔ p <+: t)
  | [], t, _, _ => by simp [rxAt]
  | _ :: _, [], _, _ => by simp [rxAt]
  | p :: ps, c :: cs, hp, ht => by
    have hp0 := hp p (List.mem_cons_self ..)
    have hc0 := ht c (List.mem_cons_self ..)
    have ih := rxAt_literal ps cs (fun x hx => hp x (List.mem_cons_of_mem _ hx))
      (fun x hx => ht x (List.mem_cons_of_mem _ hx))
    simp only [rxAt, rxMatchChar, hp0.1, if_false, hp0.2, hc0, Bool.and_eq_true, beq_iff_eq, ih,
      List.cons_prefix_cons]

theorem rxSearch_literal (p : Str) (hp : ∀ c ∈ p, c ≠ '.' ∧ lowerChar c = c) :
    ∀ t : Str, (∀ c ∈ t, lowerChar c = c) → (rxSearch p t = true ↔ p <:+: t)
  | [], _ => by
    rw [rxSearch, rxAt_literal p [] hp (by simp)]
    simp [List.prefix_nil, List.infix_nil]
  | c :: cs, ht => by
    rw [rxSearch, Bool.or_eq_true, rxAt_literal p (c :: cs) hp ht,
      rxSearch_literal p hp cs (fun x hx => ht x (List.mem_cons_of_mem _ hx)), List.infix_cons_iff]

theorem searchTexts_lower (k : Kind) (v : Nat) : ∀ t ∈ searchTexts k v, ∀ c ∈ t, lowerChar c = c := by
  have key : ∀ i, i < 4 → ∀ c ∈ fill (tpl k i) (toHex (2 * k.nbytes) v), lowerChar c = c := fun i hi =>
    List.map_inj_left.mp ((lower_fill_toHex k _ (tpl_mem k i hi) v).trans (List.map_id _).symm)
  intro t ht
  simp only [searchTexts, List.mem_cons, List.not_mem_nil, or_false] at ht
  rcases ht with rfl | rfl | rfl | rfl
  · rw [dash_eq]; exact key 0 (by omega)
  · rw [colon_eq]; exact key 1 (by omega)
  · rw [cisco_eq]; exact key 2 (by omega)
  · rw [bare_eq]; exact key 3 (by omega)

end Ccp.Mac
