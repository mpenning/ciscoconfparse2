import Ccp.Model.Typed
import Ccp.Proofs.TreeForest
/-!
C05: each loop of the typed extraction helpers is "first match" (`firstLoop_split`, `firstSome_split` for
`groupdict=`) or "filter then map" (`listLoop_eq`) over the list of lines it visits; with `recurse=True`, in a forest,
that list is `familyLines`.
-/
namespace Ccp.Typed
open Ccp.Py Ccp.Tree

theorem firstLoop_split (c : Ctx) (ty : Ty) (pre post : List Nat) (j : Nat)
    (hpre : ∀ k ∈ pre, matched (c.at k) = false) (hj : matched (c.at j) = true) :
    firstLoop c ty (pre ++ j :: post) = some (convGroup c.ip ty (c.at j)) := by
  induction pre with
  | nil => simp [firstLoop, hj]
  | cons a pre ih =>
    have ha := hpre a (List.mem_cons_self ..)
    simp only [List.cons_append, firstLoop, ha]
    exact ih (fun k hk => hpre k (List.mem_cons_of_mem _ hk))

theorem firstLoop_none (c : Ctx) (ty : Ty) (l : List Nat)
    (h : ∀ k ∈ l, matched (c.at k) = false) : firstLoop c ty l = none := by
  induction l with
  | nil => rfl
  | cons a l ih =>
    have ha := h a (List.mem_cons_self ..)
    simp only [firstLoop, ha]
    exact ih (fun k hk => h k (List.mem_cons_of_mem _ hk))

theorem iter_eq_firstLoop (c : Ctx) (i : Nat) (ty : Ty) (d : Arg) (u r : Bool) :
    reMatchIterTyped c i ty d u r =
      match firstLoop c ty (order c.t i r) with
      | some x => x
      | none => typedDefault c ty d u := by
  unfold reMatchIterTyped order
  rw [firstLoop]
  cases matched (c.at i)
  · cases r <;> rfl
  · rfl

theorem rootLoop_eq (c : Ctx) (ty : Ty) (l : List Nat) :
    rootLoop c ty l = firstLoop c ty (l.filter (fun j => parentOf c.t j == j)) := by
  induction l with
  | nil => rfl
  | cons a l ih =>
    unfold rootLoop
    rw [List.filter_cons, ih]
    by_cases hr : parentOf c.t a = a <;> simp [hr, firstLoop]

theorem root_eq_firstLoop (c : Ctx) (ty : Ty) (d : Arg) (u : Bool) :
    rootIterTyped c ty d u =
      match firstLoop c ty (roots c.t) with
      | some x => x
      | none => typedDefault c ty d u := by
  unfold rootIterTyped roots
  rw [rootLoop_eq]
  cases firstLoop c ty (List.filter (fun j => parentOf c.t j == j) (List.range c.t.size)) <;> rfl

theorem mapE_eq_mapM {α β ε : Type} (f : α → Except ε β) (l : List α) : mapE f l = l.mapM f := by
  induction l with
  | nil => rfl
  | cons a l ih =>
    rw [List.mapM_cons, mapE, ih]
    cases f a with
    | error e => rfl
    | ok b =>
      cases l.mapM f with
      | error e => rfl
      | ok bs => rfl

theorem mapE_congr {α β ε : Type} (f g : α → Except ε β) (l : List α) (h : ∀ a ∈ l, f a = g a) :
    mapE f l = mapE g l := by
  induction l with
  | nil => rfl
  | cons a l ih =>
    simp only [mapE, h a (List.mem_cons_self ..), ih (fun b hb => h b (List.mem_cons_of_mem _ hb))]

theorem mapE_ok_length {α β ε : Type} (f : α → Except ε β) (l : List α) (vs : List β)
    (h : mapE f l = .ok vs) : vs.length = l.length := by
  induction l generalizing vs with
  | nil => simp [mapE] at h; subst h; rfl
  | cons a l ih =>
    simp only [mapE] at h
    split at h
    · cases h
    · split at h
      · cases h
      · rename_i bs hbs
        cases h
        simp [ih bs hbs]

theorem listLoop_eq (c : Ctx) (ty : Ty) (l : List Nat) :
    listLoop c ty l =
      mapE (fun j => convGroup c.ip ty (c.at j)) (l.filter (fun j => matched (c.at j))) := by
  induction l with
  | nil => rfl
  | cons a l ih =>
    cases hm : matched (c.at a) with
    | true =>
      simp [listLoop, hm, mapE, ih]
      cases convGroup c.ip ty (c.at a) with
      | error e => rfl
      | ok v =>
        cases mapE (fun j => convGroup c.ip ty (c.at j)) (List.filter (fun j => matched (c.at j)) l) <;> rfl
    | false => simp [listLoop, hm, ih]

def familyLines (t : T) (i : Nat) : List Nat :=
  i :: (List.range t.size).filter (fun j => decide (i ∈ ancestors t j))

theorem order_eq_familyLines {t : T} (hf : Forest t) (i : Nat) : order t i true = familyLines t i := by
  simp only [order, familyLines, if_true, allChildren_eq_filter hf i]

theorem familyLines_sorted (t : T) (i : Nat) : (familyLines t i).Pairwise (· < ·) := by
  refine List.pairwise_cons.mpr ⟨?_, List.Pairwise.filter _ List.pairwise_lt_range⟩
  intro j hj
  have := (List.mem_filter.mp hj).2
  exact ancestors_lt (by simpa using this)

theorem mem_familyLines {t : T} (hf : Forest t) (i j : Nat) :
    j ∈ familyLines t i ↔ j = i ∨ IsAncestor t i j := by
  simp only [familyLines, List.mem_cons, List.mem_filter, List.mem_range, decide_eq_true_eq]
  constructor
  · rintro (h | ⟨_, h⟩)
    · exact .inl h
    · exact .inr (isAncestor_of_mem h)
  · rintro (h | h)
    · exact .inl h
    · have hm := mem_of_isAncestor hf h
      exact .inr ⟨ancestors_lt_size hf hm, hm⟩

theorem root_iff_no_ancestors {t : T} (hf : Forest t) (j : Nat) : parentOf t j = j ↔ ancestors t j = [] := by
  have hle := parentOf_le_of_forest hf j
  constructor
  · intro h; exact ancestors_of_not_lt (by omega)
  · intro h
    by_cases hp : parentOf t j < j
    · rw [ancestors_of_lt hp] at h; cases h
    · omega

theorem firstSome_split (c : DCtx) (pre post : List Nat) (j : Nat)
    (hpre : ∀ k ∈ pre, c.at k = none) : firstSome c (pre ++ j :: post) =
      match c.at j with
      | some rows => some rows
      | none => firstSome c post := by
  induction pre with
  | nil => rfl
  | cons a pre ih =>
    have ha := hpre a (List.mem_cons_self ..)
    simp only [List.cons_append, firstSome, ha]
    exact ih (fun k hk => hpre k (List.mem_cons_of_mem _ hk))

theorem firstSome_none (c : DCtx) (l : List Nat) (h : ∀ k ∈ l, c.at k = none) : firstSome c l = none := by
  induction l with
  | nil => rfl
  | cons a l ih =>
    simp only [firstSome, h a (List.mem_cons_self ..)]
    exact ih (fun k hk => h k (List.mem_cons_of_mem _ hk))

theorem iterDict_recurse_eq (c : DCtx) (i : Nat) (d : Arg) :
    reMatchIterDict c i d true = typedDict c d (firstSome c (order c.t i true)) := by
  unfold reMatchIterDict order
  simp only [if_true, firstSome]
  cases c.at i <;> simp

theorem committedItems_eq (t : T) :
    Edit.committedItems t = (List.range t.size).map fun j => { text := text t j, id := some j } := by
  apply List.ext_getElem
  · simp [Edit.committedItems, T.size]
  · intro i h1 h2
    have hi : i < t.texts.length := by simpa [Edit.committedItems] using h1
    simp [Edit.committedItems, text, hi]

theorem rootLoopItems_lines (g : Str → GroupRes) (ip : Arg → Except Err Str) (t : T) (ty : Ty) (l : List Nat) :
    rootLoopItems g ip t ty (l.map fun j => { text := text t j, id := some j }) =
      rootLoop { g := g, ip := ip, t := t } ty l := by
  induction l with
  | nil => rfl
  | cons j l ih =>
    rw [List.map_cons, rootLoopItems, rootLoop, ih]
    by_cases hr : parentOf t j = j <;> simp [hr, itemIsRoot, Ctx.at, text]

end Ccp.Typed
