import Ccp.Model.BraceOpts
import Ccp.Proofs.BraceTree
/-!
The options of the brace-syntax conversion (C08): the `semicolon_end = False`
unpacking is the one of `Ccp.Model.Brace`; the flattening for an arbitrary `stop_width`
(`flattenW`) and the re-indentation argument that carries `braceText_render` over to it; a
converted well-formed statement is never a blank line.
-/
namespace Ccp.Brace
open Ccp.Py

theorem cleanTokS_false (t : Str) : cleanTokS false t = cleanTok t := by
  simp [cleanTokS, cleanTok]

mutual
theorem unpackItemS_false (stop : Nat) : ∀ (x : Item) (d : Nat), unpackItemS false stop d x = unpackItem stop d x
  | .tok t, d => by rw [unpackItemS, unpackItem, cleanTokS_false]
  | .grp g, d => by rw [unpackItemS, unpackItem, unpackListS_false stop g (d + 1)]
theorem unpackListS_false (stop : Nat) : ∀ (xs : List Item) (d : Nat), unpackListS false stop d xs = unpackList stop d xs
  | [], _ => rfl
  | x :: xs, d => by rw [unpackListS, unpackList, unpackItemS_false stop x d, unpackListS_false stop xs d]
end

theorem braceText_eq_items (stop : Nat) (txt : Str) :
    braceText stop txt = match braceItems txt with
      | .ok items => .ok (unpackList stop 0 items)
      | .error e => .error e := by
  unfold braceText braceItems
  split
  · rfl
  · rfl
  · dsimp only
    split <;> simp_all

theorem braceTextS_false (w : Int) (txt : Str) : braceTextS false w txt = braceText (stopOf w) txt := by
  rw [braceText_eq_items, braceTextS]
  cases braceItems txt with
  | error e => rfl
  | ok items => simp only [unpackListS_false]

theorem handleBrace_junos_list (lines : List Str) : handleBrace .junos (.list lines) = liftE (junosToIos lines) := by
  cases lines with
  | nil => rfl
  | cons l ls => exact congrArg liftE (braceTextS_false _ _)

/-- a line indented by a multiple of four blanks, re-indented to `w` blanks per level -/
def reindent (w : Nat) (l : Str) : Str := List.replicate (indent l / 4 * w) ' ' ++ lstrip l

theorem reindent_line (w d : Nat) (c : Str) (h : ∀ x, c.head? = some x → isSpace x = false) :
    reindent w (List.replicate (d * 4) ' ' ++ c) = List.replicate (d * w) ' ' ++ c := by
  rw [reindent, indent_replicate _ c h, lstrip_replicate _ c h, Nat.mul_div_cancel d (by decide : 0 < 4)]

mutual
theorem unpackItem_reindent (w : Nat) : ∀ (x : Item) (d : Nat),
    unpackItem w d x = (unpackItem 4 d x).map (reindent w)
  | .tok t, d => by
    have : ∀ x, (cleanTok t).head? = some x → isSpace x = false := strip_head _
    simp [unpackItem, reindent_line w d _ this]
  | .grp g, d => by simp [unpackItem, unpackList_reindent w g (d + 1)]
theorem unpackList_reindent (w : Nat) : ∀ (xs : List Item) (d : Nat),
    unpackList w d xs = (unpackList 4 d xs).map (reindent w)
  | [], _ => rfl
  | x :: xs, d => by simp [unpackList, unpackItem_reindent w x d, unpackList_reindent w xs d]
end

mutual
/-- preorder, one line per statement, `w` blanks per enclosing block -/
def flattenStmtW (w d : Nat) : Stmt → List Str
  | .node ws cs => (List.replicate (w * d) ' ' ++ stmtText ws) :: flattenListW w (d + 1) cs
def flattenListW (w d : Nat) : List Stmt → List Str
  | [] => []
  | s :: ss => flattenStmtW w d s ++ flattenListW w d ss
end

def flattenW (w : Nat) (T : List Stmt) : List Str := flattenListW w 0 T

mutual
theorem flattenStmt_reindent (w : Nat) : ∀ (s : Stmt) (d : Nat), StmtOk s →
    (flattenStmt d s).map (reindent w) = flattenStmtW w d s
  | .node ws cs, d, hs => by
    have h := reindent_line w d (stmtText ws) (textOk_head (words_textOk hs.1))
    simp only [flattenStmt, flattenStmtW, List.map_cons, flattenList_reindent w cs (d + 1) hs.2]
    rw [Nat.mul_comm 4 d, h, Nat.mul_comm d w]
theorem flattenList_reindent (w : Nat) : ∀ (ss : List Stmt) (d : Nat), ListOk ss →
    (flattenList d ss).map (reindent w) = flattenListW w d ss
  | [], _, _ => rfl
  | s :: ss, d, hs => by
    simp only [flattenList, flattenListW, List.map_append, flattenStmt_reindent w s d hs.1,
      flattenList_reindent w ss d hs.2]
end

mutual
theorem flattenStmtW_four : ∀ (s : Stmt) (d : Nat), flattenStmtW 4 d s = flattenStmt d s
  | .node ws cs, d => by rw [flattenStmtW, flattenStmt, flattenListW_four cs (d + 1)]
theorem flattenListW_four : ∀ (ss : List Stmt) (d : Nat), flattenListW 4 d ss = flattenList d ss
  | [], _ => rfl
  | s :: ss, d => by rw [flattenListW, flattenList, flattenStmtW_four s d, flattenListW_four ss d]
end

theorem braceText_render_width (w : Nat) (L : Layout) (hL : LayoutOk L) (T : List Stmt) (hT : ListOk T) :
    braceText w (render L T) = .ok (flattenW w T) := by
  have h4 := braceText_render L hL T hT
  rw [braceText_eq_items] at h4 ⊢
  split at h4
  · rw [unpackList_reindent w, Except.ok.inj h4, flatten, flattenList_reindent w T 0 hT]; rfl
  · cases h4

theorem flattenList_nonblank (ss : List Stmt) (d : Nat) (hs : ListOk ss) :
    ∀ l ∈ flattenList d ss, (strip l).isEmpty = false := by
  intro l hl
  obtain ⟨n, t, rfl, ht⟩ := flattenList_lines ss d hs l hl
  obtain ⟨c, t', e, -⟩ := ht.head
  rw [strip, lstrip_replicate n t (textOk_head ht), rstrip_of_last t (textOk_last ht), e]
  rfl

theorem flattenStmt_nonblank : ∀ (s : Stmt) (d : Nat), StmtOk s →
    ∀ l ∈ flattenStmt d s, (strip l).isEmpty = false :=
  fun s d hs l hl => flattenList_nonblank [s] d ⟨hs, trivial⟩ l (by simpa [flattenList] using hl)

end Ccp.Brace
