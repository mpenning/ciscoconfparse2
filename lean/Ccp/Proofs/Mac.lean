import Ccp.Model.Mac
import Ccp.Proofs.Py
/-!
For C16.  `macaddress._parse` in closed form: the narrowing loop keeps exactly the
candidate templates that the text read so far instantiates, so a text is accepted iff it instantiates a
template of the class, with the value its hex digits spell (`parseObj_eq`).  `HWAddress.__str__` is the first
template filled with the upper-case digits of the value (`strLoop_reverse`); hence every rendering is the
bytes of the value joined by its separator, and equally a template filled with `toHex (2·nbytes) v`.
-/
namespace Ccp.Mac
open Ccp.Py

theorem dropWhile_eq_filter {α} (p : α → Bool) (l : List α)
    (h : l.Pairwise (fun a b => p b = true → p a = true)) :
    l.dropWhile p = l.filter (fun a => !p a) := by
  induction l with
  | nil => rfl
  | cons a l ih =>
    have ha := List.pairwise_cons.mp h
    by_cases hp : p a = true
    · simp [List.dropWhile, hp, ih ha.2]
    · have hall : ∀ b ∈ l, (!p b) = true := fun b hb => by simpa using mt (ha.1 b hb) hp
      simp [List.dropWhile, hp, List.filter_eq_self.mpr hall]

theorem key_inj {a b : Option Char} (h : key a = key b) : a = b := by
  cases a <;> cases b <;> simp [key] at h ⊢
  exact Char.toNat_inj.mp h

def HeadsSorted (cands : List Cand) : Prop :=
  cands.Pairwise (fun a b => key a.rest.head? ≤ key b.rest.head?)

theorem narrow_eq_filter (cands : List Cand) (ch : Option Char) (h : HeadsSorted cands) :
    narrow cands ch = cands.filter (fun c => c.rest.head? == ch) := by
  -- the heads are sorted, so each loop drops exactly the candidates whose head is on the wrong side of `ch`
  have below : cands.Pairwise fun a b => pyLt b.rest.head? ch = true → pyLt a.rest.head? ch = true :=
    h.imp fun hab => by simp only [pyLt, decide_eq_true_eq]; omega
  have above : cands.Pairwise fun a b => pyLt ch a.rest.head? = true → pyLt ch b.rest.head? = true :=
    h.imp fun hab => by simp only [pyLt, decide_eq_true_eq]; omega
  rw [narrow, dropWhile_eq_filter _ cands below,
    dropWhile_eq_filter _ _ (List.pairwise_reverse.mpr (above.filter _)),
    List.filter_reverse, List.reverse_reverse, List.filter_filter]
  apply List.filter_congr
  intro c _
  rw [Bool.eq_iff_iff]
  simp only [pyLt, Bool.and_eq_true, Bool.not_eq_true', decide_eq_false_iff_not, beq_iff_eq]
  exact ⟨fun ⟨h1, h2⟩ => key_inj (by omega), fun h => by rw [h]; omega⟩

/-- spec: the text instantiates the template -/
def tmatch : Str → Str → Bool
  | [], [] => true
  | t :: ts, c :: cs => (some t == chOf c) && tmatch ts cs
  | _, _ => false

/-- the address accumulated by the loop -/
def hexFold (a : Nat) (s : Str) : Nat :=
  s.foldl (fun a c => if isHex c then a * 16 + hexVal c else a) a

structure Inv (cands : List Cand) (n : Nat) : Prop where
  sorted : cands.Pairwise (fun a b => strLt a.rest b.rest = true)
  len : ∀ c ∈ cands, c.rest.length = n

theorem strLt_cons (x y : Char) (xs ys : Str) :
    strLt (x :: xs) (y :: ys) = true ↔ x.toNat < y.toNat ∨ x = y ∧ strLt xs ys = true := by
  simp [strLt]

theorem Inv.heads {cands n} (h : Inv cands (n + 1)) : HeadsSorted cands := by
  apply h.sorted.imp_of_mem
  intro a b ha hb hab
  obtain ⟨x, xs, hra⟩ := List.exists_cons_of_length_eq_add_one (h.len a ha)
  obtain ⟨y, ys, hrb⟩ := List.exists_cons_of_length_eq_add_one (h.len b hb)
  rw [hra, hrb, strLt_cons] at hab
  rw [hra, hrb]
  simp only [List.head?, key]
  rcases hab with h1 | ⟨h1, _⟩
  · omega
  · subst h1; omega

theorem Inv.step {cands n} (h : Inv cands (n + 1)) (ch : Option Char) :
    Inv ((cands.filter (fun c => c.rest.head? == ch)).map Cand.step) n := by
  constructor
  · rw [List.pairwise_map]
    apply (h.sorted.filter _).imp_of_mem
    intro a b ha hb hab
    obtain ⟨ha, ea⟩ := List.mem_filter.mp ha
    obtain ⟨hb, eb⟩ := List.mem_filter.mp hb
    obtain ⟨x, xs, hra⟩ := List.exists_cons_of_length_eq_add_one (h.len a ha)
    obtain ⟨y, ys, hrb⟩ := List.exists_cons_of_length_eq_add_one (h.len b hb)
    rw [hra, hrb, strLt_cons] at hab
    rw [hra] at ea
    rw [hrb, ← beq_iff_eq.mp ea] at eb
    have hxy : y = x := Option.some.inj (beq_iff_eq.mp eb)
    simp only [Cand.step, hra, hrb, List.tail_cons]
    rcases hab with h1 | ⟨_, h2⟩
    · rw [hxy] at h1; omega
    · exact h2
  · intro c hc
    obtain ⟨a, ha, rfl⟩ := List.mem_map.mp hc
    have := h.len a (List.mem_filter.mp ha).1
    simp [Cand.step]; omega

theorem filter_step {cands n} (h : Inv cands (n + 1)) (c : Char) (cs : Str) :
    ((cands.filter (fun k => k.rest.head? == chOf c)).map Cand.step).filter (fun k => tmatch k.rest cs)
      = (cands.filter (fun k => tmatch k.rest (c :: cs))).map Cand.step := by
  rw [List.filter_map, List.filter_filter]
  congr 1
  apply List.filter_congr
  intro k hk
  obtain ⟨t, ts, hr⟩ := List.exists_cons_of_length_eq_add_one (h.len k hk)
  simp [Cand.step, hr, tmatch, Bool.and_comm]

theorem loop_spec (s : Str) : ∀ (addr : Nat) (cands : List Cand), Inv cands s.length →
    match loop s addr cands with
    | .error _ => cands.filter (fun k => tmatch k.rest s) = []
    | .ok (a, out) => a = hexFold addr s ∧
        out.map Cand.cls = (cands.filter (fun k => tmatch k.rest s)).map Cand.cls := by
  induction s with
  | nil =>
    intro addr cands h
    have hall : cands.filter (fun k => tmatch k.rest []) = cands :=
      List.filter_eq_self.mpr fun k hk => by
        rw [List.length_eq_zero_iff.mp (h.len k hk)]; rfl
    rw [hall]
    exact ⟨rfl, rfl⟩
  | cons c cs ih =>
    intro addr cands h
    have hs := filter_step h c cs
    rw [loop, narrow_eq_filter cands (chOf c) h.heads]
    rcases hF : cands.filter (fun k => k.rest.head? == chOf c) with _ | ⟨k, ks⟩
    · rw [hF] at hs
      simp only [hF]
      exact List.map_eq_nil_iff.mp hs.symm
    · have := ih (if isHex c then addr <<< 4 + hexVal c else addr) _ (h.step (chOf c))
      rw [hs, hF] at this
      simp only [hF]
      split at this
      · exact List.map_eq_nil_iff.mp this
      · refine ⟨?_, ?_⟩
        · rw [this.1, hexFold, hexFold, List.foldl_cons, Nat.shiftLeft_eq]
        · rw [this.2, List.map_map]
          rfl

theorem tmatch_length (t s : Str) (h : tmatch t s = true) : t.length = s.length := by
  induction t, s using tmatch.induct with
  | case1 => rfl
  | case2 t ts c cs ih =>
    simp only [tmatch, Bool.and_eq_true] at h
    simp [ih h.2]
  | case3 t s h1 h2 => simp [tmatch] at h

structure CandsOK (k : Kind) (n : Nat) : Prop where
  sorted : (candidates [k.cls] n).Pairwise (fun a b => strLt a.rest b.rest = true)
  sound : ∀ c ∈ candidates [k.cls] n, c.rest.length = n ∧ c.rest ∈ k.cls.formats ∧ c.cls = k.cls
  complete : ∀ f ∈ k.cls.formats, f.length = n → ∃ c ∈ candidates [k.cls] n, c.rest = f

theorem foldl_fixed {α β} (f : β → α → β) (l : List α) (b : β) (h : ∀ a ∈ l, f b a = b) : l.foldl f b = b := by
  induction l with
  | nil => rfl
  | cons a l ih =>
    rw [List.foldl_cons, h a List.mem_cons_self]
    exact ih fun x hx => h x (List.mem_cons_of_mem _ hx)

theorem cands_nil (classes : List Cls) (n : Nat) (h : ∀ c ∈ classes, ∀ f ∈ c.formats, f.length ≠ n) :
    candidates classes n = [] := by
  have : collect classes n = [] :=
    foldl_fixed _ _ _ fun c hc => foldl_fixed _ _ _ fun f hf => if_neg (h c hc f hf)
  rw [candidates, this]
  rfl

/-- for the lengths of the class's own templates the candidate list is evaluated; for every other
length it is empty -/
theorem candsOK (k : Kind) (n : Nat) : CandsOK k n := by
  by_cases h : ∃ f ∈ k.cls.formats, f.length = n
  · obtain ⟨f, hf, rfl⟩ := h
    exact ⟨(by cases k <;> decide +kernel : ∀ f ∈ k.cls.formats,
        (candidates [k.cls] f.length).Pairwise (fun a b => strLt a.rest b.rest = true)) f hf,
      (by cases k <;> decide +kernel : ∀ f ∈ k.cls.formats, ∀ c ∈ candidates [k.cls] f.length,
        c.rest.length = f.length ∧ c.rest ∈ k.cls.formats ∧ c.cls = k.cls) f hf,
      (by cases k <;> decide +kernel : ∀ f ∈ k.cls.formats, ∀ g ∈ k.cls.formats, g.length = f.length →
        ∃ c ∈ candidates [k.cls] f.length, c.rest = g) f hf⟩
  · have hnil := cands_nil [k.cls] n (by simpa using h)
    refine ⟨?_, ?_, fun f hf hl => absurd ⟨f, hf, hl⟩ h⟩ <;> rw [hnil]
    · exact .nil
    · intro c hc; cases hc

/-- both sizes are multiples of four bits, so `_parse` and `__str__` shift by nothing -/
theorem offset_size (k : Kind) : offset k.cls.size = 0 := by cases k <;> rfl

theorem filter_cands_eq_nil (k : Kind) (s : Str) :
    (candidates [k.cls] s.length).filter (fun c => tmatch c.rest s) = [] ↔
      k.cls.formats.any (fun t => tmatch t s) = false := by
  have ok := candsOK k s.length
  rw [List.filter_eq_nil_iff, List.any_eq_false]
  constructor
  · intro h t ht hm
    obtain ⟨c, hc, hr⟩ := ok.complete t ht (tmatch_length t s hm)
    exact h c hc (hr ▸ hm)
  · intro h c hc
    exact h c.rest (ok.sound c hc).2.1

/-- `_parse(string, cls)` for one class in closed form -/
theorem parse_single_eq (k : Kind) (s : Str) :
    parse [k.cls] s = if k.cls.formats.any (fun t => tmatch t s) then .ok (hexFold 0 s, k.cls)
      else .error .valueError := by
  have ok := candsOK k s.length
  have sp := loop_spec s 0 _ ⟨ok.sorted, fun c hc => (ok.sound c hc).1⟩
  have hnil := filter_cands_eq_nil k s
  cases s with
  | nil =>
    have : k.cls.formats.any (fun t => tmatch t []) = false := by cases k <;> decide +kernel
    rw [this]
    rfl
  | cons c cs =>
    rw [parse, if_neg (by simp)]
    split at sp
    · next e he =>
      rw [he, hnil.mp sp]
      cases e
      rfl
    · next a out he =>
      rw [he]
      cases out with
      | nil =>
        rw [hnil.mp (List.map_eq_nil_iff.mp sp.2.symm)]
        rfl
      | cons k0 _ =>
        -- the first survivor is one of the class's own candidates, so the class returned is `k.cls`
        have hk0 : k0.cls ∈ ((candidates [k.cls] (c :: cs).length).filter
            fun c' => tmatch c'.rest (c :: cs)).map Cand.cls := by
          rw [← sp.2]
          exact List.mem_cons_self
        obtain ⟨c0, hc0, hcls⟩ := List.mem_map.mp hk0
        have hyes : k.cls.formats.any (fun t => tmatch t (c :: cs)) = true := by
          cases h : k.cls.formats.any (fun t => tmatch t (c :: cs))
          · rw [hnil.mpr h] at hc0; cases hc0
          · rfl
        show Except.ok (a >>> offset k0.cls.size, k0.cls) = _
        rw [hyes, ← hcls, (ok.sound c0 (List.mem_filter.mp hc0).1).2.2, offset_size, sp.1]
        rfl

theorem parseObj_eq (k : Kind) (s : Str) :
    parseObj k s = if k.cls.formats.any (fun t => tmatch t s) then .ok (hexFold 0 s) else .error .valueError := by
  rw [parseObj, parse_single_eq]
  cases k.cls.formats.any (fun t => tmatch t s) <;> rfl

def lowerDigits : Str :=
  ['0', '1', '2', '3', '4', '5', '6', '7', '8', '9', 'a', 'b', 'c', 'd', 'e', 'f']

def hexL (d : Nat) : Char := lowerDigits.getD d '0'

/-- `_HEX_DIGITS[d]` -/
def hexU (d : Nat) : Char := hexDigits.getD d '0'

/-- spec of `format(v, "0{w}x")`: the `w` low hex digits of `v`, most significant first -/
def toHex : Nat → Nat → Str
  | 0, _ => []
  | w + 1, v => toHex w (v / 16) ++ [hexL (v % 16)]

/-- spec of `format(v, "0{w}X")` -/
def toHexU : Nat → Nat → Str
  | 0, _ => []
  | w + 1, v => toHexU w (v / 16) ++ [hexU (v % 16)]

/-- spec of `int(s, 16)` on a string of hex digits -/
def ofHex (s : Str) : Nat := s.foldl (fun a c => a * 16 + hexVal c) 0

/-- a template with its `x` replaced, left to right, by the given digits -/
def fill : Str → Str → Str
  | [], _ => []
  | t :: ts, ds =>
    if t = 'x' then
      match ds with
      | d :: ds' => d :: fill ts ds'
      | [] => t :: fill ts []
    else t :: fill ts ds

def tpl (k : Kind) (i : Nat) : Str := k.cls.formats.getD i []

theorem hexVal_hexL : ∀ d, d < 16 → hexVal (hexL d) = d := by decide +kernel
theorem isHex_hexL : ∀ d, d < 16 → isHex (hexL d) = true := by decide +kernel
theorem lowerChar_hexL : ∀ d, d < 16 → lowerChar (hexL d) = hexL d := by decide +kernel
theorem hexL_mem : ∀ d, d < 16 → hexL d ∈ lowerDigits := by decide +kernel
theorem hexL_ne_dash : ∀ d, d < 16 → hexL d ≠ '-' := by decide +kernel
theorem hexVal_hexU : ∀ d, d < 16 → hexVal (hexU d) = d := by decide +kernel
theorem isHex_hexU : ∀ d, d < 16 → isHex (hexU d) = true := by decide +kernel
theorem lowerChar_hexU : ∀ d, d < 16 → lowerChar (hexU d) = hexL d := by decide +kernel

theorem hexU_nib_ne_dash (v : Nat) : (hexU (v % 16) = '-') = False :=
  eq_false ((by decide +kernel : ∀ d, d < 16 → hexU d ≠ '-') _ (Nat.mod_lt _ (by omega)))

/-- `toHex` and `toHexU` with the digit characters as a parameter, so that what does not depend on
the alphabet is proved once -/
def hexWith (dig : Nat → Char) : Nat → Nat → Str
  | 0, _ => []
  | w + 1, v => hexWith dig w (v / 16) ++ [dig (v % 16)]

theorem toHex_eq : ∀ w v, toHex w v = hexWith hexL w v
  | 0, _ => rfl
  | w + 1, v => by rw [toHex, hexWith, toHex_eq w]

theorem toHexU_eq : ∀ w v, toHexU w v = hexWith hexU w v
  | 0, _ => rfl
  | w + 1, v => by rw [toHexU, hexWith, toHexU_eq w]

theorem ofHex_append (s : Str) (c : Char) : ofHex (s ++ [c]) = ofHex s * 16 + hexVal c := by
  simp [ofHex, List.foldl_append]

section HexWith
variable (dig : Nat → Char)

theorem hexWith_length : ∀ w v, (hexWith dig w v).length = w
  | 0, _ => rfl
  | w + 1, v => by simp [hexWith, hexWith_length w]

theorem mem_hexWith : ∀ w v, ∀ c ∈ hexWith dig w v, ∃ d, d < 16 ∧ c = dig d
  | 0, _, _, hc => by cases hc
  | w + 1, v, c, hc => by
    rcases List.mem_append.mp hc with hc | hc
    · exact mem_hexWith w _ c hc
    · exact ⟨v % 16, Nat.mod_lt _ (by omega), List.mem_singleton.mp hc⟩

theorem ofHex_hexWith (h : ∀ d, d < 16 → hexVal (dig d) = d) :
    ∀ w v, ofHex (hexWith dig w v) = v % 16 ^ w
  | 0, v => by simp [hexWith, ofHex, Nat.mod_one]
  | w + 1, v => by
    rw [hexWith, ofHex_append, ofHex_hexWith h w, h _ (Nat.mod_lt _ (by omega)), Nat.pow_succ', Nat.mod_mul]
    omega

theorem map_hexWith (f : Char → Char) (dig' : Nat → Char) (h : ∀ d, d < 16 → f (dig d) = dig' d) :
    ∀ w v, (hexWith dig w v).map f = hexWith dig' w v
  | 0, _ => rfl
  | w + 1, v => by simp [hexWith, map_hexWith f dig' h w, h _ (Nat.mod_lt v (by omega : 0 < 16))]

theorem hexWith_add (a : Nat) : ∀ b v, hexWith dig (a + b) v = hexWith dig a (v / 16 ^ b) ++ hexWith dig b v
  | 0, v => by simp [hexWith]
  | b + 1, v => by
    rw [← Nat.add_assoc, hexWith, hexWith, hexWith_add a b, Nat.div_div_eq_div_mul, Nat.pow_succ',
      List.append_assoc]

theorem hexWith_mod : ∀ w v, hexWith dig w (v % 16 ^ w) = hexWith dig w v
  | 0, _ => rfl
  | w + 1, v => by
    rw [hexWith, hexWith, Nat.pow_succ', Nat.mod_mul_right_div_self, Nat.mod_mul_right_mod, hexWith_mod w]

end HexWith

theorem ofHex_toHex (w v : Nat) : ofHex (toHex w v) = v % 16 ^ w := by
  rw [toHex_eq, ofHex_hexWith hexL hexVal_hexL]

theorem toHex_length (w v : Nat) : (toHex w v).length = w := by rw [toHex_eq, hexWith_length]

theorem toHex_digits (w v : Nat) : ∀ c ∈ toHex w v, ∃ d, d < 16 ∧ c = hexL d := by
  rw [toHex_eq]; exact mem_hexWith hexL w v

theorem lower_toHexU (w v : Nat) : lower (toHexU w v) = toHex w v := by
  rw [toHexU_eq, toHex_eq]; exact map_hexWith hexU lowerChar hexL lowerChar_hexU w v

theorem fill_x (ts : Str) (d : Char) (ds : Str) : fill ('x' :: ts) (d :: ds) = d :: fill ts ds := by
  simp [fill]

theorem fill_lit {c : Char} (h : c ≠ 'x') (ts ds : Str) : fill (c :: ts) ds = c :: fill ts ds := by
  simp [fill, h]

theorem fill_append (t₁ t₂ ds₁ ds₂ : Str) (h : ds₁.length = t₁.count 'x') :
    fill (t₁ ++ t₂) (ds₁ ++ ds₂) = fill t₁ ds₁ ++ fill t₂ ds₂ := by
  induction t₁, ds₁ using fill.induct with
  | case1 ds => rw [List.length_eq_zero_iff.mp h]; rfl
  | case2 ts d ds ih =>
    rw [List.cons_append, List.cons_append, fill_x, fill_x, ih (by simpa using h), List.cons_append]
  | case3 ts ih => simp at h
  | case4 c ts ds hx ih =>
    rw [List.cons_append, fill_lit hx, fill_lit hx, ih (by simpa [List.count_cons, hx] using h), List.cons_append]

theorem lower_fill (t : Str) (ht : ∀ c ∈ t, lowerChar c = c) (ds : Str) :
    lower (fill t ds) = fill t (lower ds) := by
  induction t, ds using fill.induct with
  | case1 ds => rfl
  | case2 ts d ds ih => simpa [fill, lower] using ih fun x hx => ht x (List.mem_cons_of_mem _ hx)
  | case3 ts ih =>
    simpa [fill, lower, ht 'x' List.mem_cons_self] using ih fun x hx => ht x (List.mem_cons_of_mem _ hx)
  | case4 c ts ds hx ih =>
    simpa [fill_lit hx, lower, ht c List.mem_cons_self] using ih fun x hx => ht x (List.mem_cons_of_mem _ hx)

theorem filter_fill (p : Char → Bool) (hp : p 'x' = true) (t ds : Str) (hd : ∀ d ∈ ds, p d = true) :
    (fill t ds).filter p = fill (t.filter p) ds := by
  induction t, ds using fill.induct with
  | case1 ds => rfl
  | case2 ts d ds ih => simp [fill, hp, hd d List.mem_cons_self, ih fun x hx => hd x (List.mem_cons_of_mem _ hx)]
  | case3 ts ih => simp [fill, hp, ih hd]
  | case4 c ts ds hx ih => cases hc : p c <;> simp [fill_lit hx, hc, ih hd]

theorem mem_fill (t ds : Str) : ds.length = t.count 'x' →
    ∀ c ∈ fill t ds, (c ∈ t ∧ c ≠ 'x') ∨ c ∈ ds := by
  induction t, ds using fill.induct with
  | case1 ds => intro _ c hc; cases hc
  | case2 ts d ds ih =>
    intro hl c hc
    rw [fill_x, List.mem_cons] at hc
    rcases hc with rfl | hc
    · simp
    · rcases ih (by simpa using hl) c hc with h | h <;> simp [h]
  | case3 ts ih => intro hl; simp at hl
  | case4 t ts ds hx ih =>
    intro hl c hc
    rw [fill_lit hx, List.mem_cons] at hc
    rcases hc with rfl | hc
    · simp [hx]
    · rcases ih (by simpa [List.count_cons, hx] using hl) c hc with h | h <;> simp [h]

/-- `HWAddress.__str__` walks the reversed template taking nibbles from the low end: that is the
template filled with the upper-case digits of the value -/
theorem strLoop_reverse (r : Str) (v : Nat) : (strLoop r v).reverse = fill r.reverse (toHexU (r.count 'x') v) := by
  have hl : ∀ (cs : Str) u, (toHexU (cs.count 'x') u).length = cs.reverse.count 'x' := by
    intro cs u; rw [toHexU_eq, hexWith_length, List.count_reverse]
  induction r, v using strLoop.induct with
  | case1 v => rfl
  | case2 cs v ih =>
    have hd : hexDigits.getD (v &&& 15) '0' = hexU (v % 16) := by
      rw [Nat.and_two_pow_sub_one_eq_mod v 4]; rfl
    rw [strLoop, if_pos rfl, hd, List.reverse_cons, List.reverse_cons, ih, Nat.shiftRight_eq_div_pow,
      List.count_cons_self, toHexU, fill_append _ _ _ _ (hl _ _)]
    rfl
  | case3 c cs v hx ih =>
    have := fill_append cs.reverse [c] (toHexU (cs.count 'x') v) [] (hl _ v)
    rw [List.append_nil, fill_lit hx] at this
    rw [strLoop, if_neg hx, List.reverse_cons, List.reverse_cons, ih, List.count_cons_of_ne hx, this]
    rfl

theorem count_x_formats (k : Kind) : ∀ t ∈ k.cls.formats, t.count 'x' = 2 * k.nbytes := by
  cases k <;> decide +kernel

theorem tpl_mem (k : Kind) (i : Nat) (hi : i < 4) : tpl k i ∈ k.cls.formats := by
  match i, hi with
  | 0, _ | 1, _ | 2, _ | 3, _ => cases k <;> decide +kernel

/-- `str(self.mac)` -/
theorem hwStr_eq (k : Kind) (v : Nat) : hwStr k.cls v = fill (tpl k 0) (toHexU (2 * k.nbytes) v) := by
  have h0 : k.cls.formats.headD [] = tpl k 0 := by cases k <;> rfl
  rw [hwStr, offset_size, Nat.shiftLeft_zero, strLoop_reverse, List.reverse_reverse, List.count_reverse, h0,
    count_x_formats k _ (tpl_mem k 0 (by omega))]

abbrev GoodTpl (t : Str) : Prop := ∀ c ∈ t, lowerChar c = c ∧ (c = 'x' ∨ isHex c = false)

theorem goodTpl_formats (k : Kind) : ∀ t ∈ k.cls.formats, GoodTpl t := by
  cases k <;> decide +kernel

/-- `str(self.mac).lower()` -/
theorem lower_hwStr_eq (k : Kind) (v : Nat) : lower (hwStr k.cls v) = fill (tpl k 0) (toHex (2 * k.nbytes) v) := by
  rw [hwStr_eq, lower_fill _ (fun c hc => (goodTpl_formats k _ (tpl_mem k 0 (by omega)) c hc).1), lower_toHexU]

/-- the bytes of an `n`-byte value, two lower-case hex digits each, most significant byte first -/
def hexBytes : Nat → Nat → List Str
  | 0, _ => []
  | n + 1, v => toHex 2 (v / 256 ^ n % 256) :: hexBytes n v

/-- `["ab", "cd", "ef", "gh"] ↦ ["abcd", "efgh"]` -/
def pairUp : List Str → List Str
  | a :: b :: rest => (a ++ b) :: pairUp rest
  | _ => []

theorem flatten_hexBytes (n v : Nat) : (hexBytes n v).flatten = toHex (2 * n) v := by
  induction n with
  | zero => rfl
  | succ n ih =>
    have h := hexWith_mod hexL 2 (v / 256 ^ n)
    rw [hexBytes, List.flatten_cons, ih, Nat.mul_succ, Nat.add_comm, toHex_eq (2 + 2 * n), hexWith_add,
      Nat.pow_mul, ← h, ← toHex_eq, ← toHex_eq]

theorem mem_hexBytes (n v : Nat) : ∀ b ∈ hexBytes n v, ∃ u, b = toHex 2 u := by
  induction n with
  | zero => intro b hb; cases hb
  | succ n ih =>
    intro b hb
    rcases List.mem_cons.mp hb with rfl | hb
    · exact ⟨_, rfl⟩
    · exact ih b hb

theorem hexBytes_length (n v : Nat) : (hexBytes n v).length = n := by
  induction n with
  | zero => rfl
  | succ n ih => rw [hexBytes, List.length_cons, ih]

theorem fill_xs : ∀ b : Str, fill (List.replicate b.length 'x') b = b
  | [] => rfl
  | d :: ds => by rw [List.length_cons, List.replicate_succ, fill_x, fill_xs ds]

theorem fill_groups {s : Char} (hs : s ≠ 'x') (g : Nat) : ∀ bs : List Str, (∀ b ∈ bs, b.length = g) →
    fill (join [s] (List.replicate bs.length (List.replicate g 'x'))) bs.flatten = join [s] bs
  | [], _ => rfl
  | [b], h => by
    have hx : fill (List.replicate g 'x') b = b := h b (by simp) ▸ fill_xs b
    simpa [join] using hx
  | b :: b' :: bs, h => by
    have hb := h b (by simp)
    have ih := fill_groups hs g (b' :: bs) (fun x hx => h x (List.mem_cons_of_mem _ hx))
    have hx : fill (List.replicate g 'x') b = b := hb ▸ fill_xs b
    rw [List.length_cons, List.replicate_succ] at ih ⊢
    rw [List.length_cons, List.replicate_succ, join_cons_cons, join_cons_cons, List.flatten_cons,
      List.append_assoc, fill_append _ _ _ _ (by rw [List.count_replicate_self, hb]), hx,
      List.singleton_append, fill_lit hs, ih, List.append_assoc, List.singleton_append]

theorem tpl_groups (k : Kind) :
    tpl k 0 = join ['-'] (List.replicate k.nbytes (List.replicate 2 'x')) ∧
    tpl k 1 = join [':'] (List.replicate k.nbytes (List.replicate 2 'x')) ∧
    tpl k 2 = join ['.'] (List.replicate (k.nbytes / 2) (List.replicate 4 'x')) := by
  cases k <;> decide +kernel

theorem fill_bytes {s : Char} (hs : s ≠ 'x') (n v : Nat) :
    fill (join [s] (List.replicate n (List.replicate 2 'x'))) (toHex (2 * n) v) = join [s] (hexBytes n v) := by
  have := fill_groups hs 2 (hexBytes n v) (fun b hb => by
    obtain ⟨u, rfl⟩ := mem_hexBytes n v b hb
    exact toHex_length 2 u)
  rwa [hexBytes_length, flatten_hexBytes] at this

/-- `str(self.mac).lower().split("-")` -/
theorem mb_eq (k : Kind) (v : Nat) : mb k v = hexBytes k.nbytes v := by
  rw [mb, lower_hwStr_eq, (tpl_groups k).1, fill_bytes (by decide), splitOn_join]
  · cases k <;> exact List.cons_ne_nil _ _
  · intro b hb hm
    obtain ⟨u, rfl⟩ := mem_hexBytes _ _ b hb
    obtain ⟨d, hd, e⟩ := toHex_digits 2 u _ hm
    exact hexL_ne_dash d hd e.symm

theorem sepJoin_eq (k : Kind) (s : Char) (v : Nat) : sepJoin k s v = join [s] (hexBytes k.nbytes v) := by
  cases k <;> simp only [sepJoin, mb_eq, Kind.nbytes, hexBytes, grp, List.getD_cons_zero, List.getD_cons_succ,
    join, List.append_assoc]

theorem cisco_bytes (k : Kind) (v : Nat) : cisco k v = join ['.'] (pairUp (hexBytes k.nbytes v)) := by
  cases k <;> simp only [cisco, mb_eq, Kind.nbytes, hexBytes, grp, List.getD_cons_zero, List.getD_cons_succ,
    join, pairUp, List.append_assoc]

theorem dash_eq (k : Kind) (v : Nat) : dash k v = fill (tpl k 0) (toHex (2 * k.nbytes) v) := by
  rw [dash, sepJoin_eq, (tpl_groups k).1, fill_bytes (by decide)]

theorem colon_eq (k : Kind) (v : Nat) : colon k v = fill (tpl k 1) (toHex (2 * k.nbytes) v) := by
  rw [colon, sepJoin_eq, (tpl_groups k).2.1, fill_bytes (by decide)]

theorem cisco_eq (k : Kind) (v : Nat) : cisco k v = fill (tpl k 2) (toHex (2 * k.nbytes) v) := by
  have h := fill_groups (s := '.') (by decide) 4 (pairUp (hexBytes k.nbytes v))
  -- the paired bytes are groups of four digits with the same concatenation as the bytes
  rw [cisco_bytes, (tpl_groups k).2.2, ← flatten_hexBytes]
  cases k <;> simpa [Kind.nbytes, hexBytes, pairUp] using
    (h (by simp [Kind.nbytes, hexBytes, pairUp, toHex_length])).symm

theorem bare_eq (k : Kind) (v : Nat) :
    (dash k v).filter (· != '-') = fill (tpl k 3) (toHex (2 * k.nbytes) v) := by
  have h3 : (tpl k 0).filter (· != '-') = tpl k 3 := by cases k <;> decide +kernel
  rw [dash_eq, filter_fill _ (by decide), h3]
  intro d hd
  obtain ⟨n, hn, rfl⟩ := toHex_digits _ _ d hd
  simpa using hexL_ne_dash n hn

theorem fill_chars (k : Kind) (t : Str) (ht : t ∈ k.cls.formats) (v : Nat) (sep : Char)
    (hsep : ∀ c ∈ t, c = 'x' ∨ c = sep) :
    ∀ c ∈ fill t (toHex (2 * k.nbytes) v), c ∈ lowerDigits ∨ c = sep := by
  intro c hc
  rcases mem_fill t _ (by rw [toHex_length, count_x_formats k t ht]) c hc with h | h
  · exact Or.inr ((hsep c h.1).resolve_left h.2)
  · obtain ⟨d, hd, rfl⟩ := toHex_digits _ _ c h
    exact Or.inl (hexL_mem d hd)

theorem lower_fill_toHex (k : Kind) (t : Str) (ht : t ∈ k.cls.formats) (v : Nat) :
    lower (fill t (toHex (2 * k.nbytes) v)) = fill t (toHex (2 * k.nbytes) v) := by
  rw [lower_fill t (fun c hc => (goodTpl_formats k t ht c hc).1), toHex_eq]
  exact congrArg _ (map_hexWith hexL lowerChar hexL lowerChar_hexL _ _)

theorem fill_spec (t : Str) (ht : GoodTpl t) (ds : Str) : ∀ (a : Nat),
    (∀ d ∈ ds, isHex d = true) → ds.length = t.count 'x' →
    tmatch t (fill t ds) = true ∧
    hexFold a (fill t ds) = ds.foldl (fun a c => a * 16 + hexVal c) a := by
  induction t, ds using fill.induct with
  | case1 ds => intro a _ hl; rw [List.length_eq_zero_iff.mp hl]; exact ⟨rfl, rfl⟩
  | case2 ts d ds ih =>
    intro a hd hl
    have hdh := hd d List.mem_cons_self
    have := ih (fun x hx => ht x (List.mem_cons_of_mem _ hx)) (a * 16 + hexVal d)
      (fun x hx => hd x (List.mem_cons_of_mem _ hx)) (by simpa using hl)
    simpa [fill, tmatch, chOf, hexFold, hdh] using this
  | case3 ts ih => intro a _ hl; simp at hl
  | case4 c ts ds hx ih =>
    intro a hd hl
    have hc := (ht c List.mem_cons_self).2.resolve_left hx
    have := ih (fun x hx => ht x (List.mem_cons_of_mem _ hx)) a hd (by simpa [List.count_cons, hx] using hl)
    simpa [fill_lit hx, tmatch, chOf, hc, hx, hexFold] using this

theorem pow_bits (k : Kind) : 16 ^ (2 * k.nbytes) = 2 ^ (8 * k.nbytes) := by cases k <;> decide

theorem foldl_eq_ofHex (ds : Str) : ds.foldl (fun a c => a * 16 + hexVal c) 0 = ofHex ds := rfl

theorem parse_fill_digits (k : Kind) (t : Str) (ht : t ∈ k.cls.formats) (ds : Str)
    (hd : ∀ d ∈ ds, isHex d = true) (hl : ds.length = 2 * k.nbytes) :
    parseObj k (fill t ds) = .ok (ofHex ds) := by
  have sp := fill_spec t (goodTpl_formats k t ht) ds 0 hd (by rw [hl, count_x_formats k t ht])
  rw [parseObj_eq, List.any_eq_true.mpr ⟨t, ht, sp.1⟩, sp.2]
  rfl

theorem parse_fill (k : Kind) (t : Str) (ht : t ∈ k.cls.formats) (v : Nat) (hv : v < 2 ^ (8 * k.nbytes)) :
    parseObj k (fill t (toHex (2 * k.nbytes) v)) = .ok v := by
  rw [parse_fill_digits k t ht _ _ (toHex_length _ _), ofHex_toHex, pow_bits, Nat.mod_eq_of_lt hv]
  intro d hd
  obtain ⟨n, hn, rfl⟩ := toHex_digits _ _ d hd
  exact isHex_hexL n hn

theorem hexVal_lt {c : Char} (h : isHex c = true) : hexVal c < 16 := by
  have : ∀ c ∈ hexDigits, hexVal c < 16 := by decide
  exact this c (by simpa [isHex] using h)

theorem hexFold_lt (s : Str) : ∀ a, hexFold a s < (a + 1) * 16 ^ (s.countP isHex) := by
  induction s with
  | nil => intro a; simp [hexFold]
  | cons c cs ih =>
    intro a
    rw [hexFold, List.foldl_cons, List.countP_cons]
    split
    · next hc =>
      have h2 := hexVal_lt hc
      refine Nat.lt_of_lt_of_le (ih _) ?_
      rw [Nat.pow_succ', ← Nat.mul_assoc]
      exact Nat.mul_le_mul_right _ (by omega)
    · next hc => simpa [hc, hexFold] using ih a

theorem isHex_iff_of_chOf {t c : Char} (h : some t = chOf c) : isHex c = true ↔ t = 'x' := by
  unfold chOf at h
  split at h
  · simp_all
  · split at h
    · cases h
    · simp_all

theorem tmatch_count (t s : Str) (h : tmatch t s = true) : s.countP isHex = t.count 'x' := by
  induction t, s using tmatch.induct with
  | case1 => rfl
  | case2 t ts c cs ih =>
    simp only [tmatch, Bool.and_eq_true, beq_iff_eq] at h
    have hx := isHex_iff_of_chOf h.1
    rw [List.countP_cons, List.count_cons, ih h.2]
    by_cases hc : isHex c = true
    · simp [hc, hx.mp hc]
    · simp [hc, mt hx.mpr hc]
  | case3 t s h1 h2 => simp [tmatch] at h

theorem parseObj_lt (k : Kind) (s : Str) (v : Nat) (h : parseObj k s = .ok v) : v < 2 ^ (8 * k.nbytes) := by
  rw [parseObj_eq] at h
  split at h
  · rename_i hany
    obtain ⟨t, ht, hm⟩ := List.any_eq_true.mp hany
    cases h
    have := hexFold_lt s 0
    rw [tmatch_count t s hm, count_x_formats k t ht, pow_bits] at this
    omega
  · cases h

def Kind.other : Kind → Kind
  | .mac => .eui64
  | .eui64 => .mac

/-- the template lengths of the two sizes are disjoint -/
theorem cands_pair (n : Nat) : ∃ k : Kind,
    candidates [eui48, eui64] n = candidates [k.cls] n ∧ candidates [k.other.cls] n = [] := by
  by_cases h : ∃ k : Kind, ∃ f ∈ k.cls.formats, f.length = n
  · obtain ⟨k, f, hf, rfl⟩ := h
    exact ⟨k, (by cases k <;> decide +kernel : ∀ f ∈ k.cls.formats,
      candidates [eui48, eui64] f.length = candidates [k.cls] f.length ∧
        candidates [k.other.cls] f.length = []) f hf⟩
  · have hk : ∀ k : Kind, ∀ f ∈ k.cls.formats, f.length ≠ n := fun k f hf hl => h ⟨k, f, hf, hl⟩
    have one : ∀ k : Kind, candidates [k.cls] n = [] := fun k => cands_nil _ n (by simpa using hk k)
    refine ⟨.mac, ?_, one .eui64⟩
    rw [one .mac, cands_nil [eui48, eui64] n]
    intro c hc
    simp only [List.mem_cons, List.not_mem_nil, or_false] at hc
    rcases hc with rfl | rfl
    · exact hk .mac
    · exact hk .eui64

theorem parse_nil_cands (classes : List Cls) (s : Str) (h : candidates classes s.length = []) :
    parse classes s = .error .valueError := by
  unfold parse
  cases s with
  | nil => rfl
  | cons c cs =>
    have hl : ¬ (c :: cs).length < 1 := by simp
    rw [if_neg hl, h]
    rfl

/-- `_parse` with both classes, as `MACEUISearch` calls it -/
theorem parse_pair (w : Str) : ∃ k : Kind,
    parse [eui48, eui64] w = parse [k.cls] w ∧ parse [k.other.cls] w = .error .valueError := by
  obtain ⟨k, h1, h2⟩ := cands_pair w.length
  refine ⟨k, ?_, parse_nil_cands _ w h2⟩
  unfold parse
  rw [h1]

theorem classify_eq_of (w : Str) (k : Kind) (h : parse [eui48, eui64] w = parse [k.cls] w) :
    classify w = (parseObj k w).map fun v => (k, v) := by
  rw [classify, h, parse_single_eq]
  by_cases hany : k.cls.formats.any (fun t => tmatch t w) = true
  · have hobj : parseObj k w = .ok (hexFold 0 w) := by rw [parseObj_eq, if_pos hany]
    -- the value is below `1 <<< size`, so the `int` branch of `cls(address)` does not raise
    have hlt := parseObj_lt k w _ hobj
    have : ¬ hexFold 0 w ≥ 1 <<< k.cls.size := by
      rw [(by cases k <;> rfl : k.cls.size = 8 * k.nbytes), Nat.one_shiftLeft]; omega
    have hne : eui64 ≠ eui48 := by decide
    rw [hobj, if_pos hany]
    cases k <;> simp [Kind.cls, hne, Except.map] at this ⊢ <;> omega
  · rw [parseObj_eq, if_neg hany, if_neg hany]
    rfl

theorem classify_iff_parseObj (w : Str) (k : Kind) (v : Nat) :
    classify w = .ok (k, v) ↔ parseObj k w = .ok v := by
  obtain ⟨k0, h1, h2⟩ := parse_pair w
  rw [classify_eq_of w k0 h1]
  rcases (by cases k0 <;> cases k <;> decide : k = k0 ∨ k = k0.other) with rfl | rfl
  · cases parseObj k w <;> simp [Except.map]
  · have hne : k0 ≠ k0.other := by cases k0 <;> decide
    rw [show parseObj k0.other w = .error .valueError by rw [parseObj, h2]]
    cases parseObj k0 w <;> simp [Except.map, hne]

theorem classify_error_iff (w : Str) :
    classify w = .error .valueError ↔ ∀ k, parseObj k w = .error .valueError := by
  constructor
  · intro h k
    cases hp : parseObj k w with
    | error e => cases e; rfl
    | ok v => rw [(classify_iff_parseObj w k v).mpr hp] at h; cases h
  · intro h
    cases hc : classify w with
    | error e => cases e; rfl
    | ok r =>
      have := (classify_iff_parseObj w r.1 r.2).mp hc
      rw [h r.1] at this
      cases this

theorem eq_iff_of_lt (k : Kind) (v w : Nat) (hv : v < 2 ^ (8 * k.nbytes)) (hw : w < 2 ^ (8 * k.nbytes)) :
    (eq k v w = true ↔ v = w) ∧ (eqRaw k v w = true ↔ v = w) := by
  have key : fill (tpl k 0) (toHex (2 * k.nbytes) v) = fill (tpl k 0) (toHex (2 * k.nbytes) w) → v = w := by
    intro he
    have p1 := parse_fill k _ (tpl_mem k 0 (by omega)) v hv
    have p2 := parse_fill k _ (tpl_mem k 0 (by omega)) w hw
    rw [he, p2] at p1
    exact (Except.ok.inj p1).symm
  constructor
  · simp only [eq, dash_eq, lower_fill_toHex k _ (tpl_mem k 0 (by omega)), beq_iff_eq]
    exact ⟨key, fun h => by rw [h]⟩
  · simp only [eqRaw, lower_hwStr_eq, beq_iff_eq]
    exact ⟨key, fun h => by rw [h]⟩

/-- `==` between any two objects (wrapper or plain, either size) whose addresses are in range -/
theorem objEq_iff (a b : Obj) (ha : a.value < 2 ^ (8 * a.kind.nbytes)) (hb : b.value < 2 ^ (8 * b.kind.nbytes)) :
    objEq a b = true ↔ a.kind = b.kind ∧ a.value = b.value := by
  have ite : ∀ (k k' : Kind) (c : Bool), (if k = k' then c else false) = true ↔ k = k' ∧ c = true := by
    intro k k' c; split <;> simp [*]
  cases a <;> cases b <;> simp only [objEq, Obj.kind, Obj.value, ite] at ha hb ⊢
  · exact and_congr_right fun hk => by subst hk; exact (eq_iff_of_lt _ _ _ ha hb).1
  · exact and_congr_right fun hk => by subst hk; exact (eq_iff_of_lt _ _ _ ha hb).2
  · exact and_congr_right fun hk => by subst hk; exact ((eq_iff_of_lt _ _ _ hb ha).2).trans eq_comm
  · simp

end Ccp.Mac
