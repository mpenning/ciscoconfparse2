import Ccp.Proofs.TreeLink
import Ccp.Proofs.TreeLossless
import Ccp.Proofs.TreeKeep
/-!
The banner / macro part of C02 and C03: what a start line does to the parent of every line
(pointwise, from the closed form of the passes in `Proofs/TreePasses`), the "last start wins"
reading of running over the start lines in line order, and the final parents of `link` / `parse`
as `specParentFull`.
-/
namespace Ccp.Tree
open Ccp.Py

theorem covers_iff (cov : Str → List Str → Nat) (ls : List Str) (q j : Nat) :
    covers cov ls q j = true ↔ q < j ∧ j - q ≤ cov (ls.getD q []) (ls.drop (q + 1)) := by
  simp [covers]

theorem covers_lt {cov : Str → List Str → Nat} {ls : List Str} {q j : Nat} (h : covers cov ls q j = true) : q < j :=
  ((covers_iff cov ls q j).mp h).1

theorem lastCover_eq_lastBelow (cov : Str → List Str → Nat) (ls : List Str) (j n : Nat) :
    lastCover cov ls j n = lastBelow (fun q => covers cov ls q j) n := by
  induction n with
  | zero => rfl
  | succ n ih => rw [lastCover, lastBelow, ih]

theorem lastCover_eq_some (cov : Str → List Str → Nat) (ls : List Str) (j n q : Nat) :
    lastCover cov ls j n = some q ↔
      q < n ∧ covers cov ls q j = true ∧ ∀ m, q < m → m < n → covers cov ls m j = false := by
  rw [lastCover_eq_lastBelow, lastBelow_eq_some]

theorem lastCover_eq_none (cov : Str → List Str → Nat) (ls : List Str) (j n : Nat) :
    lastCover cov ls j n = none ↔ ∀ m, m < n → covers cov ls m j = false := by
  rw [lastCover_eq_lastBelow, lastBelow_eq_none]

theorem macroOwner_eq_some (cfg : Cfg) (ls : List Str) (i m : Nat) :
    macroOwner cfg ls i = some m ↔
      cfg.ios = true ∧ m < i ∧ covers coverM ls m i = true ∧ ∀ q, m < q → q < i → covers coverM ls q i = false := by
  unfold macroOwner
  cases cfg.ios with
  | false => simp
  | true => simp only [if_true, lastCover_eq_some, true_and]

theorem macroOwner_eq_none (cfg : Cfg) (ls : List Str) (i : Nat) :
    macroOwner cfg ls i = none ↔ (cfg.ios = true → ∀ m, m < i → covers coverM ls m i = false) := by
  unfold macroOwner
  cases cfg.ios with
  | false => simp
  | true => simp only [if_true, lastCover_eq_none, true_imp_iff]

theorem specParentFull_eq_iff (cfg : Cfg) (ls : List Str) (i p : Nat) :
    specParentFull cfg ls i = p ↔
      macroOwner cfg ls i = some p ∨
      (macroOwner cfg ls i = none ∧ bannerOwner ls i = some p) ∨
      (macroOwner cfg ls i = none ∧ bannerOwner ls i = none ∧ specParent (ls.map (info cfg)) i = p) := by
  unfold specParentFull
  cases macroOwner cfg ls i <;> cases bannerOwner ls i <;> simp

/-- the stretch of a banner start = its body (`Spec/BlankKeep.lean`) and, when there is one,
the closing line -/
theorem bannerLinkLen_eq (d : Char) (rest : List Str) :
    bannerLinkLen d rest = min (bannerBodyLen d rest + 1) rest.length := by
  rw [bannerLinkLen_eq_runLen, bannerBodyLen_eq_runLen, runLen_one]

theorem bannerLinkLen_le (d : Char) (rest : List Str) : bannerLinkLen d rest ≤ rest.length := by
  rw [bannerLinkLen_eq]; omega

theorem bannerLinkLen_spec (d : Char) (rest : List Str) (k : Nat) :
    k + 1 ≤ bannerLinkLen d rest ↔
      k < rest.length ∧ ∀ m y, m < k → rest[m]? = some y → (strip y).contains d = false := by
  rw [bannerLinkLen_eq_runLen, runLen_spec]

theorem macroBodyLen_spec (rest : List Str) (k : Nat) :
    k + 1 ≤ macroBodyLen rest ↔
      k < rest.length ∧ ∀ m y, m < k → rest[m]? = some y → (rstrip y == ['@']) = false := by
  rw [macroBodyLen_eq_runLen, runLen_spec]

theorem coverB_le (x : Str) (rest : List Str) : coverB x rest ≤ rest.length := by
  unfold coverB
  split
  · split
    · split
      · omega
      · exact bannerLinkLen_le _ _
    · omega
  · omega

theorem coverM_le (x : Str) (rest : List Str) : coverM x rest ≤ rest.length := by
  unfold coverM
  split
  · exact macroBodyLen_le rest
  · omega

theorem covers_lt_length (cov : Str → List Str → Nat) (hcov : ∀ x rest, cov x rest ≤ rest.length)
    (ls : List Str) (q j : Nat) (h : covers cov ls q j = true) : j < ls.length := by
  obtain ⟨h1, h2⟩ := (covers_iff cov ls q j).mp h
  have := hcov (ls.getD q []) (ls.drop (q + 1))
  simp only [List.length_drop] at this
  omega

/-- the owner found by `lastCover` if it is one of the starts the scan from `i` runs over (`≥ i`), else `dflt` -/
def pick (i : Nat) (o : Option Nat) (dflt : Nat) : Nat :=
  match o with
  | some q => if i ≤ q then q else dflt
  | none => dflt

theorem pick_zero (o : Option Nat) (dflt : Nat) : pick 0 o dflt = o.getD dflt := by
  cases o <;> simp [pick]

/-- processing start `i` first and the later starts afterwards = "the last one wins" -/
theorem pick_step (cov : Str → List Str → Nat) (ls : List Str) (i j P : Nat) :
    pick (i + 1) (lastCover cov ls j j) (if covers cov ls i j = true then i else P) =
      pick i (lastCover cov ls j j) P := by
  cases ho : lastCover cov ls j j with
  | none =>
    have hi : covers cov ls i j = false := Bool.eq_false_iff.mpr fun hc => by
      have := (lastCover_eq_none cov ls j j).mp ho i (covers_lt hc); rw [hc] at this; cases this
    rw [hi]; rfl
  | some q =>
    obtain ⟨hq, hc, hmax⟩ := (lastCover_eq_some cov ls j j q).mp ho
    simp only [pick]
    by_cases h1 : i + 1 ≤ q
    · rw [if_pos h1, if_pos (show i ≤ q by omega)]
    · rw [if_neg h1]
      by_cases h2 : i = q
      · subst h2; rw [hc, if_pos rfl, if_pos (Nat.le_refl _)]
      · have hi : covers cov ls i j = false := Bool.eq_false_iff.mpr fun hc' => by
          have := hmax i (by omega) (covers_lt hc'); rw [hc'] at this; cases this
        rw [hi, if_neg (show ¬ i ≤ q by omega)]; rfl

theorem bannerWalk_parent (d : Char) (p : Nat) (body : List Str) :
    ∀ (idx : Nat) (t : T), idx + body.length ≤ t.parents.length → ∀ j,
      parentOf (bannerWalk d p idx body t) j =
        if idx ≤ j ∧ j - idx < bannerLinkLen d body then p else parentOf t j := by
  intro idx t hlen j
  have := bannerLinkLen_le d body
  simp only [bannerWalk_eq, parentOf, getD_fill]
  exact ite_congr (propext (by omega)) (fun _ => rfl) (fun _ => rfl)

theorem macroWalk_parent (p : Nat) (body : List Str) :
    ∀ (idx : Nat) (t : T), idx + body.length ≤ t.parents.length → ∀ j,
      parentOf (macroWalk p idx body t) j =
        if idx ≤ j ∧ j - idx < macroBodyLen body then p else parentOf t j := by
  intro idx t hlen j
  have := macroBodyLen_le body
  simp only [macroWalk_eq, parentOf, getD_fill]
  exact ite_congr (propext (by omega)) (fun _ => rfl) (fun _ => rfl)

theorem parentOf_stamp (cov prot : Str → List Str → Nat) (hcov : ∀ x rest, cov x rest ≤ rest.length)
    (t : T) (hwf : t.WF) (i : Nat) (x : Str) (hx : t.texts[i]? = some x) (j : Nat) :
    parentOf (stamp cov prot t i x) j = if covers cov t.texts i j = true then i else parentOf t j := by
  have hn := hcov x (t.texts.drop (i + 1))
  have hi := (List.getElem?_eq_some_iff.mp hx).1
  have hp := hwf.1
  have hgd : t.texts.getD i [] = x := by rw [List.getD_eq_getElem?_getD, hx]; rfl
  rw [List.length_drop] at hn
  simp only [covers_iff, hgd, parentOf, stamp, getD_fill]
  exact ite_congr (propext (by omega)) (fun _ => rfl) (fun _ => rfl)

theorem stampFrom_parent (cov prot : Str → List Str → Nat) (hcov : ∀ x rest, cov x rest ≤ rest.length)
    (suffix : List Str) : ∀ (i : Nat) (t : T), t.WF → t.texts.drop i = suffix → ∀ j,
      parentOf (stampFrom cov prot i suffix t) j = pick i (lastCover cov t.texts j j) (parentOf t j) := by
  induction suffix with
  | nil =>
    intro i t _ hd j
    have hlen : t.texts.length ≤ i := by simpa using hd
    cases ho : lastCover cov t.texts j j with
    | none => rfl
    | some q =>
      obtain ⟨hq, hc, _⟩ := (lastCover_eq_some cov t.texts j j q).mp ho
      have := covers_lt_length cov hcov t.texts q j hc
      have : ¬ i ≤ q := by omega
      simp [stampFrom, pick, this]
  | cons x rest ih =>
    intro i t hwf hd j
    obtain ⟨hx, hrest, hi⟩ := drop_cons_getElem? _ _ _ _ hd
    rw [stampFrom, ih (i + 1) (stamp cov prot t i x) (stamp_wf cov prot t i x hwf) hrest j,
      parentOf_stamp cov prot hcov t hwf i x hx j]
    exact pick_step cov t.texts i j _

theorem link_parentOf (cfg : Cfg) (ls : List Str) (j : Nat) (hj : j < ls.length) :
    parentOf (link cfg ls) j = specParentFull cfg ls j := by
  have hB := stampFrom_parent coverB protB coverB_le ls 0 _ (pass1_wf cfg ls) rfl j
  rw [pick_zero] at hB
  rw [link_eq_stamps]
  unfold specParentFull macroOwner bannerOwner
  have h1 : parentOf (pass1 cfg ls) j =
      specParent (ls.map (info cfg)) j := by
    simp [parentOf, linkByIndent_eq_map, List.getD_eq_getElem?_getD, hj]
  cases cfg.ios with
  | false => rw [if_neg (by simp), if_neg (by simp), id, hB, h1]; cases lastCover coverB ls j j <;> rfl
  | true =>
    rw [if_pos rfl, if_pos rfl, stampFrom_parent coverM protM coverM_le ls 0 _ (stampFrom_wf _ _ _ _ _ (pass1_wf cfg ls))
      (by rw [stampFrom_texts]; rfl) j, pick_zero, hB, h1, stampFrom_texts]
    cases lastCover coverM ls j j with
    | some m => rfl
    | none => cases lastCover coverB ls j j <;> rfl

theorem link_parents_eq_spec (cfg : Cfg) (ls : List Str) :
    (link cfg ls).parents = (List.range ls.length).map (specParentFull cfg ls) := by
  have hlen : (link cfg ls).parents.length = ls.length := by
    rw [(link_wf cfg ls).1, link_texts_ll]
  apply List.ext_getElem (by simp [hlen])
  intro j h1 h2
  have hj : j < ls.length := by omega
  have := link_parentOf cfg ls j hj
  simp only [parentOf, List.getD_eq_getElem?_getD, List.getElem?_eq_getElem h1, Option.getD_some] at this
  simp [this]

theorem link_children_eq_spec (cfg : Cfg) (ls : List Str) (p : Nat) :
    children (link cfg ls) p = specChildrenFull cfg ls p := by
  unfold children specChildrenFull
  have hs : (link cfg ls).size = ls.length := by simp [T.size, link_texts_ll]
  rw [hs]
  apply List.filter_congr
  intro j hj
  rw [link_parentOf cfg ls j (List.mem_range.mp hj)]

theorem parse_is_link (cfg : Cfg) (ls : List Str) : parse cfg ls = link cfg (parse cfg ls).texts := by
  rw [parse_eq_bootstrap]; exact bootstrapFuel_is_link cfg _ _

theorem parse_parentOf_full (cfg : Cfg) (ls : List Str) (j : Nat) (hj : j < (parse cfg ls).size) :
    parentOf (parse cfg ls) j = specParentFull cfg (parse cfg ls).texts j := by
  have h := parse_is_link cfg ls
  conv => lhs; rw [h]
  exact link_parentOf cfg _ j hj

theorem lastCover_none_of_no_cover (cov : Str → List Str → Nat) (ls : List Str) (j n : Nat)
    (h : ∀ q x, ls[q]? = some x → cov x (ls.drop (q + 1)) = 0) (hn : n ≤ ls.length) :
    lastCover cov ls j n = none := by
  rw [lastCover_eq_none]
  intro m hm
  cases hc : covers cov ls m j with
  | false => rfl
  | true =>
    have hml : m < ls.length := by omega
    have := (covers_iff cov ls m j).mp hc
    rw [show ls.getD m [] = ls[m] by simp [List.getD_eq_getElem?_getD, List.getElem?_eq_getElem hml],
      h m ls[m] (List.getElem?_eq_getElem hml)] at this
    omega

theorem macroOwner_none_of_no_start (cfg : Cfg) (ls : List Str) (i : Nat)
    (hm : cfg.ios = true → ∀ x ∈ ls, isMacroStart x = false) (hi : i ≤ ls.length) :
    macroOwner cfg ls i = none := by
  unfold macroOwner
  split
  · exact lastCover_none_of_no_cover coverM ls i i
      (fun q x hx => by simp [coverM, hm ‹_› x (List.mem_of_getElem? hx)]) hi
  · rfl

end Ccp.Tree
