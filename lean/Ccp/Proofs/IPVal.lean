import Ccp.Model.IPVal
/-!
Address objects over a family of width `f.w` (C12, C13).  The network of an object is the aligned block of
`2 ^ (w - len)` addresses that share the leading `len` bits of its address: `a` lies in it iff
`a >>> (w - len)` agrees (`netMem_iff`, `inNet_iff`).  Membership between objects, the order and the
arithmetic are read off that; `Ccp.Proofs.IPValCollapse` does the same for `collapse_addresses`.
-/
namespace Ccp.IPVal

/-- what the theorems need to know about the family constants (checked for `v4`, `v6` by `decide`
over the generated tables) -/
structure Fam.Ok (f : Fam) : Prop where
  maxInt_eq : f.maxInt = 2 ^ f.w - 1
  nhC_eq : f.nhC = f.w
  nhB_eq : f.nhB + 1 = f.w
  nhA_eq : f.nhA + 2 = f.w

theorem Fam.Ok.le_maxInt_iff {f : Fam} (ok : f.Ok) {n : Nat} : n ≤ f.maxInt ↔ n < 2 ^ f.w := by
  rw [ok.maxInt_eq]; exact Nat.le_sub_one_iff_lt (Nat.two_pow_pos _)

theorem v4_ok : v4.Ok := ⟨by decide, by decide, by decide, by decide⟩
theorem v6_ok : v6.Ok := ⟨by decide, by decide, by decide, by decide⟩

/-- the class invariant: address and prefix length in range, `network_object` is the network of
`ip_object` -/
structure Valid (f : Fam) (x : Obj) : Prop where
  ip_lt : x.ip < 2 ^ f.w
  len_le : x.len ≤ f.w
  net_eq : x.net = netOf f x.ip x.len

instance (f : Fam) (x : Obj) : Decidable (Valid f x) :=
  if h : x.ip < 2 ^ f.w ∧ x.len ≤ f.w ∧ x.net = netOf f x.ip x.len
  then isTrue ⟨h.1, h.2.1, h.2.2⟩ else isFalse (fun v => h ⟨v.1, v.2, v.3⟩)

instance {α : Type} [DecidableEq α] : DecidableEq (Except Err α) := fun a b =>
  match a, b with
  | .ok x, .ok y => if h : x = y then isTrue (by rw [h]) else isFalse (fun e => h (by cases e; rfl))
  | .error x, .error y => if h : x = y then isTrue (by rw [h]) else isFalse (fun e => h (by cases e; rfl))
  | .ok _, .error _ => isFalse (fun e => by cases e)
  | .error _, .ok _ => isFalse (fun e => by cases e)

theorem shiftRight_eq_of_le {a b h k : Nat} (hk : h ≤ k) (e : a >>> h = b >>> h) : a >>> k = b >>> k := by
  rw [← Nat.sub_add_cancel hk, Nat.add_comm, Nat.shiftRight_add, Nat.shiftRight_add, e]

/-- `ip & (ALL_ONES ^ (ALL_ONES >> len))` clears the `w - len` low bits -/
theorem netOf_eq (f : Fam) (ip len : Nat) (hip : ip < 2 ^ f.w) :
    netOf f ip len = ip / 2 ^ (f.w - len) * 2 ^ (f.w - len) := by
  apply Nat.eq_of_testBit_eq
  intro i
  unfold netOf netmask allOnes
  rw [Nat.testBit_and, Nat.testBit_xor, Nat.testBit_shiftRight, Nat.testBit_two_pow_sub_one,
    Nat.testBit_two_pow_sub_one, Nat.testBit_mul_two_pow, Nat.testBit_div_two_pow]
  -- bit `i` of the mask is set iff `w - len ≤ i < w`, and the address has no bit from `w` on
  by_cases hi : f.w - len ≤ i
  · rw [Nat.sub_add_cancel hi]
    by_cases hw : i < f.w
    · simp [hi, hw, Nat.not_lt.mpr (Nat.sub_le_iff_le_add'.mp hi)]
    · simp [Nat.testBit_lt_two_pow (Nat.lt_of_lt_of_le hip (Nat.pow_le_pow_right (by decide) (Nat.le_of_not_lt hw)))]
  · have h := Nat.not_le.mp hi
    simp [hi, Nat.lt_sub_iff_add_lt'.mp h, Nat.lt_of_lt_of_le h (Nat.sub_le ..)]

/-- host bits of a network -/
def nhb (f : Fam) (n : Net) : Nat := f.w - n.2

structure AlignedNet (f : Fam) (n : Net) : Prop where
  len_le : n.2 ≤ f.w
  lt : n.1 < 2 ^ f.w
  clear : n.1 = n.1 / 2 ^ nhb f n * 2 ^ nhb f n

/-- `a` is an address of the network `n`: `network_address ≤ a ≤ broadcast_address` -/
def NetMem (f : Fam) (n : Net) (a : Nat) : Prop := n.1 ≤ a ∧ a ≤ netBcast f n

theorem netMem_iff (f : Fam) (n : Net) (al : AlignedNet f n) (a : Nat) :
    NetMem f n a ↔ a >>> nhb f n = n.1 >>> nhb f n := by
  have hp := Nat.two_pow_pos (nhb f n)
  rw [Nat.shiftRight_eq_div_pow, Nat.shiftRight_eq_div_pow, Nat.div_eq_iff hp, ← al.clear, Nat.add_sub_assoc hp]
  rfl

theorem netMem_self (f : Fam) (n : Net) : NetMem f n n.1 ∧ NetMem f n (netBcast f n) :=
  ⟨⟨Nat.le_refl _, Nat.le_add_right ..⟩, Nat.le_add_right .., Nat.le_refl _⟩

theorem AlignedNet.bcast_lt {f : Fam} {n : Net} (al : AlignedNet f n) : netBcast f n < 2 ^ f.w := by
  have hk := al.lt
  have hp := Nat.two_pow_pos (nhb f n)
  refine Nat.lt_of_lt_of_le (Nat.add_lt_add_left (Nat.sub_one_lt (Nat.ne_of_gt hp)) _) ?_
  -- `n.1 = k * 2 ^ h < 2 ^ (w - h) * 2 ^ h`, so `k + 1 ≤ 2 ^ (w - h)`
  show n.1 + 2 ^ nhb f n ≤ 2 ^ f.w
  rw [al.clear, ← Nat.sub_add_cancel (Nat.sub_le f.w n.2), Nat.pow_add] at hk ⊢
  rw [← Nat.succ_mul]
  exact Nat.mul_le_mul_right _ (Nat.lt_of_mul_lt_mul_right hk)

def InNet (f : Fam) (x : Obj) (a : Nat) : Prop := x.net ≤ a ∧ a ≤ asDecimalBroadcast f x

theorem Valid.net_div {f : Fam} {x : Obj} (v : Valid f x) :
    x.net = x.ip / 2 ^ (f.w - x.len) * 2 ^ (f.w - x.len) := by
  rw [v.net_eq, netOf_eq f _ _ v.ip_lt]

theorem Valid.net_shift {f : Fam} {x : Obj} (v : Valid f x) :
    x.net >>> (f.w - x.len) = x.ip >>> (f.w - x.len) := by
  rw [v.net_div, Nat.shiftRight_eq_div_pow, Nat.mul_div_cancel _ (Nat.two_pow_pos _), Nat.shiftRight_eq_div_pow]

theorem aligned_network (f : Fam) (x : Obj) (v : Valid f x) : AlignedNet f (network x) := by
  refine ⟨v.len_le, ?_, ?_⟩
  · show x.net < _
    rw [v.net_div]; exact Nat.lt_of_le_of_lt (Nat.div_mul_le_self ..) v.ip_lt
  · show x.net = x.net / 2 ^ (f.w - x.len) * 2 ^ (f.w - x.len)
    rw [v.net_div, Nat.mul_div_cancel _ (Nat.two_pow_pos _)]

theorem netMem_network (f : Fam) (x : Obj) (a : Nat) : NetMem f (network x) a ↔ InNet f x a := Iff.rfl

theorem inNet_iff (f : Fam) (x : Obj) (vx : Valid f x) (a : Nat) :
    InNet f x a ↔ a >>> (f.w - x.len) = x.ip >>> (f.w - x.len) := by
  rw [← vx.net_shift]; exact netMem_iff f _ (aligned_network f x vx) a

theorem valid_of_inNet (f : Fam) (x : Obj) (v : Valid f x) (a : Nat) (ha : InNet f x a) :
    Valid f { x with ip := a } := by
  have al := aligned_network f x v
  have hlt : a < 2 ^ f.w := Nat.lt_of_le_of_lt ha.2 al.bcast_lt
  have e : a >>> (f.w - x.len) = x.net >>> (f.w - x.len) := (netMem_iff f _ al a).mp ha
  refine ⟨hlt, v.len_le, ?_⟩
  show x.net = netOf f a x.len
  rw [netOf_eq f _ _ hlt, ← Nat.shiftRight_eq_div_pow, e, Nat.shiftRight_eq_div_pow]
  exact al.clear

theorem valid_ofIpLen (f : Fam) (ip len : Nat) (hip : ip < 2 ^ f.w) (hl : len ≤ f.w) :
    Valid f (ofIpLen f ip len) := ⟨hip, hl, rfl⟩

theorem Valid.eq_ofIpLen {f : Fam} {x : Obj} (v : Valid f x) : ofIpLen f x.ip x.len = x := by
  cases x; exact congrArg (Obj.mk _ · _) v.net_eq.symm

def PrefixOf (f : Fam) (y x : Obj) : Prop :=
  y.len ≤ x.len ∧ x.ip >>> (f.w - y.len) = y.ip >>> (f.w - y.len)

theorem prefix_iff_subset (f : Fam) (y x : Obj) (vy : Valid f y) (vx : Valid f x) :
    PrefixOf f y x ↔ y.len ≤ x.len ∧ ∀ a, InNet f x a → InNet f y a := by
  simp only [inNet_iff f _ vy, inNet_iff f _ vx]
  exact and_congr_right fun hl =>
    ⟨fun e a ha => (shiftRight_eq_of_le (Nat.sub_le_sub_left hl _) ha).trans e, fun h => h x.ip rfl⟩

theorem subset_iff_interval (f : Fam) (y x : Obj) :
    (∀ a, InNet f x a → InNet f y a) ↔ y.net ≤ x.net ∧ asDecimalBroadcast f x ≤ asDecimalBroadcast f y := by
  have hx := netMem_self f (network x)
  exact ⟨fun h => ⟨(h _ hx.1).1, (h _ hx.2).2⟩,
    fun ⟨h1, h2⟩ a ⟨h3, h4⟩ => ⟨Nat.le_trans h1 h3, Nat.le_trans h4 h2⟩⟩

theorem contains6_eq_contains4 (f : Fam) (y x : Obj) : contains6 f y x = contains4 f y x := by
  unfold contains4 contains6
  by_cases h : y.len > x.len
  · rw [if_pos h, if_pos h]
  · rw [if_neg h, if_neg h, decide_eq_true (Nat.le_of_not_gt h), Bool.and_true]

theorem contains4_iff_prefix (f : Fam) (y x : Obj) (vy : Valid f y) (vx : Valid f x) :
    contains4 f y x = true ↔ PrefixOf f y x := by
  unfold contains4
  split
  · next h0 =>
    -- the zero prefix: no bit is compared
    refine iff_of_true rfl ⟨h0 ▸ Nat.zero_le _, ?_⟩
    rw [h0, Nat.sub_zero, Nat.shiftRight_eq_div_pow, Nat.shiftRight_eq_div_pow,
      Nat.div_eq_of_lt vx.ip_lt, Nat.div_eq_of_lt vy.ip_lt]
  · split
    · next h => exact iff_of_false Bool.false_ne_true fun p => Nat.not_lt.mpr p.1 h
    · next h =>
      rw [prefix_iff_subset f y x vy vx, subset_iff_interval]
      simp only [Bool.and_eq_true, decide_eq_true_eq]
      exact ⟨fun ⟨⟨a, b⟩, c⟩ => ⟨c, a, b⟩, fun ⟨c, a, b⟩ => ⟨⟨a, b⟩, c⟩⟩

theorem contains6_iff_prefix (f : Fam) (y x : Obj) (vy : Valid f y) (vx : Valid f x) :
    contains6 f y x = true ↔ PrefixOf f y x := by
  rw [contains6_eq_contains4]; exact contains4_iff_prefix f y x vy vx

/-- the lexicographic order on `(network, prefix length, address)` -/
def LexLt (x y : Obj) : Prop :=
  x.net < y.net ∨ (x.net = y.net ∧ (x.len < y.len ∨ (x.len = y.len ∧ x.ip < y.ip)))

theorem lt_iff_lex (x y : Obj) : lt x y = true ↔ LexLt x y := by
  unfold lt LexLt
  by_cases hn : x.net = y.net
  · by_cases hl : x.len = y.len
    · simp [hn, hl]
    · simp [hn, hl]
  · simp [hn]

theorem lt_false_iff (x y : Obj) : lt x y = false ↔ ¬ LexLt x y := by
  rw [← lt_iff_lex, Bool.not_eq_true]

theorem gt_eq_lt_flip (x y : Obj) : gt x y = lt y x := by
  simp only [gt, lt, gt_iff_lt, eq_comm]

theorem eq_iff_fields (x y : Obj) : eq x y = true ↔ x.ip = y.ip ∧ x.len = y.len := by
  unfold eq; split <;> simp_all

theorem eq_iff_same (f : Fam) (x y : Obj) (vx : Valid f x) (vy : Valid f y) :
    eq x y = true ↔ x = y := by
  rw [eq_iff_fields]
  refine ⟨fun ⟨h1, h2⟩ => ?_, fun h => h ▸ ⟨rfl, rfl⟩⟩
  rw [← vx.eq_ofIpLen, ← vy.eq_ofIpLen, h1, h2]

theorem lex_irrefl (x : Obj) : ¬ LexLt x x := by unfold LexLt; omega
theorem lex_trans (x y z : Obj) : LexLt x y → LexLt y z → LexLt x z := by unfold LexLt; lia
theorem lex_asymm (x y : Obj) (h : LexLt x y) : ¬ LexLt y x := fun h' => lex_irrefl x (lex_trans x y x h h')
theorem lex_tri (x y : Obj) :
    LexLt x y ∨ (x.net = y.net ∧ x.len = y.len ∧ x.ip = y.ip) ∨ LexLt y x := by unfold LexLt; lia
/-- if not `x < y` then `y ≤ x < z` -/
theorem lex_negtrans (x y z : Obj) (h : LexLt x z) : LexLt x y ∨ LexLt y z :=
  (lex_tri x y).imp_right fun h' => h'.elim
    (fun ⟨e1, e2, e3⟩ => by unfold LexLt at h ⊢; rwa [← e1, ← e2, ← e3]) (fun h' => lex_trans y x z h' h)

theorem specific_after (f : Fam) (y x : Obj) (vy : Valid f y) (vx : Valid f x)
    (hc : PrefixOf f y x) (hl : y.len < x.len) : LexLt y x := by
  have := (subset_iff_interval f y x).mp ((prefix_iff_subset f y x vy vx).mp hc).2
  unfold LexLt
  omega

theorem nested_of_common (f : Fam) (r r' x : Obj) (h : PrefixOf f r x) (h' : PrefixOf f r' x)
    (hl : r.len ≤ r'.len) : PrefixOf f r r' :=
  ⟨hl, (shiftRight_eq_of_le (Nat.sub_le_sub_left hl _) h'.2).symm.trans h.2⟩

theorem setLen_ok (f : Fam) (x : Obj) (l : Nat) (hl : l ≤ f.w) :
    setLen f x (l : Int) = .ok (ofIpLen f x.ip l) :=
  if_pos ⟨Int.natCast_nonneg l, Int.ofNat_le.mpr hl⟩

theorem ofInt_ok (f : Fam) (n : Nat) (hn : n ≤ f.maxInt) :
    ofInt f (n : Int) = .ok (ofIpLen f n f.w) :=
  if_pos ⟨Int.natCast_nonneg n, Int.ofNat_le.mpr hn⟩

theorem add_eq (f : Fam) (x : Obj) (val : Int) (hl : x.len ≤ f.w) :
    add f x val = if 0 ≤ (x.ip : Int) + val ∧ (x.ip : Int) + val ≤ f.maxInt
      then .ok (ofIpLen f ((x.ip : Int) + val).toNat x.len) else .error .requirementFailure := by
  unfold add asDecimal
  by_cases h : 0 ≤ (x.ip : Int) + val ∧ (x.ip : Int) + val ≤ f.maxInt
  · obtain ⟨n, hn⟩ := Int.eq_ofNat_of_zero_le h.1
    rw [if_pos h]
    rw [hn] at h ⊢
    rw [if_neg (Int.not_lt.mpr h.2), if_neg (Int.not_lt.mpr h.1), ofInt_ok f n (Int.ofNat_le.mp h.2)]
    exact setLen_ok f _ _ hl
  · rw [if_neg h]
    by_cases h1 : (x.ip : Int) + val > f.maxInt
    · exact if_pos h1
    · exact (if_neg h1).trans (if_pos (Int.not_le.mp fun h2 => h ⟨h2, Int.not_lt.mp h1⟩))

theorem sub_eq_add_neg (f : Fam) (x : Obj) (val : Int) : sub f x val = add f x (-val) := rfl

theorem numhosts_spec (f : Fam) (ok : f.Ok) (x : Obj) (hl : x.len ≤ f.w) :
    numhosts f x =
      .ok (if x.len + 2 ≤ f.w then 2 ^ (f.w - x.len) - 2 else if x.len + 1 = f.w then 2 else 1) := by
  have hA : x.len ≤ f.nhA ↔ x.len + 2 ≤ f.w := by rw [← ok.nhA_eq]; exact Nat.add_le_add_iff_right.symm
  have hB : x.len = f.nhB ↔ x.len + 1 = f.w := by rw [← ok.nhB_eq]; exact Nat.add_right_cancel_iff.symm
  unfold numhosts
  simp only [hA, hB, ok.nhC_eq]
  by_cases h1 : x.len + 2 ≤ f.w
  · rw [if_pos h1, if_pos h1]
  · rw [if_neg h1, if_neg h1]
    by_cases h2 : x.len + 1 = f.w
    · rw [if_pos h2, if_pos h2]
    · rw [if_neg h2, if_neg h2,
        if_pos (Nat.le_antisymm hl (Nat.not_lt.mp fun hlt => (Nat.lt_or_eq_of_le hlt).elim h1 h2))]

end Ccp.IPVal
