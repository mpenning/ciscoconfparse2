import Ccp.Proofs.IPSpell
import Ccp.Spec.IP
/-!
C11: the renderings.  The positional numerals of the Spec (`IsFixed`, `IsShortest`): a width or the absence of
leading zeros, a base and a value leave one text.  The choice of `_compress_hextets` (`strV6_choice`, on the zero
pattern) read as RFC 5952 on the group values (`strV6_groups`).  The zero-padded / hex / binary renderings.
-/
namespace Ccp.IPText
open Ccp.Py Ccp.Spec

theorem hextets_eq_groups (n : Nat) : hextets n = IP.groups n := by
  simp [hextets, IP.groups, IP.group, List.range, List.range.loop]

theorem groups_length (n : Nat) : (IP.groups n).length = 8 := by simp [IP.groups]

theorem groups_lt (n : Nat) : ∀ g ∈ IP.groups n, g < 65536 := by
  rw [← hextets_eq_groups]; exact hextets_lt n

theorem toBytes4_eq_octets (n : Nat) : toBytes4 n = IP.octets n := by
  simp [toBytes4, IP.octets, IP.octet, List.range, List.range.loop]

theorem octets_lt (n : Nat) : ∀ v ∈ IP.octets n, v < 256 := by
  rw [← toBytes4_eq_octets]; intro v hv; have := toBytes4_lt n v hv; omega

theorem digitChar_hexDigit : ∀ d : Fin 16, Nat.digitChar d.val = IP.hexDigit d.val := by decide

theorem hex4_eq_spec (g : Nat) : IPText.hex4 g = IP.hex4 g := by
  have hd : ∀ d, d < 16 → Nat.digitChar d = IP.hexDigit d := fun d h => digitChar_hexDigit ⟨d, h⟩
  simp only [IPText.hex4, IP.hex4]
  rw [hd _ (Nat.mod_lt _ (by omega)), hd _ (Nat.mod_lt _ (by omega)), hd _ (Nat.mod_lt _ (by omega)),
    hd _ (Nat.mod_lt _ (by omega))]

/-- `48` is `'0'`, `87` is `'a' - 10` -/
theorem digitOf_eq_some {b d : Nat} {c : Char} :
    IP.digitOf b c = some d ↔ d < b ∧ (c.toNat = d + 48 ∧ d ≤ 9 ∨ c.toNat = d + 87 ∧ 10 ≤ d ∧ d ≤ 15) := by
  unfold IP.digitOf
  generalize c.toNat = n
  constructor
  · intro h
    split at h
    · next hc =>
      cases h
      exact ⟨hc.2.2, Or.inl ⟨(Nat.sub_add_cancel hc.1).symm, Nat.sub_le_of_le_add hc.2.1⟩⟩
    · split at h
      · next hc =>
        cases h
        exact ⟨hc.2.2, Or.inr ⟨(Nat.sub_add_cancel (Nat.le_trans (by decide) hc.1)).symm,
          Nat.le_sub_of_add_le hc.1, Nat.sub_le_of_le_add hc.2.1⟩⟩
      · cases h
  · rintro ⟨hd, ⟨rfl, h⟩ | ⟨rfl, h1, h2⟩⟩
    · rw [if_pos ⟨Nat.le_add_left 48 d, Nat.add_le_add_right h 48, by rw [Nat.add_sub_cancel]; exact hd⟩,
        Nat.add_sub_cancel]
    · rw [if_neg (fun hc => absurd hc.2.1 (by omega)),
        if_pos ⟨Nat.add_le_add_right h1 87, Nat.add_le_add_right h2 87, by rw [Nat.add_sub_cancel]; exact hd⟩,
        Nat.add_sub_cancel]

theorem digitOf_lt (b : Nat) (c : Char) (d : Nat) (h : IP.digitOf b c = some d) : d < b := (digitOf_eq_some.mp h).1

theorem digitOf_inj (b : Nat) (c c' : Char) (d : Nat) (h : IP.digitOf b c = some d) (h' : IP.digitOf b c' = some d) :
    c = c' := by
  have h1 := (digitOf_eq_some.mp h).2
  have h2 := (digitOf_eq_some.mp h').2
  apply Char.toNat_inj.mp
  omega

theorem digitOf_zero (b : Nat) (hb : 1 ≤ b) : IP.digitOf b '0' = some 0 :=
  digitOf_eq_some.mpr ⟨hb, Or.inl ⟨rfl, Nat.zero_le _⟩⟩

theorem digitChar_toNat : ∀ d : Fin 16, (Nat.digitChar d.val).toNat = if d.val < 10 then d.val + 48 else d.val + 87 := by
  decide

theorem digitOf_digitChar (b d : Nat) (hb : b ≤ 16) (hd : d < b) : IP.digitOf b (Nat.digitChar d) = some d := by
  have : (Nat.digitChar d).toNat = if d < 10 then d + 48 else d + 87 := digitChar_toNat ⟨d, by omega⟩
  rw [digitOf_eq_some]
  split at this <;> omega

theorem digitChar_zero_iff : ∀ d : Fin 16, (Nat.digitChar d.val == '0') = decide (d.val = 0) := by decide

theorem numFrom_acc (b : Nat) (s : Str) (acc : Nat) :
    IP.numFrom b acc s = (IP.numFrom b 0 s).map (fun r => acc * b ^ s.length + r) := by
  induction s generalizing acc with
  | nil => simp [IP.numFrom]
  | cons c cs ih =>
    unfold IP.numFrom
    cases hd : IP.digitOf b c with
    | none => simp
    | some d =>
      simp only
      rw [ih (acc * b + d), ih (0 * b + d)]
      cases IP.numFrom b 0 cs with
      | none => simp
      | some r => simp only [Option.map_some, List.length_cons]; congr 1; grind

theorem numFrom_append (b : Nat) (xs ys : Str) (acc : Nat) :
    IP.numFrom b acc (xs ++ ys) = (IP.numFrom b acc xs).bind (fun a => IP.numFrom b a ys) := by
  induction xs generalizing acc with
  | nil => simp [IP.numFrom]
  | cons c cs ih =>
    simp only [List.cons_append, IP.numFrom]
    cases IP.digitOf b c with
    | none => simp
    | some d => simp only; exact ih _

theorem numFrom_cons (b : Nat) (c : Char) (cs : Str) (v : Nat) (h : IP.numFrom b 0 (c :: cs) = some v) :
    ∃ d r, IP.digitOf b c = some d ∧ IP.numFrom b 0 cs = some r ∧ v = d * b ^ cs.length + r := by
  unfold IP.numFrom at h
  cases hd : IP.digitOf b c with
  | none => rw [hd] at h; cases h
  | some d =>
    rw [hd] at h
    simp only at h
    rw [numFrom_acc] at h
    cases hr : IP.numFrom b 0 cs with
    | none => rw [hr] at h; cases h
    | some r =>
      rw [hr] at h
      simp only [Option.map_some, Option.some.injEq, Nat.zero_mul, Nat.zero_add] at h
      exact ⟨d, r, rfl, rfl, h.symm⟩

theorem numFrom_lt (b : Nat) (s : Str) (v : Nat) (h : IP.numFrom b 0 s = some v) : v < b ^ s.length := by
  induction s generalizing v with
  | nil => simp [IP.numFrom] at h; subst h; simp
  | cons c cs ih =>
    obtain ⟨d, r, h1, h2, rfl⟩ := numFrom_cons b c cs v h
    have hr := ih r h2
    have hd := digitOf_lt b c d h1
    have : (d + 1) * b ^ cs.length ≤ b * b ^ cs.length := Nat.mul_le_mul_right _ (by omega)
    rw [List.length_cons, Nat.pow_succ, Nat.mul_comm (b ^ cs.length) b]
    rw [Nat.add_mul] at this
    omega

theorem numFrom_replicate_zero (b : Nat) (hb : 1 ≤ b) (m : Nat) (s : Str) :
    IP.numFrom b 0 (List.replicate m '0' ++ s) = IP.numFrom b 0 s := by
  induction m with
  | zero => rfl
  | succ m ih => simp only [List.replicate_succ, List.cons_append, IP.numFrom, digitOf_zero b hb, Nat.zero_mul, Nat.add_zero]; exact ih

theorem numFrom_map_digitChar (b : Nat) (hb : b ≤ 16) (ds : List Nat) (h : ∀ d ∈ ds, d < b) (acc : Nat) :
    IP.numFrom b acc (ds.map Nat.digitChar) = some (ds.foldl (fun a d => a * b + d) acc) := by
  induction ds generalizing acc with
  | nil => rfl
  | cons d ds ih =>
    rw [List.map_cons, IP.numFrom, digitOf_digitChar b d hb (h d (by simp))]
    exact ih (fun x hx => h x (by simp [hx])) _

theorem mul_add_divmod (w d b : Nat) (h : d < b) : (w * b + d) % b = d ∧ (w * b + d) / b = w := by
  rw [Nat.mul_comm, Nat.mul_add_mod, Nat.mod_eq_of_lt h, Nat.mul_add_div (Nat.zero_lt_of_lt h), Nat.div_eq_of_lt h]
  exact ⟨rfl, rfl⟩

theorem mul_add_cancel (B d d' r r' : Nat) (hr : r < B) (hr' : r' < B) (h : d * B + r = d' * B + r') :
    d = d' ∧ r = r' := by
  have h1 := mul_add_divmod d r B hr
  have h2 := mul_add_divmod d' r' B hr'
  rw [h] at h1
  exact ⟨h1.2.symm.trans h2.2, h1.1.symm.trans h2.1⟩

theorem numFrom_inj (b : Nat) (s t : Str) (v : Nat) (hl : s.length = t.length)
    (hs : IP.numFrom b 0 s = some v) (ht : IP.numFrom b 0 t = some v) : s = t := by
  induction s generalizing t v with
  | nil =>
    cases t with
    | nil => rfl
    | cons _ _ => simp at hl
  | cons c cs ih =>
    cases t with
    | nil => simp at hl
    | cons c' cs' =>
      have hl' : cs.length = cs'.length := by simpa using hl
      obtain ⟨d, r, h1, h2, e⟩ := numFrom_cons b c cs v hs
      obtain ⟨d', r', h1', h2', e'⟩ := numFrom_cons b c' cs' v ht
      have hr := numFrom_lt b cs r h2
      have hr' := numFrom_lt b cs' r' h2'
      rw [← hl'] at hr' e'
      obtain ⟨rfl, rfl⟩ := mul_add_cancel _ d d' r r' hr hr' (by omega)
      rw [digitOf_inj b c c' d h1 h1', ih cs' r hl' h2 h2']

theorem isFixed_unique (b w : Nat) (s t : Str) (v : Nat) (hs : IP.IsFixed b w s v) (ht : IP.IsFixed b w t v) :
    s = t :=
  numFrom_inj b s t v (by rw [hs.1, ht.1]) hs.2 ht.2

def dropZeros (s : Str) : Str :=
  match s.dropWhile (· == '0') with
  | [] => ['0']
  | t => t

theorem dropZeros_pad (b : Nat) (s : Str) (v k : Nat) (hs : IP.IsShortest b s v) :
    dropZeros (List.replicate k '0' ++ s) = s := by
  unfold dropZeros
  rw [List.dropWhile_append_of_pos (fun c hc => by rw [List.eq_of_mem_replicate hc]; rfl)]
  match s, hs with
  | c :: cs, hs =>
    by_cases hc : c = '0'
    · rw [hs.2.1 (by rw [hc]; rfl)]; rfl
    · rw [List.dropWhile_cons_of_neg (by simpa using hc)]

theorem numFrom_dropZeros (b : Nat) (hb : 1 ≤ b) (s : Str) :
    IP.numFrom b 0 (s.dropWhile (· == '0')) = IP.numFrom b 0 s := by
  induction s with
  | nil => rfl
  | cons c cs ih =>
    by_cases hc : c = '0'
    · subst hc
      rw [List.dropWhile_cons_of_pos (by rfl), ih, IP.numFrom, digitOf_zero b hb, Nat.zero_mul]
    · rw [List.dropWhile_cons_of_neg (by simpa using hc)]

theorem isShortest_dropZeros (b : Nat) (hb : 1 ≤ b) (s : Str) (v : Nat) (h : IP.numFrom b 0 s = some v) :
    IP.IsShortest b (dropZeros s) v := by
  unfold dropZeros
  have hn := numFrom_dropZeros b hb s
  have hh := List.head?_dropWhile_not (· == '0') s
  rw [h] at hn
  split
  · next e =>
    rw [e] at hn
    cases hn
    exact ⟨by simp, fun _ => rfl, by simp [IP.numFrom, digitOf_zero b hb]⟩
  · next t ht =>
    refine ⟨fun e => ht e, fun h0 => ?_, hn⟩
    rw [h0] at hh
    cases hh

theorem isShortest_unique (b : Nat) (s t : Str) (v : Nat) (hs : IP.IsShortest b s v) (ht : IP.IsShortest b t v) :
    s = t := by
  have hb : 1 ≤ b := by
    match s, hs with
    | c :: cs, hs =>
      obtain ⟨d, _, h1, _⟩ := numFrom_cons b c cs v hs.2.2
      have := digitOf_lt b c d h1
      omega
  -- both, padded to the same width, are the numeral of that width
  have := numFrom_inj b (List.replicate t.length '0' ++ s) (List.replicate s.length '0' ++ t) v
    (by simp only [List.length_append, List.length_replicate]; exact Nat.add_comm _ _)
    (by rw [numFrom_replicate_zero b hb]; exact hs.2.2) (by rw [numFrom_replicate_zero b hb]; exact ht.2.2)
  rw [← dropZeros_pad b s v t.length hs, this, dropZeros_pad b t v s.length ht]

/-- the shape shared by `toDecRev`, `toHexRev`, `toBinRev`: least significant digit first -/
structure RevNumeral (b : Nat) (f : Nat → List Char) : Prop where
  lt : ∀ n, n < b → f n = [Nat.digitChar n]
  ge : ∀ n, ¬ n < b → f n = Nat.digitChar (n % b) :: f (n / b)

theorem RevNumeral.num {b : Nat} {f : Nat → List Char} (hf : RevNumeral b f) (h2 : 2 ≤ b) (h16 : b ≤ 16) (n : Nat) :
    IP.numFrom b 0 (f n).reverse = some n := by
  induction n using Nat.strongRecOn with
  | _ n ih =>
    by_cases hn : n < b
    · rw [hf.lt n hn]
      simp [IP.numFrom, digitOf_digitChar b n h16 hn]
    · rw [hf.ge n hn, List.reverse_cons, numFrom_append, ih (n / b) (Nat.div_lt_self (by omega) (by omega))]
      simp only [Option.bind_some, IP.numFrom, digitOf_digitChar b (n % b) h16 (Nat.mod_lt _ (by omega))]
      congr 1
      have := Nat.div_add_mod n b
      rw [Nat.mul_comm] at this
      exact this

theorem RevNumeral.ne_nil {b : Nat} {f : Nat → List Char} (hf : RevNumeral b f) (n : Nat) : (f n).reverse ≠ [] := by
  by_cases hn : n < b
  · rw [hf.lt n hn]; simp
  · rw [hf.ge n hn]; simp

theorem RevNumeral.head {b : Nat} {f : Nat → List Char} (hf : RevNumeral b f) (h2 : 2 ≤ b) (h16 : b ≤ 16) (n : Nat) :
    (f n).reverse.head? = some '0' → n = 0 := by
  induction n using Nat.strongRecOn with
  | _ n ih =>
    by_cases hn : n < b
    · rw [hf.lt n hn]
      intro h
      have h : Nat.digitChar n = '0' := by simpa using h
      have := digitChar_zero_iff ⟨n, by omega⟩
      rw [h] at this
      simpa using this
    · rw [hf.ge n hn, List.reverse_cons]
      obtain ⟨x, xs, hx⟩ := List.exists_cons_of_ne_nil (hf.ne_nil (n / b))
      intro h
      have e0 := ih (n / b) (Nat.div_lt_self (by omega) (by omega)) (by rw [hx] at h ⊢; exact h)
      have := Nat.div_pos (Nat.le_of_not_lt hn) (by omega)
      omega

theorem RevNumeral.length {b : Nat} {f : Nat → List Char} (hf : RevNumeral b f) (k n : Nat) (hk : 1 ≤ k)
    (h : n < b ^ k) : (f n).length ≤ k := by
  induction k generalizing n with
  | zero => omega
  | succ k ih =>
    by_cases hn : n < b
    · rw [hf.lt n hn]; simp
    · rw [hf.ge n hn, List.length_cons]
      have hk0 : 1 ≤ k := by
        rcases Nat.eq_zero_or_pos k with e | e
        · subst e; simp at h; omega
        · exact e
      have : n / b < b ^ k := by
        apply Nat.div_lt_of_lt_mul
        rw [Nat.pow_succ, Nat.mul_comm] at h
        exact h
      have := ih (n / b) hk0 this
      omega

theorem RevNumeral.shortest {b : Nat} {f : Nat → List Char} (hf : RevNumeral b f) (h2 : 2 ≤ b) (h16 : b ≤ 16) (n : Nat) :
    IP.IsShortest b (f n).reverse n := by
  refine ⟨hf.ne_nil n, fun h => ?_, hf.num h2 h16 n⟩
  have := hf.head h2 h16 n h
  subst this
  rw [hf.lt 0 (by omega)]; rfl

theorem toBinRev_lt (n : Nat) (h : n < 2) : toBinRev n = [Nat.digitChar n] := by
  rw [toBinRev]; simp [h]

theorem toBinRev_ge (n : Nat) (h : ¬ n < 2) : toBinRev n = Nat.digitChar (n % 2) :: toBinRev (n / 2) := by
  rw [toBinRev]; simp [h]

theorem revNumeral_dec : RevNumeral 10 toDecRev := ⟨toDecRev_lt, toDecRev_ge⟩

theorem revNumeral_hex : RevNumeral 16 toHexRev := ⟨toHexRev_lt, toHexRev_ge⟩

theorem revNumeral_bin : RevNumeral 2 toBinRev := ⟨toBinRev_lt, toBinRev_ge⟩

theorem toDec_shortest (n : Nat) : IP.IsShortest 10 (toDec n) n := revNumeral_dec.shortest (by omega) (by omega) n

theorem toHex_shortest (n : Nat) : IP.IsShortest 16 (toHex n) n := revNumeral_hex.shortest (by omega) (by omega) n

theorem toBin_shortest (n : Nat) : IP.IsShortest 2 (toBin n) n := revNumeral_bin.shortest (by omega) (by omega) n

theorem hex4_fixed (g : Nat) (h : g < 65536) : IP.IsFixed 16 4 (IP.hex4 g) g := by
  rw [← hex4_eq_spec, hex4_eq]
  refine ⟨by rw [List.length_map, length_groupsOf], ?_⟩
  rw [numFrom_map_digitChar 16 (by omega) _ (groupsOf_lt (by omega) 4 g)]
  exact congrArg some ((ofGroups_groupsOf 16 4 g).trans (Nat.mod_eq_of_lt h))

theorem hexShort_shortest (g : Nat) (h : g < 65536) : IP.IsShortest 16 (IP.hexShort g) g :=
  isShortest_dropZeros 16 (by omega) (IP.hex4 g) g (hex4_fixed g h).2

/-- `'%x' % g` is the group text of RFC 5952 §4.1/§4.3 -/
theorem toHex_eq_hexShort (g : Nat) (h : g < 65536) : toHex g = IP.hexShort g :=
  isShortest_unique 16 _ _ g (toHex_shortest g) (hexShort_shortest g h)

theorem padLeft_fixed (b k : Nat) (hb : 1 ≤ b) (s : Str) (v : Nat) (h : IP.IsShortest b s v) (hl : s.length ≤ k) :
    IP.IsFixed b k (padLeft k '0' s) v := by
  unfold padLeft
  refine ⟨by simp; omega, ?_⟩
  rw [numFrom_replicate_zero b hb]; exact h.2.2

theorem areFixed_map (b w : Nat) (f : Nat → Str) (vs : List Nat) (h : ∀ v ∈ vs, IP.IsFixed b w (f v) v) :
    IP.AreFixed b w (vs.map f) vs := by
  induction vs with
  | nil => trivial
  | cons v vs ih =>
    exact ⟨h v (by simp), ih (fun x hx => h x (by simp [hx]))⟩

theorem RevNumeral.areFixed {b : Nat} {f : Nat → List Char} (hf : RevNumeral b f) (h2 : 2 ≤ b) (h16 : b ≤ 16)
    (k : Nat) (hk : 1 ≤ k) (vs : List Nat) (h : ∀ v ∈ vs, v < b ^ k) :
    IP.AreFixed b k (vs.map fun v => padLeft k '0' (f v).reverse) vs :=
  areFixed_map b k _ vs fun v hv => padLeft_fixed b k (by omega) _ v (hf.shortest h2 h16 v)
    (by rw [List.length_reverse]; exact hf.length k v hk (h v hv))

theorem areFixed_unique (b w : Nat) (ts ts' : List Str) (vs : List Nat)
    (h : IP.AreFixed b w ts vs) (h' : IP.AreFixed b w ts' vs) : ts = ts' := by
  induction ts generalizing ts' vs with
  | nil =>
    cases vs with
    | nil =>
      cases ts' with
      | nil => rfl
      | cons _ _ => exact h'.elim
    | cons _ _ => exact h.elim
  | cons t ts ih =>
    cases vs with
    | nil => exact h.elim
    | cons v vs =>
      cases ts' with
      | nil => exact h'.elim
      | cons t' ts' =>
        rw [isFixed_unique b w t t' v h.1 h'.1, ih ts' vs h.2 h'.2]

theorem areFixed_length (b w : Nat) (ts : List Str) (vs : List Nat) (h : IP.AreFixed b w ts vs) :
    ts.length = vs.length ∧ ∀ t ∈ ts, t.length = w := by
  induction ts generalizing vs with
  | nil =>
    cases vs with
    | nil => simp
    | cons _ _ => exact h.elim
  | cons t ts ih =>
    cases vs with
    | nil => exact h.elim
    | cons v vs =>
      have := ih vs h.2
      refine ⟨by simp [this.1], ?_⟩
      intro x hx
      rcases List.mem_cons.mp hx with rfl | hx
      · exact h.1.1
      · exact this.2 x hx

theorem compressWith_eq_gapParts (st : Run) (X : List Str) (s : Nat) (hs : st.bestStart = some s) (hgt : st.bestLen > 1)
    (hle : s + st.bestLen ≤ X.length) :
    compressWith st X = gapParts (X.take s) (X.drop (s + st.bestLen)) := by
  have e : X = X.take s ++ (X.drop s).take st.bestLen ++ X.drop (s + st.bestLen) := by
    rw [List.append_assoc, ← List.drop_drop, List.take_append_drop, List.take_append_drop]
  conv => lhs; rw [e]
  exact compressWith_block st _ _ _ hgt (by rw [hs, List.length_take, Option.getD_some, Nat.min_eq_left (by omega)])
    (by rw [List.length_take, List.length_drop]; omega)

/-- `IsShortened` on the zero pattern, with bounded quantifiers -/
def zeroRun (zs : List Bool) (s k : Nat) : Bool :=
  decide (2 ≤ k) && decide (s + k ≤ 8) && (List.range 8).all (fun i => !(decide (s ≤ i) && decide (i < s + k)) || zs.getD i false)

def shortenedB (zs : List Bool) (s l : Nat) : Bool :=
  zeroRun zs s l &&
  (List.range 8).all (fun s' => (List.range 9).all (fun k => !zeroRun zs s' k || decide (k < l) || (decide (k = l) && decide (s ≤ s'))))

theorem zeroRun_iff_allSet (zs : List Bool) (s k : Nat) :
    zeroRun zs s k = true ↔ 2 ≤ k ∧ s + k ≤ 8 ∧ AllSet zs s k := by
  unfold zeroRun AllSet
  simp only [Bool.and_eq_true, decide_eq_true_eq, List.all_eq_true, List.mem_range, Bool.or_eq_true,
    Bool.not_eq_true', Bool.and_eq_false_iff, decide_eq_false_iff_not]
  constructor
  · rintro ⟨⟨h1, h2⟩, h3⟩
    refine ⟨h1, h2, fun i hi1 hi2 => ?_⟩
    rcases h3 i (by omega) with h | h
    · omega
    · exact h
  · rintro ⟨h1, h2, h3⟩
    refine ⟨⟨h1, h2⟩, fun i _ => ?_⟩
    by_cases hi : s ≤ i ∧ i < s + k
    · exact Or.inr (h3 i hi.1 hi.2)
    · left; omega

/-- the bounds on `s'` and `k` in `shortenedB` are implied by `zeroRun` -/
theorem shortenedB_iff_zeroRun (zs : List Bool) (s l : Nat) :
    shortenedB zs s l = true ↔
      zeroRun zs s l = true ∧ ∀ s' k, zeroRun zs s' k = true → k < l ∨ (k = l ∧ s ≤ s') := by
  unfold shortenedB
  simp only [Bool.and_eq_true, List.all_eq_true, List.mem_range, Bool.or_eq_true, Bool.not_eq_true',
    decide_eq_true_eq]
  refine and_congr_right fun _ => ⟨fun h s' k hz => ?_, fun h s' _ k _ => ?_⟩
  · obtain ⟨_, h2, _⟩ := (zeroRun_iff_allSet zs s' k).mp hz
    rcases h s' (by omega) k (by omega) with (h | h) | h
    · rw [hz] at h; cases h
    · exact Or.inl h
    · exact Or.inr h
  · cases hz : zeroRun zs s' k with
    | false => exact Or.inl (Or.inl rfl)
    | true => exact (h s' k hz).imp Or.inr id

/-- on eight flags the loop of `_compress_hextets` ends with the run that RFC 5952 shortens, if there is one -/
theorem runLoop_shortened (zs : List Bool) (h8 : zs.length = 8) :
    let st := runLoop {} 0 zs
    (st.bestLen > 1 → ∃ s, st.bestStart = some s ∧ shortenedB zs s st.bestLen = true) ∧
    (¬ st.bestLen > 1 → ∀ s k, zeroRun zs s k = false) := by
  intro st
  have inv : BestRun zs 8 st.bestStart st.bestLen := h8 ▸ (runLoop_inv zs).best
  constructor
  · intro hgt
    rcases inv.set with h0 | ⟨b, hb, hle, hset⟩
    · omega
    · refine ⟨b, hb, (shortenedB_iff_zeroRun zs b _).mpr ⟨(zeroRun_iff_allSet zs b _).mpr ⟨hgt, hle, hset⟩, ?_⟩⟩
      intro s' k hz
      obtain ⟨h1, h2, h3⟩ := (zeroRun_iff_allSet zs s' k).mp hz
      obtain ⟨b', hb', h⟩ := inv.max s' k (by omega) h2 h3
      rw [hb] at hb'; cases hb'; exact h
  · intro hng s k
    cases hz : zeroRun zs s k with
    | false => rfl
    | true =>
      obtain ⟨h1, h2, h3⟩ := (zeroRun_iff_allSet zs s k).mp hz
      obtain ⟨_, _, h⟩ := inv.max s k (by omega) h2 h3
      omega

theorem strV6_choice (n : Nat) :
    let X := (hextets n).map toHex
    let zs := X.map (· == ['0'])
    let st := runLoop {} 0 zs
    (st.bestLen > 1 → ∃ s, st.bestStart = some s ∧ shortenedB zs s st.bestLen = true ∧
      strV6 n = join [':'] (X.take s) ++ ':' :: ':' :: join [':'] (X.drop (s + st.bestLen))) ∧
    (¬ st.bestLen > 1 → (∀ s k, s < 8 → k < 9 → zeroRun zs s k = false) ∧ strV6 n = join [':'] X) := by
  intro X zs st
  have hstr : strV6 n = join [':'] (compressWith st X) := rfl
  obtain ⟨hA, hB⟩ := runLoop_shortened zs rfl
  constructor
  · intro hgt
    obtain ⟨s, hs, hsh⟩ := hA hgt
    refine ⟨s, hs, hsh, ?_⟩
    have hle : s + st.bestLen ≤ X.length :=
      ((zeroRun_iff_allSet zs s _).mp ((shortenedB_iff_zeroRun zs s _).mp hsh).1).2.1
    rw [hstr, compressWith_eq_gapParts st X s hs hgt hle, join_gapParts]
  · intro hng
    exact ⟨fun s k _ _ => hB hng s k, by rw [hstr]; unfold compressWith; rw [if_neg hng]⟩

theorem toHex_zero_iff (g : Nat) (h : g < 65536) : (toHex g == ['0']) = true ↔ g = 0 := by
  constructor
  · exact toHex_eq_zero g h
  · intro e; subst e; unfold toHex; rw [toHexRev_lt 0 (by omega)]; decide

/-- the zero pattern the loop of `_compress_hextets` sees is the zero pattern of the group values -/
theorem zs_getD (gs : List Nat) (hlt : ∀ g ∈ gs, g < 65536) (i : Nat) :
    (((gs.map toHex).map (· == ['0'])).getD i false = true) ↔ gs.getD i 1 = 0 := by
  induction gs generalizing i with
  | nil => simp
  | cons g gs ih =>
    cases i with
    | zero => simpa using toHex_zero_iff g (hlt g (by simp))
    | succ i => simpa using ih (fun g hg => hlt g (by simp [hg])) i

theorem zeroRun_iff (gs : List Nat) (hlt : ∀ g ∈ gs, g < 65536) (s k : Nat) :
    zeroRun ((gs.map toHex).map (· == ['0'])) s k = true ↔
      2 ≤ k ∧ s + k ≤ 8 ∧ ∀ i, s ≤ i → i < s + k → gs.getD i 1 = 0 := by
  rw [zeroRun_iff_allSet]; unfold AllSet; simp only [zs_getD gs hlt]

/-- the bounded Boolean statement on the zero pattern is RFC 5952 §4.2 on the group values -/
theorem shortenedB_iff (gs : List Nat) (hlen : gs.length = 8) (hlt : ∀ g ∈ gs, g < 65536) (s l : Nat) :
    shortenedB ((gs.map toHex).map (· == ['0'])) s l = true ↔ IP.IsShortened gs s l := by
  rw [shortenedB_iff_zeroRun]; unfold IP.IsShortened; simp only [zeroRun_iff gs hlt, hlen]
  constructor
  · rintro ⟨⟨h1, h2, h3⟩, h4⟩; exact ⟨h1, h2, h3, fun s' k a b c => h4 s' k ⟨a, b, c⟩⟩
  · rintro ⟨h1, h2, h3, h4⟩; exact ⟨⟨h1, h2, h3⟩, fun s' k ⟨a, b, c⟩ => h4 s' k a b c⟩

theorem isShortened_unique (gs : List Nat) (s l s' l' : Nat) (h : IP.IsShortened gs s l) (h' : IP.IsShortened gs s' l') :
    s = s' ∧ l = l' := by
  obtain ⟨a1, a2, a3, a4⟩ := h
  obtain ⟨b1, b2, b3, b4⟩ := h'
  have x := a4 s' l' b1 b2 b3
  have y := b4 s l a1 a2 a3
  omega

theorem strV6_groups (n : Nat) :
    (∃ s l, IP.IsShortened (IP.groups n) s l ∧ strV6 n = IP.compressedAt (IP.groups n) s l) ∨
    ((∀ s k, ¬ (2 ≤ k ∧ s + k ≤ 8 ∧ ∀ i, s ≤ i → i < s + k → (IP.groups n).getD i 1 = 0)) ∧
      strV6 n = join [':'] ((IP.groups n).map IP.hexShort)) := by
  obtain ⟨hA, hB⟩ := strV6_choice n
  rw [hextets_eq_groups] at hA hB
  have hlt := groups_lt n
  have hX : (IP.groups n).map toHex = (IP.groups n).map IP.hexShort :=
    List.map_congr_left fun g hg => toHex_eq_hexShort g (hlt g hg)
  by_cases hgt : (runLoop {} 0 (((IP.groups n).map toHex).map (· == ['0']))).bestLen > 1
  · obtain ⟨s, _, hsh, hstr⟩ := hA hgt
    refine Or.inl ⟨s, _, (shortenedB_iff (IP.groups n) (groups_length n) hlt s _).mp hsh, ?_⟩
    rw [hstr, hX]
    unfold IP.compressedAt
    rw [List.map_take, List.map_drop]
  · obtain ⟨hz, hstr⟩ := hB hgt
    refine Or.inr ⟨fun s k h => ?_, by rw [hstr, hX]⟩
    have := (zeroRun_iff (IP.groups n) hlt s k).mpr h
    rw [hz s k (by omega) (by omega)] at this
    cases this

theorem mapM_pyNat_strV4 (n : Nat) : (splitOn '.' (strV4 n)).mapM pyNat = some (IP.octets n) := by
  rw [splitOn_strV4, ← toBytes4_eq_octets]
  simp [toBytes4, pyNat_toDec]

theorem V4.asZeropadded_mk4 (ip len : Nat) :
    V4.asZeropadded (mk4 ip len) = .ok (join ['.'] ((IP.octets ip).map (fun v => padLeft 3 '0' (toDec v)))) := by
  unfold V4.asZeropadded V4.ipStr
  rw [show (mk4 ip len).ip = ip from rfl, mapM_pyNat_strV4]; rfl

theorem V4.asZeropaddedNetwork_mk4 (ip len : Nat) (hip : ip < 4294967296) (hlen : len ≤ 32) :
    V4.asZeropaddedNetwork (mk4 ip len) =
      .ok (join ['.'] ((IP.octets (mk4 ip len).net).map (fun v => padLeft 3 '0' (toDec v))) ++ '/' :: toDec len) := by
  unfold V4.asZeropaddedNetwork
  rw [V4.asCidrNet_mk4 ip len hip hlen]
  simp only [bind, Except.bind]
  rw [splitOn_slash _ _ (strV4_ne _ '/' (by decide) (by decide)) (toDec_ne len '/' (by decide))]
  simp only [List.headD]
  rw [mapM_pyNat_strV4]; rfl

theorem V4.asHex_mk4 (ip len : Nat) (hip : ip < 4294967296) :
    V4.asHex (mk4 ip len) = .ok ('0' :: 'x' :: toHex ip) := by
  unfold V4.asHex
  rw [V4.asDecimal_mk4 ip len hip]; rfl

theorem V4.asHexTuple_mk4 (ip len : Nat) :
    V4.asHexTuple (mk4 ip len) = .ok ((IP.octets ip).map (fun v => padLeft 2 '0' (toHex v))) := by
  unfold V4.asHexTuple V4.ipStr
  rw [show (mk4 ip len).ip = ip from rfl, mapM_pyNat_strV4]; rfl

theorem V4.asBinaryTuple_mk4 (ip len : Nat) :
    V4.asBinaryTuple (mk4 ip len) = .ok ((IP.octets ip).map (fun v => padLeft 8 '0' (toBin v))) := by
  unfold V4.asBinaryTuple V4.ipStr
  rw [show (mk4 ip len).ip = ip from rfl, mapM_pyNat_strV4]; rfl

theorem V6.asHex_mk6 (ip len : Nat) (hip : ip < 2 ^ 128) :
    V6.asHex (mk6 ip len) = .ok ('0' :: 'x' :: toHex ip) := by
  unfold V6.asHex
  rw [V6.asDecimal_mk6 ip len hip]; rfl

theorem V6.asHexTuple_mk6 (ip len : Nat) : V6.asHexTuple (mk6 ip len) = (IP.groups ip).map IP.hex4 := by
  show splitOn ':' (explodedV6 ip) = _
  rw [splitOn_exploded, hextets_eq_groups]
  exact List.map_congr_left (fun g _ => hex4_eq_spec g)

theorem mapM_ofHex_groups (gs : List Nat) (h : ∀ g ∈ gs, g < 65536) : (gs.map IP.hex4).mapM ofHex = some gs := by
  induction gs with
  | nil => rfl
  | cons g gs ih =>
    have hg := h g (by simp)
    have := ih (fun x hx => h x (by simp [hx]))
    have e : ofHex (IP.hex4 g) = some g := by rw [← hex4_eq_spec]; exact ofHex_hex4 g hg
    simp [e, this]

theorem V6.asBinaryTuple_mk6 (ip len : Nat) :
    V6.asBinaryTuple (mk6 ip len) = .ok ((IP.groups ip).map (fun v => padLeft 16 '0' (toBin v))) := by
  unfold V6.asBinaryTuple
  rw [V6.asHexTuple_mk6, mapM_ofHex_groups _ (groups_lt ip)]; rfl

end Ccp.IPText
