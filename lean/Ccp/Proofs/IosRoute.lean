import Ccp.Proofs.IosModels
/-!
`IOSRouteLine`: a structured static route (`RouteDesc`), rendered with single blanks, is read back by the slot
consumer of `Ccp.Model.IosModels` that stands for `_RE_IP_ROUTE`.
-/
namespace Ccp.Ios
open Ccp.Py Ccp.Tree

theorem quadPrefix_toDec (n : Nat) : quadPrefix (toDec n) = none := by
  unfold quadPrefix
  simp [dropWhile_all _ _ (toDec_digits n)]

/-- the words after the netmask, bracketed to the right: every slot lemma below wants its own group in front of
all the rest -/
def RouteDesc.tailWords (d : RouteDesc) : List Str :=
  d.intf.toList ++ (d.nh.toList ++ ((if d.glob then [kGlobal] else []) ++ ((d.ad.map toDec).toList ++
  (optWords kName d.name ++ ((if d.permanent then [kPermanent] else []) ++ (optWords kTrack (d.track.map toDec) ++
  (optWords kTag (d.tag.map toDec) ++ [])))))))

theorem RouteDesc.words_eq (d : RouteDesc) :
    d.words = kIp :: kRoute :: (optWords kVrf d.vrf ++ d.pfx :: d.mask :: d.tailWords) := by
  simp only [RouteDesc.words, RouteDesc.tailWords, List.append_assoc, List.cons_append, List.nil_append, List.append_nil]

theorem forall_mem_optWords {P : Str → Prop} {kw : Str} {o : Option Str} :
    (∀ w ∈ optWords kw o, P w) ↔ ∀ v ∈ o, P kw ∧ P v := by
  cases o <;> simp [optWords]

theorem forall_mem_ite {P : Str → Prop} {kw : Str} {b : Bool} :
    (∀ w ∈ (if b then [kw] else []), P w) ↔ (b = true → P kw) := by
  cases b <;> simp

theorem word_map_toDec {o : Option Nat} : ∀ v ∈ o.map toDec, Word v := by
  cases o <;> simp [word_toDec]

theorem RouteDesc.words_valid (d : RouteDesc) (hv : d.Valid) : ∀ w ∈ d.words, Word w := by
  obtain ⟨hvrf, hp, _, hm, hintf, hnh, hname, _⟩ := hv
  simp only [d.words_eq, RouteDesc.tailWords, List.forall_mem_append, List.forall_mem_cons, forall_mem_optWords,
    forall_mem_ite, Option.mem_toList, word_kws, true_and, implies_true]
  exact ⟨hvrf, hp, hm.1, fun i e => (hintf i e).1, fun q e => (hnh q e).1, word_map_toDec, hname, word_map_toDec,
    word_map_toDec, nofun⟩

/-!
Each group of `_RE_IP_ROUTE` after the netmask is optional, so what a slot does depends on the words that follow.
`st.At (chunk ++ rest)` says the consumer stands at a word end before the words of one group and an arbitrary
`rest`; each slot function then reports the group's value and stands before `rest`, provided the slot does not
fire on the first word of `rest` (`HeadIs`) when its own group is absent.  `routeTail` is the ten slots in a
row. -/

def HeadIs (P : Str → Prop) (ws : List Str) : Prop := ∀ w, ws.head? = some w → P w

theorem HeadIs.nil {P : Str → Prop} : HeadIs P [] := nofun

theorem HeadIs.cons {P : Str → Prop} {w : Str} {ws : List Str} (h : P w) : HeadIs P (w :: ws) :=
  fun _ e => Option.some.inj e ▸ h

theorem HeadIs.append {P : Str → Prop} {a b : List Str} (ha : HeadIs P a) (hb : HeadIs P b) : HeadIs P (a ++ b) := by
  cases a with
  | nil => exact hb
  | cons w ws => exact ha

theorem HeadIs.optWords {P : Str → Prop} {kw : Str} (o : Option Str) (h : P kw) : HeadIs P (optWords kw o) := by
  cases o
  · exact .nil
  · exact .cons h

theorem HeadIs.ite {P : Str → Prop} {kw : Str} (b : Bool) (h : P kw) : HeadIs P (if b then [kw] else []) := by
  cases b
  · exact .nil
  · exact .cons h

theorem HeadIs.toList_map {α : Type} {P : Str → Prop} {f : α → Str} (o : Option α) (h : ∀ x, P (f x)) :
    HeadIs P (o.map f).toList := by
  cases o
  · exact .nil
  · exact .cons (h _)

def RSt.At (st : RSt) (ws : List Str) : Prop := st.toks = toksOf ws ∧ st.open_ = true

/-- the gap before the interface is at most one blank here, so the backtracking branch of `slotIntf` is not
taken: a word that starts with a digit is left for the next-hop slot -/
theorem slotIntf_at {st : RSt} {o : Option Str} {rest : List Str} (h : st.At (o.toList ++ rest))
    (hg : st.gap.length < 2) (ho : ∀ i, o = some i → IntfWord i)
    (hr : o = none → HeadIs (fun w => ∃ c c2 r, w = c :: c2 :: r ∧ isDigit c = true) rest) :
    (slotIntf st).1 = o ∧ (slotIntf st).2.At rest := by
  obtain ⟨g, ts, op⟩ := st
  obtain ⟨rfl, rfl⟩ := h
  have hg' : ¬ g.length ≥ 2 := by simpa using hg
  cases o with
  | some i =>
    obtain ⟨_, c, c2, r, rfl, hc⟩ := ho i rfl
    simp [slotIntf, toksOf_cons, hc, RSt.At]
  | none =>
    cases rest with
    | nil => exact ⟨rfl, rfl, rfl⟩
    | cons w ws =>
      obtain ⟨c, c2, r, rfl, hc⟩ := hr rfl w rfl
      simp [slotIntf, toksOf_cons, hc, RSt.At, hg']

theorem slotAddr_at {st : RSt} {o : Option Str} {rest : List Str} (h : st.At (o.toList ++ rest))
    (ho : ∀ q, o = some q → QuadWord q) (hr : HeadIs (fun w => quadPrefix w = none) rest) :
    (slotAddr st).1 = o ∧ (slotAddr st).2.At rest := by
  obtain ⟨g, ts, op⟩ := st
  obtain ⟨rfl, rfl⟩ := h
  cases o with
  | some q => simp [slotAddr, toksOf_cons, (ho q rfl).2.1, RSt.At]
  | none =>
    cases rest with
    | nil => exact ⟨rfl, rfl, rfl⟩
    | cons w ws => simp [slotAddr, toksOf_cons, hr w rfl, RSt.At]

theorem slotKw_at {kw : Str} {st : RSt} {b : Bool} {rest : List Str} (h : st.At ((if b then [kw] else []) ++ rest))
    (hr : HeadIs (fun w => kw.isPrefixOf w = false) rest) :
    (slotKw kw st).1 = (if b then some kw else none) ∧ (slotKw kw st).2.At rest := by
  obtain ⟨g, ts, op⟩ := st
  obtain ⟨rfl, rfl⟩ := h
  cases b with
  | true => simp [slotKw, toksOf_cons, RSt.At]
  | false =>
    cases rest with
    | nil => exact ⟨rfl, rfl, rfl⟩
    | cons w ws => simp [slotKw, toksOf_cons, hr w rfl, RSt.At]

theorem slotDigits_at {st : RSt} {o : Option Nat} {rest : List Str} (h : st.At ((o.map toDec).toList ++ rest))
    (hr : HeadIs (fun w => w.takeWhile isDigit = []) rest) :
    (slotDigits st).1 = o.map toDec ∧ (slotDigits st).2.At rest := by
  obtain ⟨g, ts, op⟩ := st
  obtain ⟨rfl, rfl⟩ := h
  cases o with
  | some n => simp [slotDigits, toksOf_cons, takeWhile_toDec, toDec_ne_nil, RSt.At]
  | none =>
    cases rest with
    | nil => exact ⟨rfl, rfl, rfl⟩
    | cons w ws => simp [slotDigits, toksOf_cons, hr w rfl, RSt.At]

theorem slotKwWord_at {kw : Str} {st : RSt} {o : Option Str} {rest : List Str} (h : st.At (optWords kw o ++ rest))
    (hr : HeadIs (· ≠ kw) rest) : (slotKwWord kw st).1 = o ∧ (slotKwWord kw st).2.At rest := by
  obtain ⟨g, ts, op⟩ := st
  obtain ⟨rfl, rfl⟩ := h
  cases o with
  | some v => simp [slotKwWord, optWords, toksOf_cons, RSt.At]
  | none =>
    rcases rest with _ | ⟨w, _ | ⟨w2, ws⟩⟩
    · exact ⟨rfl, rfl, rfl⟩
    · exact ⟨rfl, rfl, rfl⟩
    · simp [slotKwWord, optWords, toksOf_cons, hr w rfl, RSt.At]

theorem slotKwDigits_at {kw : Str} {st : RSt} {o : Option Nat} {rest : List Str}
    (h : st.At (optWords kw (o.map toDec) ++ rest)) (hr : HeadIs (· ≠ kw) rest) :
    (slotKwDigits kw st).1 = o.map toDec ∧ (slotKwDigits kw st).2.At rest := by
  obtain ⟨g, ts, op⟩ := st
  obtain ⟨rfl, rfl⟩ := h
  cases o with
  | some n => simp [slotKwDigits, optWords, toksOf_cons, takeWhile_toDec, toDec_ne_nil, RSt.At]
  | none =>
    rcases rest with _ | ⟨w, _ | ⟨w2, ws⟩⟩
    · exact ⟨rfl, rfl, rfl⟩
    · exact ⟨rfl, rfl, rfl⟩
    · simp [slotKwDigits, optWords, toksOf_cons, hr w rfl, RSt.At]

theorem headIs_opts {P : Str → Prop} (name : Option Str) (perm : Bool) (track tag : Option Str)
    (h : ∀ w ∈ [kName, kPermanent, kTrack, kTag], P w) :
    HeadIs P (optWords kName name ++ ((if perm then [kPermanent] else []) ++ (optWords kTrack track ++
      (optWords kTag tag ++ [])))) :=
  .append (.optWords _ (h _ (.head _))) (.append (.ite _ (h _ (.tail _ (.head _))))
    (.append (.optWords _ (h _ (.tail _ (.tail _ (.head _))))) (.append (.optWords _ (h _ (by simp))) .nil)))

/-- every slot reads its own group: it is left alone by the slots before it, because none of them fires on a
keyword or number that starts a later group (the side condition of each step; without interface and next hop
the interface slot would take that keyword, `Ccp.C19.route_f25_witness`) -/
theorem routeTail_words (d : RouteDesc) (hv : d.Valid) (h : d.intf ≠ none ∨ d.nh ≠ none) (v : Option Str) (st : RSt)
    (hst : st.At d.tailWords) (hg : st.gap.length < 2) :
    routeTail v d.pfx d.mask st = { d.expected with vrf := v } := by
  obtain ⟨_, _, _, _, hintf, hnh, _, _⟩ := hv
  obtain ⟨e1, s1⟩ := slotIntf_at hst hg hintf (fun hi => by
    cases hn : d.nh with
    | none => exact absurd hn (h.resolve_left (not_not_intro hi))
    | some q => exact .cons (hnh q hn).2.2)
  obtain ⟨e2, s2⟩ := slotAddr_at s1 hnh (.append (.ite _ (by decide)) (.append (.toList_map _ quadPrefix_toDec)
    (headIs_opts _ _ _ _ (by decide))))
  obtain ⟨e3, s3⟩ := slotKw_at (kw := kDhcp) (b := false) s2 (.append (.ite _ (by decide))
    (.append (.toList_map _ fun n => kw_not_prefix_toDec _ n (by decide))
      (headIs_opts _ _ _ _ (by decide))))
  obtain ⟨e4, s4⟩ := slotKw_at s3 (.append (.toList_map _ fun n => kw_not_prefix_toDec _ n (by decide))
    (headIs_opts _ _ _ _ (by decide)))
  obtain ⟨e5, s5⟩ := slotDigits_at s4 (headIs_opts _ _ _ _ (by decide))
  obtain ⟨e6, s6⟩ := slotKw_at (kw := kMulticast) (b := false) s5
    (headIs_opts _ _ _ _ (by decide))
  obtain ⟨e7, s7⟩ := slotKwWord_at s6
    (.append (.ite _ (by decide)) (.append (.optWords _ (by decide)) (.append (.optWords _ (by decide)) .nil)))
  obtain ⟨e8, s8⟩ := slotKw_at s7 (.append (.optWords _ (by decide)) (.append (.optWords _ (by decide)) .nil))
  obtain ⟨e9, s9⟩ := slotKwDigits_at s8 (.append (.optWords _ (by decide)) .nil)
  obtain ⟨e10, _⟩ := slotKwDigits_at s9 .nil
  unfold routeTail
  simp only [e1, e2, e3, e4, e5, e6, e7, e8, e9, e10]
  rfl

theorem routeBody_words (v : Option Str) (d : RouteDesc) (hv : d.Valid) (h : d.intf ≠ none ∨ d.nh ≠ none) :
    routeBody v (toksOf (d.pfx :: d.mask :: d.tailWords)) = some { d.expected with vrf := v } := by
  simp only [toksOf_cons, routeBody, hv.2.2.1, hv.2.2.2.1.2.1, if_true]
  exact congrArg some (routeTail_words d hv h v _ ⟨rfl, rfl⟩ (by simp only []; split <;> decide))

/-- `IOSRouteLine.is_object_for`: the first nine characters are `ip route ` -/
theorem isRouteLine_words (d : RouteDesc) : isRouteLine (line [] d.words) = true := by
  rw [d.words_eq]
  cases d.vrf <;> exact decide_eq_true rfl

theorem routeParse_words (d : RouteDesc) (hv : d.Valid) (h : d.intf ≠ none ∨ d.nh ≠ none) :
    routeParse (line [] d.words) = some d.expected := by
  have hb : routeBody d.vrf _ = some d.expected := routeBody_words d.vrf d hv h
  have hpv : d.pfx ≠ kVrf := by intro e; have := hv.2.2.1; rw [e] at this; revert this; decide
  unfold routeParse
  rw [lex_line [] _ nofun (d.words_valid hv), d.words_eq]
  cases hvrf : d.vrf with
  | none =>
    rw [hvrf] at hb
    simp [optWords, toksOf_cons, hpv] at hb ⊢
    rw [hb]
  | some n =>
    rw [hvrf] at hb
    simp [optWords, toksOf_cons] at hb ⊢
    rw [hb]

end Ccp.Ios
