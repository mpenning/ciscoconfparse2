import Ccp.Proofs.IPVal
/-!
`collapse_addresses` (C12): the model of `ipaddress._collapse_addresses_internal` keeps the covered
address set, and its output is ascending, disjoint and free of mergeable siblings.
-/
namespace Ccp.IPVal

theorem laminar (f : Fam) (p q : Net) (alp : AlignedNet f p) (alq : AlignedNet f q) (hl : p.2 ≤ q.2) :
    (∀ c, NetMem f q c → NetMem f p c) ∨ (∀ c, ¬ (NetMem f p c ∧ NetMem f q c)) := by
  have hh : nhb f q ≤ nhb f p := Nat.sub_le_sub_left hl _
  simp only [netMem_iff f p alp, netMem_iff f q alq]
  by_cases e : q.1 >>> nhb f p = p.1 >>> nhb f p
  · exact .inl fun c hc => (shiftRight_eq_of_le hh hc).trans e
  · exact .inr fun c ⟨h1, h2⟩ => e ((shiftRight_eq_of_le hh h2).symm.trans h1)

theorem eq_of_subset_of_len (f : Fam) (s q : Net) (als : AlignedNet f s) (alq : AlignedNet f q)
    (hsub : ∀ c, NetMem f q c → NetMem f s c) (hlen : q.2 ≤ s.2) : s = q := by
  have hq := netMem_self f q
  have hs := netMem_self f s
  -- they share the start of `q`, and `q` is not longer: `s` lies inside `q` as well
  have back := (laminar f q s alq als hlen).resolve_right fun h => h q.1 ⟨hq.1, hsub _ hq.1⟩
  have e1 : s.1 = q.1 := Nat.le_antisymm (hsub _ hq.1).1 (back _ hs.1).1
  have e2 : netBcast f s = netBcast f q := Nat.le_antisymm (back _ hs.2).2 (hsub _ hq.2).2
  -- same start and same end: same size, same length
  unfold netBcast at e2
  rw [e1] at e2
  have e3 := Nat.sub_one_cancel (Nat.two_pow_pos _) (Nat.two_pow_pos _) (Nat.add_left_cancel e2)
  refine Prod.ext e1 ?_
  rw [← Nat.sub_sub_self als.len_le, (Nat.pow_right_inj (a := 2) (by decide)).mp e3, Nat.sub_sub_self alq.len_le]

theorem eq_of_common (f : Fam) (p q : Net) (alp : AlignedNet f p) (alq : AlignedNet f q) (hl : p.2 = q.2)
    (c : Nat) (hp : NetMem f p c) (hq : NetMem f q c) : p = q :=
  eq_of_subset_of_len f p q alp alq
    ((laminar f p q alp alq (Nat.le_of_eq hl)).resolve_right fun h => h c ⟨hp, hq⟩) (Nat.le_of_eq hl.symm)

theorem supernet_zero (f : Fam) (n : Net) (h : n.2 = 0) : supernet f n = n := if_pos h

theorem supernet_spec (f : Fam) (n : Net) (al : AlignedNet f n) (h : n.2 ≠ 0) :
    AlignedNet f (supernet f n) ∧ (supernet f n).2 + 1 = n.2 ∧ NetMem f (supernet f n) n.1 := by
  have e : supernet f n = network (ofIpLen f n.1 (n.2 - 1)) := if_neg h
  have v := valid_ofIpLen f n.1 (n.2 - 1) al.lt (Nat.le_trans (Nat.sub_le ..) al.len_le)
  rw [e]
  exact ⟨aligned_network f _ v, Nat.sub_add_cancel (Nat.pos_of_ne_zero h), (inNet_iff f _ v _).mpr rfl⟩

theorem aligned_supernet (f : Fam) (n : Net) (al : AlignedNet f n) : AlignedNet f (supernet f n) := by
  by_cases h : n.2 = 0
  · exact (supernet_zero f n h).symm ▸ al
  · exact (supernet_spec f n al h).1

theorem netMem_supernet (f : Fam) (n : Net) (al : AlignedNet f n) (a : Nat) (h : NetMem f n a) :
    NetMem f (supernet f n) a := by
  by_cases h0 : n.2 = 0
  · exact (supernet_zero f n h0).symm ▸ h
  · obtain ⟨aS, hl, hm⟩ := supernet_spec f n al h0
    exact (laminar f _ n aS al (Nat.le_of_succ_le (Nat.le_of_eq hl))).resolve_right
      (fun hd => hd n.1 ⟨hm, (netMem_self f n).1⟩) a h

theorem supernet_eq (f : Fam) (n q : Net) (aln : AlignedNet f n) (alq : AlignedNet f q)
    (hl : n.2 = q.2 + 1) (hm : NetMem f q n.1) : supernet f n = q := by
  obtain ⟨aS, hS, hmS⟩ := supernet_spec f n aln (hl ▸ Nat.succ_ne_zero _)
  exact eq_of_common f _ q aS alq (Nat.succ.inj (hS.trans hl)) n.1 hmS hm

theorem eq_or_eq_of_half_eq {a n m : Nat} (ha : a / 2 = n / 2) (hm : m / 2 = n / 2) (h : n ≠ m) :
    a = n ∨ a = m := by lia

theorem netMem_of_siblings (f : Fam) (n m : Net) (aln : AlignedNet f n) (alm : AlignedNet f m)
    (hne : n ≠ m) (hs : supernet f n = supernet f m) (a : Nat) (h : NetMem f (supernet f n) a) :
    NetMem f n a ∨ NetMem f m a := by
  by_cases hn0 : n.2 = 0
  · exact .inl (supernet_zero f n hn0 ▸ h)
  by_cases hm0 : m.2 = 0
  · exact .inr (supernet_zero f m hm0 ▸ hs ▸ h)
  obtain ⟨aS, ln, mn⟩ := supernet_spec f n aln hn0
  obtain ⟨_, lm, mm⟩ := supernet_spec f m alm hm0
  rw [← hs] at lm mm
  have hlen : n.2 = m.2 := ln.symm.trans lm
  have hh : nhb f m = nhb f n := by unfold nhb; rw [hlen]
  have hH : nhb f (supernet f n) = nhb f n + 1 := by
    have : (supernet f n).2 + 1 ≤ f.w := ln ▸ aln.len_le
    unfold nhb
    rw [← ln, Nat.sub_add_eq, Nat.sub_add_cancel (Nat.sub_pos_of_lt this)]
  -- leading bits: `a`, `n`, `m` agree after dropping one more bit, `n` and `m` differ before
  rw [netMem_iff f _ aS, hH, Nat.shiftRight_succ, Nat.shiftRight_succ] at h mn mm
  have hk : n.1 >>> nhb f n ≠ m.1 >>> nhb f n := fun hk =>
    hne (eq_of_common f n m aln alm hlen n.1 (netMem_self f n).1 ((netMem_iff f m alm _).mpr (hh ▸ hk)))
  rw [netMem_iff f n aln, netMem_iff f m alm, hh]
  exact eq_or_eq_of_half_eq (h.trans mn.symm) (mm.trans mn.symm) hk

/-- the half of `q` (not a host route) around its address `c` -/
theorem half (f : Fam) (q : Net) (al : AlignedNet f q) (h : Nat) (hq : nhb f q = h + 1)
    (c : Nat) (hc : NetMem f q c) :
    AlignedNet f (network (ofIpLen f c (q.2 + 1))) ∧ nhb f (network (ofIpLen f c (q.2 + 1))) = h ∧
      supernet f (network (ofIpLen f c (q.2 + 1))) = q ∧ NetMem f (network (ofIpLen f c (q.2 + 1))) c := by
  have hq' : f.w - q.2 = h + 1 := hq
  have v := valid_ofIpLen f c (q.2 + 1) (Nat.lt_of_le_of_lt hc.2 al.bcast_lt)
    (Nat.lt_of_sub_pos (hq' ▸ Nat.succ_pos h))
  have ar := aligned_network f _ v
  have hr : NetMem f (network (ofIpLen f c (q.2 + 1))) c := (inNet_iff f _ v c).mpr rfl
  -- it shares `c` with `q` and is not shorter, so it lies inside `q`
  have sub := (laminar f q _ al ar (Nat.le_succ _)).resolve_right fun hd => hd c ⟨hc, hr⟩
  refine ⟨ar, ?_, supernet_eq f _ q ar al rfl (sub _ (netMem_self f _).1), hr⟩
  show f.w - (q.2 + 1) = h
  rw [Nat.sub_add_eq, hq', Nat.add_sub_cancel]

theorem netLe_iff (a b : Net) : netLe a b = true ↔ a.1 < b.1 ∨ (a.1 = b.1 ∧ a.2 ≤ b.2) := by
  simp only [netLe, Bool.or_eq_true, decide_eq_true_eq, Bool.and_eq_true, beq_iff_eq]

theorem netLe_sorted (l : List Net) : (l.mergeSort netLe).Pairwise (fun a b => netLe a b = true) := by
  apply List.pairwise_mergeSort
  · intro a b c
    rw [netLe_iff, netLe_iff, netLe_iff]; lia
  · intro a b
    rw [Bool.or_eq_true, netLe_iff, netLe_iff]; lia

theorem starts_after (f : Fam) (a b : Net) (ala : AlignedNet f a) (alb : AlignedNet f b)
    (hle : netLe a b = true) (hb : netBcast f a < netBcast f b) : netBcast f a < b.1 := by
  have hle' := (netLe_iff a b).mp hle
  have mb := netMem_self f b
  -- were the start of `b` inside `a`, one of the two would contain the other
  refine Nat.lt_of_not_le fun hin => ?_
  have hba : NetMem f a b.1 := ⟨hle'.elim Nat.le_of_lt fun h => Nat.le_of_eq h.1, hin⟩
  rcases Nat.lt_or_ge b.2 a.2 with hl | hl
  · -- `b` around `a`: they start together, and then the shorter `b` comes first
    have h := (laminar f b a alb ala (Nat.le_of_lt hl)).resolve_right fun h => h b.1 ⟨mb.1, hba⟩
    have hs : b.1 ≤ a.1 := (h _ (netMem_self f a).1).1
    exact hle'.elim (fun h' => Nat.not_le_of_lt h' hs) fun h' => Nat.not_le_of_lt hl h'.2
  · -- `a` around `b`: `b` does not end later
    have h := (laminar f a b ala alb hl).resolve_right fun h => h b.1 ⟨hba, mb.1⟩
    exact Nat.not_le_of_lt hb (h _ mb.2).2

/-- `o` is the network kept last (none at the start) -/
theorem dropCovered_spec (f : Fam) (l : List Net) : ∀ (o : Option Net),
    (∀ last, o = some last → AlignedNet f last ∧ ∀ n ∈ l, netLe last n = true) →
    (∀ n ∈ l, AlignedNet f n) → l.Pairwise (fun a b => netLe a b = true) →
    (dropCovered f o l).Sublist l ∧
    (o.toList ++ dropCovered f o l).Pairwise (fun a b => netBcast f a < b.1) ∧
    (∀ n ∈ l, ∀ c, NetMem f n c → ∃ m ∈ o.toList ++ dropCovered f o l, NetMem f m c) := by
  induction l with
  | nil => intro o _ _ _; cases o <;> simp [dropCovered]
  | cons n ns ih =>
    intro o ho aln hs
    rw [List.pairwise_cons] at hs
    have hn := aln n (List.mem_cons_self ..)
    obtain ⟨i1, i2, i3⟩ := ih (some n) (fun _ h => Option.some.inj h ▸ ⟨hn, hs.1⟩)
      (fun m hm => aln m (List.mem_cons_of_mem _ hm)) hs.2
    have keep : ∀ m ∈ n :: ns, ∀ c, NetMem f m c → ∃ k ∈ n :: dropCovered f (some n) ns, NetMem f k c :=
      fun m hm c h => (List.mem_cons.mp hm).elim (fun e => ⟨n, List.mem_cons_self .., e ▸ h⟩) (i3 m · c h)
    cases o with
    | none => exact ⟨i1.cons_cons _, i2, keep⟩
    | some last =>
      obtain ⟨all, hle⟩ := ho last rfl
      have hln := hle n (List.mem_cons_self ..)
      by_cases hc : netBcast f last ≥ netBcast f n
      · -- covered by `last`: dropped
        have e : dropCovered f (some last) (n :: ns) = dropCovered f (some last) ns := by
          simp only [dropCovered, hc, if_true]
        obtain ⟨j1, j2, j3⟩ := ih (some last)
          (fun _ h => Option.some.inj h ▸ ⟨all, fun m hm => hle m (List.mem_cons_of_mem _ hm)⟩)
          (fun m hm => aln m (List.mem_cons_of_mem _ hm)) hs.2
        rw [e]
        refine ⟨j1.cons _, j2, fun m hm c h => ?_⟩
        rcases List.mem_cons.mp hm with rfl | hm'
        · have hstart : last.1 ≤ m.1 := ((netLe_iff last m).mp hln).elim Nat.le_of_lt fun h => Nat.le_of_eq h.1
          exact ⟨last, List.mem_cons_self .., Nat.le_trans hstart h.1, Nat.le_trans h.2 hc⟩
        · exact j3 m hm' c h
      · -- kept: it ends later than `last`, so it starts after it
        have e : dropCovered f (some last) (n :: ns) = n :: dropCovered f (some n) ns := by
          simp only [dropCovered, hc, if_false]
        have hgap := starts_after f last n all hn hln (Nat.lt_of_not_le hc)
        rw [e]
        refine ⟨i1.cons_cons _, List.pairwise_cons.mpr ⟨fun m hm => ?_, i2⟩, fun m hm c h => ?_⟩
        · rcases List.mem_cons.mp hm with rfl | hm'
          · exact hgap
          · exact Nat.lt_trans (Nat.lt_of_lt_of_le hgap (netMem_self f n).2.1)
              ((List.pairwise_cons.mp i2).1 m hm')
        · obtain ⟨k, hk, h'⟩ := keep m hm c h
          exact ⟨k, List.mem_cons_of_mem _ hk, h'⟩

/-- what the loop maintains; `s` is the dict `subnets` of the Python loop, keyed by supernet -/
structure LoopInv (f : Fam) (t : List Net) (s : List (Net × Net)) : Prop where
  alT : ∀ n ∈ t, AlignedNet f n
  alS : ∀ e ∈ s, AlignedNet f e.2 ∧ e.1 = supernet f e.2
  keys : s.Pairwise (fun e e' => e.1 ≠ e'.1)

def LoopCover (f : Fam) (t : List Net) (s : List (Net × Net)) (c : Nat) : Prop :=
  (∃ n ∈ t, NetMem f n c) ∨ ∃ e ∈ s, NetMem f e.2 c

/-- the measure: a network moved from the list into the dict weighs less there -/
theorem mergeLoop_round (f : Fam) (fuel : Nat) (net : Net) (rest : List Net) (s : List (Net × Net))
    (inv : LoopInv f (net :: rest) s) :
    ∃ t' s', mergeLoop f (fuel + 1) (net :: rest) s = mergeLoop f fuel t' s' ∧ LoopInv f t' s' ∧
      2 * t'.length + s'.length < 2 * (rest.length + 1) + s.length ∧
      ∀ c, LoopCover f t' s' c ↔ LoopCover f (net :: rest) s c := by
  have hnet := inv.alT net (List.mem_cons_self ..)
  have hrest : ∀ n ∈ rest, AlignedNet f n := fun n hn => inv.alT n (List.mem_cons_of_mem _ hn)
  cases hl : s.lookup (supernet f net) with
  | none =>
    have hk : ∀ x ∈ s, supernet f net ≠ x.1 := fun x hx =>
      bne_iff_ne.mp (List.lookup_eq_none_iff.mp hl x hx)
    refine ⟨rest, (supernet f net, net) :: s, by simp only [mergeLoop, hl],
      ⟨hrest, List.forall_mem_cons.mpr ⟨⟨hnet, rfl⟩, inv.alS⟩, List.pairwise_cons.mpr ⟨hk, inv.keys⟩⟩,
      by simp only [List.length_cons]; omega, fun c => ?_⟩
    simp only [LoopCover, List.mem_cons, exists_eq_or_imp]
    exact or_left_comm.trans or_assoc.symm
  | some existing =>
    have hmem : (supernet f net, existing) ∈ s := by
      obtain ⟨l1, l2, e, _⟩ := List.lookup_eq_some_iff.mp hl
      rw [e]; exact List.mem_append_right _ (List.mem_cons_self ..)
    have hex := inv.alS _ hmem
    by_cases hne : existing = net
    · -- the network is in the dict already
      refine ⟨rest, s, by simp only [mergeLoop, hl, hne, ne_eq, not_true_eq_false, if_false],
        ⟨hrest, inv.alS, inv.keys⟩, by omega, fun c => ?_⟩
      simp only [LoopCover, List.mem_cons, exists_eq_or_imp]
      exact ⟨Or.imp_left .inr, fun h => h.elim (fun h => h.elim (fun h => .inr ⟨_, hmem, hne ▸ h⟩) .inl) .inr⟩
    · -- its sibling is in the dict: both give way to their supernet
      have hlen : (s.filter (fun x => x.1 ≠ supernet f net)).length < s.length :=
        List.length_filter_lt_length_iff_exists.mpr ⟨_, hmem, by simp⟩
      refine ⟨supernet f net :: rest, s.filter (fun x => x.1 ≠ supernet f net),
        by simp only [mergeLoop, hl, hne, if_true, ne_eq, not_false_eq_true],
        ⟨List.forall_mem_cons.mpr ⟨aligned_supernet f net hnet, hrest⟩,
          fun x hx => inv.alS x (List.mem_filter.mp hx).1, inv.keys.filter _⟩,
        by simp only [List.length_cons]; omega, fun c => ?_⟩
      simp only [LoopCover, List.mem_cons, exists_eq_or_imp]
      constructor
      · rintro ((h | h) | ⟨x, hx, h⟩)
        · exact (netMem_of_siblings f net existing hnet hex.1 (Ne.symm hne) hex.2 c h).elim
            (.inl ∘ .inl) fun h' => .inr ⟨_, hmem, h'⟩
        · exact .inl (.inr h)
        · exact .inr ⟨x, (List.mem_filter.mp hx).1, h⟩
      · rintro ((h | h) | ⟨x, hx, h⟩)
        · exact .inl (.inl (netMem_supernet f net hnet c h))
        · exact .inl (.inr h)
        · by_cases hk : x.1 = supernet f net
          · have := inv.alS x hx
            exact .inl (.inl (hk ▸ this.2 ▸ netMem_supernet f x.2 this.1 c h))
          · exact .inr ⟨x, List.mem_filter.mpr ⟨hx, by simpa using hk⟩, h⟩

theorem mergeLoop_spec (f : Fam) : ∀ (fuel : Nat) (t : List Net) (s : List (Net × Net)),
    LoopInv f t s → 2 * t.length + s.length ≤ fuel →
    LoopInv f [] (mergeLoop f fuel t s) ∧
    ∀ c, LoopCover f [] (mergeLoop f fuel t s) c ↔ LoopCover f t s c := by
  intro fuel
  induction fuel with
  | zero =>
    intro t s inv hf
    cases List.eq_nil_of_length_eq_zero (l := t) (by omega)
    exact ⟨inv, fun c => Iff.rfl⟩
  | succ fuel ih =>
    intro t s inv hf
    cases t with
    | nil => exact ⟨inv, fun c => Iff.rfl⟩
    | cons net rest =>
      obtain ⟨t', s', e, inv', hlt, hc⟩ := mergeLoop_round f fuel net rest s inv
      obtain ⟨i1, i2⟩ := ih t' s' inv' (Nat.le_of_lt_succ (Nat.lt_of_lt_of_le hlt hf))
      exact e ▸ ⟨i1, fun c => (i2 c).trans (hc c)⟩

theorem collapseNets_nil (f : Fam) : collapseNets f [] = [] := by
  have : ∀ fuel, mergeLoop f fuel [] [] = [] := fun fuel => by cases fuel <;> rfl
  simp only [collapseNets, List.reverse_nil, this, List.map_nil, List.mergeSort_nil, dropCovered]

theorem collapseNets_spec (f : Fam) (nets : List Net) (al : ∀ n ∈ nets, AlignedNet f n) :
    (∀ n ∈ collapseNets f nets, AlignedNet f n) ∧
    (∀ c, (∃ n ∈ collapseNets f nets, NetMem f n c) ↔ ∃ n ∈ nets, NetMem f n c) ∧
    (collapseNets f nets).Pairwise (fun a b => netBcast f a < b.1) ∧
    (collapseNets f nets).Pairwise (fun a b => supernet f a ≠ supernet f b) := by
  unfold collapseNets
  simp only
  -- the fuel the model passes covers the `2 * len` rounds the loop can make
  have hfuel : 2 * nets.reverse.length + ([] : List (Net × Net)).length
      ≤ (f.w + 2) * (nets.reverse.length + 1) :=
    Nat.le_trans (Nat.mul_le_mul_left 2 (Nat.le_succ _)) (Nat.mul_le_mul_right _ (Nat.le_add_left ..))
  obtain ⟨inv, cov⟩ := mergeLoop_spec f _ _ []
    ⟨fun n hn => al n (List.mem_reverse.mp hn), fun e he => absurd he List.not_mem_nil, .nil⟩ hfuel
  generalize mergeLoop f ((f.w + 2) * (nets.reverse.length + 1)) nets.reverse [] = r at inv cov
  have perm := List.mergeSort_perm (r.map (·.2)) netLe
  have alv : ∀ n ∈ (r.map (·.2)).mergeSort netLe, AlignedNet f n := fun n hn => by
    obtain ⟨e, he, rfl⟩ := List.mem_map.mp (perm.mem_iff.mp hn)
    exact (inv.alS e he).1
  obtain ⟨d1, d2, d3⟩ := dropCovered_spec f _ none (fun _ h => nomatch h) alv (netLe_sorted _)
  refine ⟨fun n hn => alv n (d1.subset hn), fun c => ⟨?_, ?_⟩, d2, ?_⟩
  · rintro ⟨n, hn, h⟩
    obtain ⟨e, he, rfl⟩ := List.mem_map.mp (perm.mem_iff.mp (d1.subset hn))
    obtain ⟨m, hm, h'⟩ := ((cov c).mp (.inr ⟨e, he, h⟩)).resolve_right fun ⟨_, hx, _⟩ => nomatch hx
    exact ⟨m, List.mem_reverse.mp hm, h'⟩
  · rintro ⟨n, hn, h⟩
    obtain ⟨e, he, h'⟩ :=
      ((cov c).mpr (.inl ⟨n, List.mem_reverse.mpr hn, h⟩)).resolve_left fun ⟨_, hx, _⟩ => nomatch hx
    exact d3 e.2 (perm.mem_iff.mpr (List.mem_map.mpr ⟨e, he, rfl⟩)) c h'
  · -- the dict's keys are distinct, and each is the supernet of its value
    apply List.Pairwise.sublist d1
    rw [List.Perm.pairwise_iff (fun h => Ne.symm h) perm, List.pairwise_map]
    refine inv.keys.imp_of_mem fun {a b} ha hb h => ?_
    rwa [← (inv.alS a ha).2, ← (inv.alS b hb).2]

theorem rel_of_pairwise_of_ne {α : Type} {R : α → α → Prop} (hsym : ∀ x y, R x y → R y x) {l : List α}
    (hp : l.Pairwise R) : ∀ a ∈ l, ∀ b ∈ l, a ≠ b → R a b :=
  List.Pairwise.forall_of_forall_of_flip (R := fun x y => x ≠ y → R x y) (fun _ _ h => absurd rfl h)
    (hp.imp (S := fun x y => x ≠ y → R x y) fun h _ => h)
    (hp.imp (S := fun x y => y ≠ x → R y x) fun h _ => hsym _ _ h)

/-- **canonical cover**: if `S` is a list of aligned networks, no two with the same supernet, then
every aligned network all of whose addresses are covered by `S` lies inside a single
member of `S` — the members of `S` are exactly the maximal networks inside the covered set -/
theorem canonical_cover (f : Fam) (S : List Net) (alS : ∀ s ∈ S, AlignedNet f s)
    (sib : S.Pairwise (fun a b => supernet f a ≠ supernet f b)) :
    ∀ (h : Nat) (q : Net), AlignedNet f q → nhb f q = h →
      (∀ c, NetMem f q c → ∃ s ∈ S, NetMem f s c) →
      ∃ s ∈ S, ∀ c, NetMem f q c → NetMem f s c := by
  intro h
  induction h with
  | zero =>
    intro q alq hq hcov
    obtain ⟨s, hs, hm⟩ := hcov _ (netMem_self f q).1
    refine ⟨s, hs, fun c hc => ?_⟩
    -- a host route has one address
    have hc' : q.1 ≤ c ∧ c ≤ q.1 + (2 ^ (f.w - q.2) - 1) := hc
    rw [show f.w - q.2 = 0 from hq] at hc'
    exact Nat.le_antisymm hc'.2 hc'.1 ▸ hm
  | succ h ih =>
    intro q alq hq hcov
    -- the member that contains the half around `c` either contains the whole network or is that half
    have step : ∀ c, NetMem f q c →
        (∃ s ∈ S, ∀ c, NetMem f q c → NetMem f s c) ∨ network (ofIpLen f c (q.2 + 1)) ∈ S := by
      intro c hc
      obtain ⟨ar, hn, sr, _⟩ := half f q alq h hq c hc
      have sub : ∀ c, NetMem f _ c → NetMem f q c := fun c hc => sr ▸ netMem_supernet f _ ar c hc
      obtain ⟨m, hm, cm⟩ := ih _ ar hn fun c hc => hcov c (sub c hc)
      by_cases hl : m.2 ≤ q.2
      · exact .inl ⟨m, hm, (laminar f m q (alS m hm) alq hl).resolve_right fun hh =>
          hh _ ⟨cm _ (netMem_self f _).1, sub _ (netMem_self f _).1⟩⟩
      · exact .inr (eq_of_subset_of_len f m _ (alS m hm) ar cm (Nat.lt_of_not_le hl) ▸ hm)
    rcases step _ (netMem_self f q).1 with h0 | h0
    · exact h0
    rcases step _ (netMem_self f q).2 with h1 | h1
    · exact h1
    -- the halves around the first and the last address are members with the same supernet, and they
    -- differ: a half that held both would hold all of `q`
    obtain ⟨a0, _, s0, m0⟩ := half f q alq h hq _ (netMem_self f q).1
    obtain ⟨_, _, s1, m1⟩ := half f q alq h hq _ (netMem_self f q).2
    refine absurd (s0.trans s1.symm) (rel_of_pairwise_of_ne (fun _ _ => Ne.symm) sib _ h0 _ h1 fun e => ?_)
    have sub : ∀ c, NetMem f q c → NetMem f _ c := fun c hc =>
      ⟨Nat.le_trans m0.1 hc.1, Nat.le_trans hc.2 (e ▸ m1).2⟩
    exact Nat.succ_ne_self q.2 (congrArg Prod.snd (eq_of_subset_of_len f _ q a0 alq sub (Nat.le_succ _)))

end Ccp.IPVal
