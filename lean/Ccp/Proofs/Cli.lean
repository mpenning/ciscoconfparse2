import Ccp.Model.Cli
import Ccp.Proofs.Mac
/-!
The spec side of C18 and the lemmas that connect the loops of `Ccp.Model.Cli` to it.  Word mode of ipgrep:
a (word, subnet) pair contributes `hitRender`; when no word is both an IPv4 and an IPv6 address (`Disjoint`)
that is the rendering of the address the word denotes, so the subnet loop collapses to `wordOut`.  `--unique`
is `firstOccs`.  Line mode: the pairs of a line are events (`lineEv`) folded by `evStep`.
-/
namespace Ccp.Cli
open Ccp.Py

theorem foldl_append_toList {α β : Type} (f : β → Option α) (l : List β) (init : List α) :
    l.foldl (fun acc w => acc ++ (f w).toList) init = init ++ l.filterMap f := by
  induction l generalizing init with
  | nil => simp
  | cons y ys ih =>
    rw [List.foldl_cons, ih, List.filterMap_cons]
    cases f y <;> simp

theorem foldl_append_if {β : Type} (p : β → Bool) (l : List β) (init : List β) :
    l.foldl (fun acc x => if p x then acc ++ [x] else acc) init = init ++ l.filter p := by
  induction l generalizing init with
  | nil => simp
  | cons y ys ih =>
    rw [List.foldl_cons, ih, List.filter_cons]
    cases p y <;> simp

theorem filterMap_filter_isSome {α β : Type} (f : β → Option α) (l : List β) :
    (l.filter fun x => (f x).isSome).filterMap f = l.filterMap f ∧
      (l.filterMap f).length = (l.filter fun x => (f x).isSome).length := by
  induction l with
  | nil => exact ⟨rfl, rfl⟩
  | cons x xs ih =>
    rw [List.filterMap_cons, List.filter_cons]
    cases h : f x <;> simp [h, ih]

theorem filterMap_none {β γ : Type} (l : List β) : l.filterMap (fun _ => (none : Option γ)) = [] :=
  List.filterMap_eq_nil_iff.mpr fun _ _ => rfl

theorem findSome_if {β γ : Type} (p : β → Bool) (c : Bool) (r : γ) (l : List β) :
    l.findSome? (fun s => if p s && c then some r else none) = if l.any p && c then some r else none := by
  cases c with
  | false => simp
  | true =>
    simp only [Bool.and_true]
    induction l with
    | nil => rfl
    | cons s rest ih =>
      rw [List.findSome?_cons, List.any_cons]
      cases hp : p s
      · simpa using ih
      · simp

section FirstOccs
variable {α : Type} [BEq α] [LawfulBEq α]

/-- `if x not in retval: retval.append(x)` -/
def insNew (acc : List α) (x : α) : List α := if acc.contains x then acc else acc ++ [x]

/-- the first occurrence of every element, in order of appearance -/
def firstOccs (l : List α) : List α := l.foldl insNew []

omit [LawfulBEq α] in
theorem insNew_pos {acc : List α} {x : α} (h : acc.contains x = true) : insNew acc x = acc := by
  unfold insNew; rw [if_pos h]

omit [LawfulBEq α] in
theorem insNew_neg {acc : List α} {x : α} (h : ¬ acc.contains x = true) : insNew acc x = acc ++ [x] := by
  unfold insNew; rw [if_neg h]

theorem mem_insNew {acc : List α} {x y : α} : x ∈ insNew acc y ↔ x ∈ acc ∨ x = y := by
  unfold insNew
  split
  · next h => exact ⟨Or.inl, fun h' => h'.elim id fun e => e ▸ List.contains_iff_mem.mp h⟩
  · simp

theorem insNew_idem (acc : List α) (x : α) : insNew (insNew acc x) x = insNew acc x :=
  insNew_pos (List.contains_iff_mem.mpr (mem_insNew.mpr (Or.inr rfl)))

theorem foldl_insNew_cons (x : α) (l acc : List α) :
    l.foldl insNew (x :: acc) = x :: (l.filter (fun b => !b == x)).foldl insNew acc := by
  induction l generalizing acc with
  | nil => rfl
  | cons y ys ih =>
    rw [List.foldl_cons, List.filter_cons]
    by_cases hy : y = x
    · subst hy
      rw [insNew_pos (by simp), ih]
      simp
    · have : insNew (x :: acc) y = x :: insNew acc y := by
        unfold insNew
        rw [List.contains_cons]
        simp only [beq_eq_false_iff_ne.mpr hy, Bool.false_or]
        split <;> rfl
      rw [this, ih]
      simp [hy]

theorem firstOccs_cons (x : α) (xs : List α) :
    firstOccs (x :: xs) = x :: firstOccs (xs.filter (fun b => !b == x)) :=
  foldl_insNew_cons x xs []

/-- induction on a length bound, along `firstOccs_cons` -/
theorem firstOccs_props (n : Nat) (l : List α) (hn : l.length ≤ n) :
    (firstOccs l).Nodup ∧ (∀ x, x ∈ firstOccs l ↔ x ∈ l) ∧ (firstOccs l).Sublist l ∧
      firstOccs l = l.eraseDups := by
  induction n generalizing l with
  | zero =>
    rw [List.length_eq_zero_iff.mp (Nat.le_zero.mp hn)]
    simp [firstOccs]
  | succ n ih =>
    cases l with
    | nil => simp [firstOccs]
    | cons y ys =>
      obtain ⟨hnd, hmem, hsub, herase⟩ := ih (ys.filter fun b => !b == y)
        (Nat.le_trans (List.length_filter_le _ _) (by simpa using hn))
      rw [firstOccs_cons]
      refine ⟨List.nodup_cons.mpr ⟨fun h => by simpa using (hmem y).mp h, hnd⟩, fun x => ?_,
        (hsub.trans List.filter_sublist).cons_cons y, by rw [List.eraseDups_cons, herase]⟩
      rw [List.mem_cons, hmem, List.mem_filter, List.mem_cons]
      by_cases hx : x = y <;> simp [hx]

end FirstOccs

/-- the words `IPv4Obj` accepts and the words `IPv6Obj` accepts are disjoint -/
def Disjoint (O : Oracle) : Prop := ∀ w, O.ip4 w = none ∨ O.ip6 w = none

def hitRender (O : Oracle) (o : Opts) (w : Str) (s : Addr) : Option Str :=
  match mkAddr O s.ver w with
  | some a => if hitA s a && !netExcluded o a && !hostExcluded O o a then some (render O o a) else none
  | none => none

/-- the address a word denotes, if any -/
def addrOf (O : Oracle) (w : Str) : Option Addr :=
  match mkAddr O .v4 w with
  | some a => some a
  | none => mkAddr O .v6 w

/-- `--exclude-hosts` (and the never-set `exclude_networks`) -/
def excluded (O : Oracle) (o : Opts) (a : Addr) : Bool := netExcluded o a || hostExcluded O o a

def inSome (subnets : List Addr) (a : Addr) : Bool := subnets.any (fun s => hitA s a)

def wordOut (O : Oracle) (o : Opts) (subnets : List Addr) (w : Str) : Option Str :=
  match addrOf O w with
  | some a => if inSome subnets a && !excluded O o a then some (render O o a) else none
  | none => none

theorem uniqueKey_eq_render' (O : Oracle) (o : Opts) (a : Addr) : uniqueKey O o a = render O o a := by
  unfold uniqueKey render
  cases o.showCidr <;> cases o.showNetworks <;> simp

theorem mkAddr_ver (O : Oracle) (v : Ver) (w : Str) (a : Addr) (h : mkAddr O v w = some a) :
    a.ver = v := by
  cases v <;>
  · simp only [mkAddr, Option.map_eq_some_iff] at h
    obtain ⟨p, _, rfl⟩ := h
    rfl

theorem wordPlain_eq (O : Oracle) (o : Opts) (w : Str) (subnets : List Addr) :
    wordPlain O o w subnets = subnets.findSome? (hitRender O o w) := by
  induction subnets with
  | nil => rfl
  | cons s rest ih =>
    rw [List.findSome?_cons, wordPlain, ← ih, hitRender]
    cases mkAddr O s.ver w with
    | none => rfl
    | some a =>
      dsimp only
      cases hitA s a <;> cases netExcluded o a <;> cases hostExcluded O o a <;> rfl

theorem wordUnique_cons (O : Oracle) (o : Opts) (w : Str) (s : Addr) (rest : List Addr) (acc : List Str) :
    wordUnique O o w (s :: rest) acc =
      wordUnique O o w rest (match hitRender O o w s with
       | some r => insNew acc r
       | none => acc) := by
  rw [wordUnique]
  unfold hitRender
  cases mkAddr O s.ver w with
  | none => rfl
  | some a =>
    -- the code looks the key up in `retval` before the exclusion checks, `hitRender` after: the same
    simp only [uniqueKey_eq_render']
    cases hitA s a
    · simp
    · by_cases hm : render O o a ∈ acc
      · cases netExcluded o a <;> cases hostExcluded O o a <;>
          simp [hm, insNew_pos (List.contains_iff_mem.mpr hm)]
      · cases netExcluded o a <;> cases hostExcluded O o a <;>
          simp [hm, insNew_neg (fun h => hm (List.contains_iff_mem.mp h))]

theorem wordUnique_eq (O : Oracle) (o : Opts) (w : Str) (subnets : List Addr) (acc : List Str) :
    wordUnique O o w subnets acc = (subnets.filterMap (hitRender O o w)).foldl insNew acc := by
  induction subnets generalizing acc with
  | nil => rfl
  | cons s rest ih =>
    rw [wordUnique_cons, ih, List.filterMap_cons]
    cases hitRender O o w s <;> simp

/-- Both greps ask the constructor of the subnet's family about the word and go on only with a hit.
Under `Disjoint` that is the same as taking the address the word denotes: an address of the other
family cannot be a hit. -/
theorem bind_mkAddr {β : Type} (O : Oracle) (hd : Disjoint O) (w : Str) (s : Addr) (f : Addr → Option β)
    (hf : ∀ a, hitA s a = false → f a = none) :
    (mkAddr O s.ver w).bind f = (addrOf O w).bind f := by
  have other : ∀ v b, mkAddr O v w = some b → v ≠ s.ver → f b = none := fun v b hb hv =>
    hf b (by simp [hitA, mkAddr_ver O v w b hb, hv])
  unfold addrOf
  cases hv : s.ver with
  | v4 =>
    cases h4 : mkAddr O .v4 w with
    | some a => rfl
    | none =>
      cases h6 : mkAddr O .v6 w with
      | none => rfl
      | some b => exact (other .v6 b h6 (by rw [hv]; decide)).symm
  | v6 =>
    cases h4 : mkAddr O .v4 w with
    | none => rfl
    | some a =>
      have h6 : mkAddr O .v6 w = none := by
        rcases hd w with h | h
        · simp [mkAddr, h] at h4
        · simp [mkAddr, h]
      rw [h6]
      exact (other .v4 a h4 (by rw [hv]; decide)).symm

theorem hitRender_eq (O : Oracle) (o : Opts) (hd : Disjoint O) (w : Str) (s : Addr) :
    hitRender O o w s =
      (addrOf O w).bind fun a => if hitA s a && !excluded O o a then some (render O o a) else none := by
  rw [← bind_mkAddr O hd w s _ fun a h => by simp [h]]
  unfold hitRender excluded
  cases mkAddr O s.ver w with
  | none => rfl
  | some a => simp only [Option.bind_some, Bool.not_or, Bool.and_assoc]

/-- every subnet that contains the word offers the same rendering `r`: adding it once per subnet adds it once -/
theorem foldl_insNew_if {β : Type} (p : β → Bool) (c : Bool) (r : Str) (l : List β) (acc : List Str) :
    (l.filterMap (fun s => if p s && c then some r else none)).foldl insNew acc
      = if l.any p && c then insNew acc r else acc := by
  cases c with
  | false => simp [filterMap_none]
  | true =>
    simp only [Bool.and_true]
    induction l generalizing acc with
    | nil => rfl
    | cons s rest ih =>
      rw [List.filterMap_cons, List.any_cons]
      cases hp : p s
      · simpa using ih acc
      · simp only [if_true, List.foldl_cons, Bool.true_or]
        rw [ih]
        split
        · exact insNew_idem acc r
        · rfl

theorem findSome_hitRender (O : Oracle) (o : Opts) (hd : Disjoint O) (subnets : List Addr) (w : Str) :
    subnets.findSome? (hitRender O o w) = wordOut O o subnets w := by
  rw [funext (hitRender_eq O o hd w)]
  unfold wordOut inSome
  cases addrOf O w with
  | none => simp
  | some a => exact findSome_if _ _ _ _

theorem foldl_hitRender (O : Oracle) (o : Opts) (hd : Disjoint O) (subnets : List Addr) (w : Str)
    (acc : List Str) :
    (subnets.filterMap (hitRender O o w)).foldl insNew acc
      = (match wordOut O o subnets w with
         | some r => insNew acc r
         | none => acc) := by
  rw [funext (hitRender_eq O o hd w)]
  unfold wordOut inSome
  cases addrOf O w with
  | none => simp [filterMap_none]
  | some a =>
    simp only [Option.bind_some]
    rw [foldl_insNew_if]
    split <;> simp_all

theorem foldl_match_filterMap (f : Str → Option Str) (words : List Str) (acc : List Str) :
    words.foldl (fun acc w => match f w with
      | some r => insNew acc r
      | none => acc) acc = (words.filterMap f).foldl insNew acc := by
  rw [List.foldl_filterMap]
  congr 1
  funext acc w
  cases f w <;> rfl

/-- what a (word, subnet) pair means for a line: `none` = no hit, `some true` = a hit that is
excluded, `some false` = a hit that counts -/
def lineEv (O : Oracle) (o : Opts) (w : Str) (s : Addr) : Option Bool :=
  match mkAddr O s.ver w with
  | some a => if hitA s a then some (excluded O o a) else none
  | none => none

theorem lineEv_eq (O : Oracle) (o : Opts) (hd : Disjoint O) (w : Str) (s : Addr) :
    lineEv O o w s = (addrOf O w).bind fun a => if hitA s a then some (excluded O o a) else none := by
  rw [← bind_mkAddr O hd w s _ fun a h => by simp [h]]
  unfold lineEv
  cases mkAddr O s.ver w <;> rfl

def evStep (st : LineSt) (e : Option Bool) : LineSt :=
  match e with
  | none => st
  | some ex => if st.exclude then st else if ex then ⟨false, true⟩ else ⟨true, st.exclude⟩

theorem lineStep_eq (O : Oracle) (o : Opts) (w : Str) (st : LineSt) (s : Addr) :
    lineStep O o w st s = evStep st (lineEv O o w s) := by
  unfold lineStep lineEv evStep excluded
  cases mkAddr O s.ver w with
  | none => rfl
  | some a =>
    simp only
    cases hitA s a <;> cases st.exclude <;> cases netExcluded o a <;> cases hostExcluded O o a <;> simp

theorem foldl_evStep_excl (es : List (Option Bool)) (st : LineSt) (h : st.exclude = true) :
    es.foldl evStep st = st := by
  induction es with
  | nil => rfl
  | cons e rest ih =>
    rw [List.foldl_cons]
    have : evStep st e = st := by
      unfold evStep
      cases e <;> simp [h]
    rw [this, ih]

theorem foldl_evStep_append (es : List (Option Bool)) (a : Bool) :
    (es.foldl evStep ⟨a, false⟩).append
      = ((a || es.any (· == some false)) && !(es.any (· == some true))) := by
  induction es generalizing a with
  | nil => simp
  | cons e rest ih =>
    rw [List.foldl_cons]
    cases e with
    | none => simpa [evStep] using ih a
    | some ex =>
      cases ex
      · simp only [evStep, Bool.false_eq_true, if_false]
        rw [ih true]
        simp
      · simp only [evStep, Bool.false_eq_true, if_false, if_true]
        rw [foldl_evStep_excl _ _ rfl]
        simp

theorem lineScan_eq (O : Oracle) (o : Opts) (subnets : List Addr) (line : Str) :
    lineScan O o subnets line =
      ((O.split line).flatMap (fun w => subnets.map (lineEv O o w))).foldl evStep ⟨false, false⟩ := by
  unfold lineScan
  rw [List.foldl_flatMap]
  congr 1
  funext st w
  rw [List.foldl_map]
  congr 1
  funext st s
  exact lineStep_eq O o w st s

theorem macLineHas_eq (O : Oracle) (regexes : List Str) (line : Str) :
    macLineHas O regexes line = (O.split line).any (macWordMatches O regexes) := by
  unfold macLineHas
  generalize O.split line = ws
  have : ∀ (b : Bool), ws.foldl (fun appended w =>
      if appended then appended else macWordMatches O regexes w) b
      = (b || ws.any (macWordMatches O regexes)) := by
    induction ws with
    | nil => simp
    | cons w rest ih =>
      intro b
      rw [List.foldl_cons, ih, List.any_cons]
      cases b <;> simp
  simpa using this false

theorem forFiles_eq_aux (files : List Str) (body : Str → Except Err (List Str)) (acc : List Str) :
    files.foldlM (fun acc f => do let out ← body f; pure (acc ++ out)) acc
      = (files.mapM body).map (fun outs => acc ++ outs.flatten) := by
  induction files generalizing acc with
  | nil => simp [Except.map, pure, Except.pure]
  | cons f fs ih =>
    rw [List.foldlM_cons, List.mapM_cons]
    cases hb : body f with
    | error e => rfl
    | ok out =>
      show List.foldlM _ (acc ++ out) fs = _
      rw [ih]
      cases List.mapM body fs with
      | error e => rfl
      | ok outs => simp [Except.map, bind, Except.bind, pure, Except.pure]

theorem forFiles_eq (files : List Str) (body : Str → Except Err (List Str)) :
    forFiles files body = (files.mapM body).map List.flatten := by
  unfold forFiles
  rw [forFiles_eq_aux]
  simp

end Ccp.Cli
