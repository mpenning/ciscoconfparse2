import Ccp.Model.IPText
import Ccp.Proofs.Py
/-!
The hex text `'%x' % n`, and the value of a list of base-`b` groups (`ofGroups`, `groupsOf`), which is what octets,
hextets, the four hex digits of a hextet and the `sum(x * base**i …)` loops of the properties all are.
-/
namespace Ccp.IPText
open Ccp.Py

theorem digitChar_eq_zero : ∀ d : Fin 10, Nat.digitChar d.val = '0' → d.val = 0 := by decide +kernel

theorem pyNat_toDec (n : Nat) : pyNat (toDec n) = some n := by
  rw [pyNat, pyInt_toDec]

/-- big-endian groups in base `b`, as a number (`fromBytes` is the case 256) -/
def ofGroups (b : Nat) (gs : List Nat) : Nat := gs.foldl (fun a g => a * b + g) 0

theorem foldl_groups (b : Nat) (gs : List Nat) (acc : Nat) :
    gs.foldl (fun a g => a * b + g) acc = acc * b ^ gs.length + ofGroups b gs := by
  induction gs generalizing acc with
  | nil => simp [ofGroups]
  | cons g gs ih =>
    rw [ofGroups, List.foldl_cons, List.foldl_cons, ih, ih (0 * b + g), List.length_cons, Nat.pow_succ']
    simp [Nat.add_mul, Nat.mul_assoc, Nat.add_assoc]

theorem ofGroups_cons (b g : Nat) (gs : List Nat) : ofGroups b (g :: gs) = g * b ^ gs.length + ofGroups b gs := by
  rw [ofGroups, List.foldl_cons, foldl_groups]; simp

theorem ofGroups_append (b : Nat) (xs ys : List Nat) :
    ofGroups b (xs ++ ys) = ofGroups b xs * b ^ ys.length + ofGroups b ys := by
  rw [ofGroups, List.foldl_append, foldl_groups]; rfl

theorem ofGroups_replicate_zero (b k : Nat) : ofGroups b (List.replicate k 0) = 0 := by
  induction k with
  | zero => rfl
  | succ k ih => rw [List.replicate_succ, ofGroups_cons, ih]; simp

theorem ofGroups_lt {b : Nat} (gs : List Nat) (h : ∀ g ∈ gs, g < b) : ofGroups b gs < b ^ gs.length := by
  induction gs with
  | nil => simp [ofGroups]
  | cons g gs ih =>
    have := ih fun x hx => h x (by simp [hx])
    have hg : (g + 1) * b ^ gs.length ≤ b * b ^ gs.length := Nat.mul_le_mul_right _ (h g (by simp))
    rw [ofGroups_cons, List.length_cons, Nat.pow_succ']
    rw [Nat.add_mul, Nat.one_mul] at hg
    omega

/-- the `k` low base-`b` digits of `n`, most significant first -/
def groupsOf (b : Nat) : Nat → Nat → List Nat
  | 0, _ => []
  | k + 1, n => n / b ^ k % b :: groupsOf b k n

theorem length_groupsOf (b k n : Nat) : (groupsOf b k n).length = k := by
  induction k with
  | zero => rfl
  | succ k ih => simp [groupsOf, ih]

theorem groupsOf_lt {b : Nat} (hb : 0 < b) (k n : Nat) : ∀ g ∈ groupsOf b k n, g < b := by
  induction k with
  | zero => simp [groupsOf]
  | succ k ih =>
    intro g hg
    rcases List.mem_cons.mp hg with rfl | hg
    · exact Nat.mod_lt _ hb
    · exact ih g hg

theorem ofGroups_groupsOf (b k n : Nat) : ofGroups b (groupsOf b k n) = n % b ^ k := by
  induction k with
  | zero => simp [groupsOf, ofGroups, Nat.mod_one]
  | succ k ih => rw [groupsOf, ofGroups_cons, ih, length_groupsOf, Nat.mod_pow_succ, Nat.mul_comm, Nat.add_comm]

theorem groupsOf_mul_add (b k q r : Nat) : groupsOf b k (q * b ^ k + r) = groupsOf b k r := by
  induction k generalizing q with
  | zero => rfl
  | succ k ih =>
    have e : q * b ^ (k + 1) = q * b * b ^ k := by rw [Nat.pow_succ', Nat.mul_assoc]
    rw [groupsOf, groupsOf, e, ih]
    by_cases hb : 0 < b ^ k
    · rw [Nat.add_comm, Nat.add_mul_div_right _ _ hb, Nat.add_mul_mod_self_right]
    · simp [Nat.eq_zero_of_not_pos hb]

theorem groupsOf_ofGroups {b : Nat} (gs : List Nat) (h : ∀ g ∈ gs, g < b) :
    groupsOf b gs.length (ofGroups b gs) = gs := by
  induction gs with
  | nil => rfl
  | cons g gs ih =>
    have hlt := ofGroups_lt gs fun x hx => h x (by simp [hx])
    have hb : 0 < b ^ gs.length := by omega
    rw [List.length_cons, groupsOf, ofGroups_cons, groupsOf_mul_add, ih fun x hx => h x (by simp [hx]),
      Nat.add_comm, Nat.add_mul_div_right _ _ hb, Nat.div_eq_of_lt hlt, Nat.zero_add, Nat.mod_eq_of_lt (h g (by simp))]

theorem toBytes4_eq (n : Nat) : toBytes4 n = groupsOf 256 4 n := by
  simp [toBytes4, groupsOf]

theorem hextets_eq (n : Nat) : hextets n = groupsOf 65536 8 n := by
  simp [hextets, groupsOf]

/-- `sum(f(x) * b**i for i, x in enumerate(xs, i))` over texts that `f` reads back: the digits are taken least
significant first -/
theorem sumPow_map (b : Nat) (f : Str → Option Nat) (t : Nat → Str) (gs : List Nat)
    (hf : ∀ g ∈ gs, f (t g) = some g) (i : Nat) :
    sumPow b f i (gs.map t) = some (ofGroups b gs.reverse * b ^ i) := by
  induction gs generalizing i with
  | nil => simp [sumPow, ofGroups]
  | cons g gs ih =>
    rw [List.map_cons, sumPow, hf g (by simp), ih (fun x hx => hf x (by simp [hx])), List.reverse_cons,
      ofGroups_append, ofGroups_cons]
    generalize ofGroups b gs.reverse = r
    simp [ofGroups, Nat.pow_succ, Nat.add_mul, Nat.mul_assoc, Nat.add_comm, Nat.mul_comm, Nat.mul_left_comm]

theorem hexd_fin : ∀ d : Fin 16, isHexDigit (Nat.digitChar d.val) = true ∧ hexVal (Nat.digitChar d.val) = d.val ∧
    Nat.digitChar d.val ≠ ':' ∧ Nat.digitChar d.val ≠ '.' ∧ Nat.digitChar d.val ≠ '/' := by decide +kernel
theorem isHex_digitChar (d : Nat) (h : d < 16) : isHexDigit (Nat.digitChar d) = true := (hexd_fin ⟨d, h⟩).1
theorem hexVal_digitChar (d : Nat) (h : d < 16) : hexVal (Nat.digitChar d) = d := (hexd_fin ⟨d, h⟩).2.1

theorem toHexRev_lt (n : Nat) (h : n < 16) : toHexRev n = [Nat.digitChar n] := by
  rw [toHexRev]; simp [h]
theorem toHexRev_ge (n : Nat) (h : ¬ n < 16) :
    toHexRev n = Nat.digitChar (n % 16) :: toHexRev (n / 16) := by
  rw [toHexRev]; simp [h]

theorem toHex_lt (n : Nat) (h : n < 16) : toHex n = [Nat.digitChar n] := by
  rw [toHex, toHexRev_lt n h]; rfl

theorem toHex_ge (n : Nat) (h : ¬ n < 16) : toHex n = toHex (n / 16) ++ [Nat.digitChar (n % 16)] := by
  rw [toHex, toHexRev_ge n h, List.reverse_cons]; rfl

theorem toHex_ne_nil (n : Nat) : toHex n ≠ [] := by
  by_cases h : n < 16
  · simp [toHex_lt n h]
  · simp [toHex_ge n h]

theorem ofHexAux_append (xs ys : Str) (acc : Nat) :
    ofHexAux (xs ++ ys) acc = (ofHexAux xs acc).bind fun a => ofHexAux ys a := by
  induction xs generalizing acc with
  | nil => rfl
  | cons c cs ih =>
    simp only [List.cons_append, ofHexAux]
    split
    · exact ih _
    · rfl

theorem ofHexAux_toHex (n : Nat) : ofHexAux (toHex n) 0 = some n := by
  induction n using Nat.strongRecOn with
  | _ n ih =>
    by_cases h : n < 16
    · simp [toHex_lt n h, ofHexAux, isHex_digitChar n h, hexVal_digitChar n h]
    · rw [toHex_ge n h, ofHexAux_append, ih (n / 16) (by omega)]
      simp only [Option.bind_some, ofHexAux, isHex_digitChar (n % 16) (by omega), hexVal_digitChar (n % 16) (by omega),
        if_true]
      exact congrArg some (by omega)

theorem ofHex_toHex (a : Nat) : ofHex (toHex a) = some a := by
  rw [ofHex, if_neg (toHex_ne_nil a), ofHexAux_toHex]

theorem toHex_eq_zero (a : Nat) (_ : a < 65536) : (toHex a == ['0']) = true → a = 0 := by
  intro he
  have := ofHex_toHex a
  rw [eq_of_beq he] at this
  exact (Option.some.inj this).symm

theorem toHex_chars (n : Nat) : ∀ c ∈ toHex n, ∃ d, d < 16 ∧ c = Nat.digitChar d := by
  induction n using Nat.strongRecOn with
  | _ n ih =>
    by_cases h : n < 16
    · rw [toHex_lt n h]; exact fun c hc => ⟨n, h, List.mem_singleton.mp hc⟩
    · rw [toHex_ge n h]
      intro c hc
      rcases List.mem_append.mp hc with hc | hc
      · exact ih (n / 16) (by omega) c hc
      · exact ⟨n % 16, by omega, List.mem_singleton.mp hc⟩

theorem length_toHex_le (k n : Nat) (h : n < 16 ^ (k + 1)) : (toHex n).length ≤ k + 1 := by
  induction k generalizing n with
  | zero => rw [toHex_lt n (by simpa using h)]; simp
  | succ k ih =>
    by_cases hn : n < 16
    · rw [toHex_lt n hn]; simp
    · have := ih (n / 16) (by rw [Nat.pow_succ] at h; omega)
      rw [toHex_ge n hn, List.length_append]; simp; omega

theorem toHex_props (a : Nat) (h : a < 65536) :
    toHex a ≠ [] ∧ (toHex a).length ≤ 4 ∧ (∀ c ∈ toHex a, isHexDigit c = true ∧ c ≠ ':' ∧ c ≠ '.' ∧ c ≠ '/') :=
  ⟨toHex_ne_nil a, length_toHex_le 3 a h, fun c hc => by
    obtain ⟨d, hd, rfl⟩ := toHex_chars a c hc
    exact ⟨(hexd_fin ⟨d, hd⟩).1, (hexd_fin ⟨d, hd⟩).2.2⟩⟩

theorem parseHextet_of_hex (s : Str) (hd : ∀ c ∈ s, isHexDigit c = true) (hl : s.length ≤ 4) :
    parseHextet s = ofHex s := by
  have : s.all isHexDigit = true := List.all_eq_true.mpr hd
  have hl : ¬ s.length > 4 := by omega
  simp only [parseHextet, this, Bool.not_true, Bool.false_eq_true, if_false, hl]

theorem parseHextet_toHex (a : Nat) (h : a < 65536) : parseHextet (toHex a) = some a := by
  have hp := toHex_props a h
  rw [parseHextet_of_hex _ (fun c hc => (hp.2.2 c hc).1) hp.2.1, ofHex_toHex a]

theorem ofHexAux_map (ds : List Nat) (h : ∀ d ∈ ds, d < 16) (acc : Nat) :
    ofHexAux (ds.map Nat.digitChar) acc = some (acc * 16 ^ ds.length + ofGroups 16 ds) := by
  induction ds generalizing acc with
  | nil => simp [ofHexAux, ofGroups]
  | cons d ds ih =>
    have hd := h d (by simp)
    rw [List.map_cons, ofHexAux, if_pos (isHex_digitChar d hd), hexVal_digitChar d hd,
      ih (fun x hx => h x (by simp [hx])), ofGroups_cons, List.length_cons, Nat.pow_succ', Nat.add_mul, Nat.mul_assoc,
      Nat.add_assoc]

theorem hex4_eq (h : Nat) : hex4 h = (groupsOf 16 4 h).map Nat.digitChar := by
  simp [hex4, groupsOf]

theorem hex4_ne_nil (g : Nat) : hex4 g ≠ [] := by simp [hex4]

theorem hex4_chars (h : Nat) : ∀ c ∈ hex4 h, isHexDigit c = true ∧ c ≠ ':' ∧ c ≠ '.' ∧ c ≠ '/' := by
  intro c hc
  rw [hex4_eq] at hc
  obtain ⟨d, hd, rfl⟩ := List.mem_map.mp hc
  have := hexd_fin ⟨d, groupsOf_lt (by decide) 4 h d hd⟩
  exact ⟨this.1, this.2.2⟩

theorem ofHex_hex4 (h : Nat) (hh : h < 65536) : ofHex (hex4 h) = some h := by
  rw [ofHex, if_neg (by simp [hex4]), hex4_eq, ofHexAux_map _ (groupsOf_lt (by decide) 4 h), ofGroups_groupsOf]
  exact congrArg some (by simpa using Nat.mod_eq_of_lt hh)

theorem parseHextet_hex4 (g : Nat) (h : g < 65536) : parseHextet (hex4 g) = some g := by
  rw [parseHextet_of_hex _ (fun c hc => (hex4_chars g c hc).1) (by simp [hex4]), ofHex_hex4 g h]

end Ccp.IPText
