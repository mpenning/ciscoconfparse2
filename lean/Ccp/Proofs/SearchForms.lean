import Ccp.Proofs.Search
import Ccp.Model.SearchForms
/-! C04, the argument forms of the searches (`Ccp.SearchForms`) -/
namespace Ccp.SearchForms
open Ccp.Tree Ccp.Search

-- the tests the argument handling makes on an argument are decided by `simp` once its spelling is known
attribute [simp] strArg patArg lineArg rxOk escOk wsOk

/-- F03: a line object equals `a` iff it has the number and the text of `a`, so at most line `a.num` does -/
theorem eqLines_eq (t : T) (a : Arg) :
    eqLines t a = if a.num < t.size ∧ t.texts.getD a.num [] = a.text then [a.num] else [] := by
  refine sorted_ext (List.Pairwise.filter _ List.pairwise_lt_range) (by split <;> simp) fun j => ?_
  simp only [eqLines, List.mem_filter, List.mem_range, Bool.and_eq_true, beq_iff_eq]
  split
  · next h => rw [List.mem_singleton]; exact ⟨fun ⟨_, e, _⟩ => e, fun e => by subst e; exact ⟨h.1, rfl, h.2⟩⟩
  · next h => exact ⟨fun ⟨h1, e, h2⟩ => absurd (e ▸ ⟨h1, h2⟩) h, nofun⟩

theorem mem_eqLines (t : T) (a : Arg) (i : Nat) :
    i ∈ eqLines t a ↔ i = a.num ∧ a.num < t.size ∧ t.texts.getD a.num [] = a.text := by
  rw [eqLines_eq]
  split
  · next h => rw [List.mem_singleton]; exact ⟨fun e => ⟨e, h⟩, fun e => e.1⟩
  · next h => exact ⟨nofun, fun e => absurd e.2 h⟩

theorem length_eqLines (t : T) (a : Arg) : (eqLines t a).length ≤ 1 := by
  rw [eqLines_eq]; split <;> simp

theorem mem_revIf (b : Bool) (l : List Nat) (i : Nat) : i ∈ revIf b l ↔ i ∈ l := by
  unfold revIf; cases b <;> simp

theorem length_revIf (b : Bool) (l : List Nat) : (revIf b l).length = l.length := by
  unfold revIf; cases b <;> simp

theorem findObjectsArg_str (t : T) (p : Row) (ws esc rev : Bool) {pend : Bool} (hp : pend = false) :
    findObjectsArg t (strArg p) ws esc rev pend = .ok (findObjects t p rev) := by
  simp [findObjectsArg, hp]

/-! ### the `search_safe` guard

Every search is a chain of `if … then .error …` checks with the guard `if pend then .error .notImplementedError` among
them, so while an insert is pending every search ends in some error: the checks before the guard refuse, and so does
the guard. -/

theorem ite_refused {ε α : Type} {c : Prop} [Decidable c] {a b : Except ε α}
    (ha : ∃ e, a = .error e) (hb : ∃ e, b = .error e) : ∃ e, (if c then a else b) = .error e := by
  split <;> assumption

theorem ne_ok_of_refused {ε α : Type} {r : Except ε α} (h : ∃ e, r = .error e) (l : α) : r ≠ .ok l := by
  obtain ⟨e, rfl⟩ := h; nofun

theorem findObjectsArg_pending (t : T) (a : Arg) (ws esc rev : Bool) {pend : Bool} (hp : pend = true) :
    ∃ e, findObjectsArg t a ws esc rev pend = .error e :=
  ite_refused ⟨_, rfl⟩ (ite_refused ⟨_, rfl⟩ ⟨_, if_pos hp⟩)

theorem findObjectsF_pending (t : T) (f : First) (o : Opts) (hp : o.pend = true) :
    ∃ e, findObjectsF t f o = .error e :=
  match f with
  | .one a => findObjectsArg_pending t a _ _ _ hp
  | .tuple _ | .list [] => ⟨_, rfl⟩
  | .list [a] => ite_refused (findObjectsArg_pending t a _ _ _ hp) ⟨_, rfl⟩
  | .list (_ :: _ :: _) => ite_refused ⟨_, rfl⟩ ⟨_, rfl⟩

theorem findParentObjects2F_pending (t : T) (p c : Arg) (o : Opts) (hp : o.pend = true) :
    ∃ e, findParentObjects2F t p c o = .error e :=
  ite_refused ⟨_, rfl⟩ ⟨_, if_pos hp⟩

theorem woChildCore_pending (t : T) (tup : Bool) (p c : Arg) (o : Opts) (hp : o.pend = true) :
    ∃ e, woChildCore t tup p c o = .error e :=
  ite_refused ⟨_, rfl⟩ ⟨_, if_pos hp⟩

theorem findParentObjectsWoChildF_pending (t : T) (f : First) (c : Arg) (p1 : Option Row) (o : Opts)
    (hp : o.pend = true) : ∃ e, findParentObjectsWoChildF t f c p1 o = .error e :=
  match f, p1 with
  | .one _, _ | .tuple _, _ => woChildCore_pending t _ _ _ o hp
  | .list [_, _], some _ => ite_refused (ite_refused ⟨_, rfl⟩ (woChildCore_pending t _ _ _ o hp)) ⟨_, rfl⟩
  | .list [_, _], none => ite_refused (ite_refused ⟨_, rfl⟩ ⟨_, rfl⟩) ⟨_, rfl⟩
  | .list [], _ | .list [_], _ | .list (_ :: _ :: _ :: _), _ => ⟨_, rfl⟩

theorem reSearchChildrenRootF_pending (t : T) (a : Arg) (o : Opts) (hp : o.pend = true) :
    ∃ e, reSearchChildrenRootF t a o = .error e := by
  obtain ⟨e, he⟩ := findObjectsArg_pending t a false false false hp
  exact ⟨e, by rw [reSearchChildrenRootF, he]⟩

end Ccp.SearchForms
