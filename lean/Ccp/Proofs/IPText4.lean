import Ccp.Proofs.IPNum
/-!
`IPv4Obj` (`Ccp.Model.IPText`): octets and dotted quads; masks and the `IPv?Network(text)` layer, which both address
families share; the object stored for `(ip, len)` and its derived values; the constructor on the four canonical text
forms (`V4.fromStr_plain`, `_prefix`, `_slashMask`, `_spaceMask`); conversely, what an accepted text looks like
(`V4.fromStr_inv`).
-/
namespace Ccp.IPText
open Ccp.Py

theorem parseOctet_toDec (a : Nat) (h : a ≤ 255) : parseOctet (toDec a) = some a := by
  have hl : ¬ (toDec a).length > 3 := by have := length_toDec_le 2 a (by omega); omega
  have hz : ¬ (toDec a ≠ ['0'] ∧ (toDec a).head? = some '0') := fun ⟨h1, h2⟩ => by
    rw [toDec_head_zero a h2] at h1; exact h1 (toDec_lt 0 (by decide))
  simp only [parseOctet, toDec_ne_nil, List.all_eq_true.mpr (toDec_digits a), hl, hz, ofDigits_toDec, if_false, Bool.not_true,
    Bool.false_eq_true, if_neg (show ¬ a > 255 by omega)]

theorem parseOctet_sound (s : Str) (v : Nat) (h : parseOctet s = some v) : s = toDec v ∧ v ≤ 255 := by
  simp only [parseOctet, Option.ite_none_left_eq_some] at h
  obtain ⟨-, hall, -, hz, h⟩ := h
  cases hn : ofDigits s with
  | none => rw [hn] at h; cases h
  | some n =>
    rw [hn] at h
    obtain ⟨h255, h⟩ := Option.ite_none_left_eq_some.mp h
    cases h
    exact ⟨(toDec_of_ofDigits s v (List.all_eq_true.mp (by simpa using hall)) hn fun h0 =>
      Decidable.byContradiction fun hne => hz ⟨hne, h0⟩).symm, by omega⟩

theorem toBytes4_lt (n : Nat) : ∀ b ∈ toBytes4 n, b ≤ 255 := fun b hb =>
  Nat.le_of_lt_succ (groupsOf_lt (by decide) 4 n b (toBytes4_eq n ▸ hb))

theorem fromBytes_toBytes4 (n : Nat) (h : n < 4294967296) : fromBytes (toBytes4 n) = n := by
  show ofGroups 256 (toBytes4 n) = n
  rw [toBytes4_eq, ofGroups_groupsOf]; exact Nat.mod_eq_of_lt h

theorem strV4_eq (n : Nat) : strV4 n =
    toDec (n / 16777216 % 256) ++ '.' :: (toDec (n / 65536 % 256) ++ '.' :: (toDec (n / 256 % 256) ++ '.' :: toDec (n % 256))) := by
  simp [strV4, toBytes4, join]

theorem strV4_chars (n : Nat) : ∀ c ∈ strV4 n, isDigit c = true ∨ c = '.' :=
  join_chars ['.'] _ (fun c => isDigit c = true ∨ c = '.') (fun c hc => Or.inr (List.mem_singleton.mp hc))
    fun w hw c hc => by
      obtain ⟨b, _, rfl⟩ := List.mem_map.mp hw
      exact Or.inl (toDec_digits b c hc)

theorem strV4_ne_nil (n : Nat) : strV4 n ≠ [] :=
  Py.join_ne_nil ['.'] _ (by simp [toBytes4]) fun w hw => by
    obtain ⟨b, _, rfl⟩ := List.mem_map.mp hw
    exact toDec_ne_nil b

theorem dot_mem_strV4 (n : Nat) : '.' ∈ strV4 n := by
  rw [strV4_eq]; simp

theorem splitOn_strV4 (n : Nat) : splitOn '.' (strV4 n) = (toBytes4 n).map toDec :=
  Py.splitOn_join '.' _ (by simp [toBytes4]) fun w hw => by
    obtain ⟨b, _, rfl⟩ := List.mem_map.mp hw
    exact not_mem_of_digits _ (toDec_digits b) '.' (by decide)

theorem stdV4Int_strV4 (n : Nat) (h : n < 4294967296) : stdV4Int (strV4 n) = some n := by
  rw [stdV4Int, if_neg (strV4_ne_nil n), splitOn_strV4]
  simp (disch := omega) only [toBytes4, List.map, parseOctet_toDec]
  exact congrArg some (fromBytes_toBytes4 n h)

theorem strV4_ne (n : Nat) (x : Char) (hx : isDigit x = false) (hd : x ≠ '.') : ∀ c ∈ strV4 n, c ≠ x := by
  intro c hc
  rcases strV4_chars n c hc with h | h
  · exact Py.ne_of_isDigit c x h hx
  · rw [h]; exact fun e => hd e.symm

theorem isSpace_dot : isSpace '.' = false := by decide

theorem strV4_noSpace (n : Nat) : ∀ c ∈ strV4 n, isSpace c = false := by
  intro c hc
  rcases strV4_chars n c hc with h | h
  · exact isSpace_of_isDigit c h
  · rw [h]; exact isSpace_dot

theorem stdV4Addr_strV4 (n : Nat) (h : n < 4294967296) : stdV4Addr (strV4 n) = .ok n := by
  rw [stdV4Addr, contains_false _ '/' (strV4_ne n '/' (by decide) (by decide)), stdV4Int_strV4 n h]; rfl

/-- `as_decimal`-style evaluation of the reversed octet texts -/
theorem sumPow_strV4 (n : Nat) (h : n < 4294967296) :
    sumPow 256 pyNat 0 (splitOn '.' (strV4 n)).reverse = some n := by
  rw [splitOn_strV4, ← List.map_reverse, sumPow_map 256 pyNat toDec _ (fun g _ => pyNat_toDec g), List.reverse_reverse]
  exact congrArg some (by simpa [fromBytes, ofGroups] using fromBytes_toBytes4 n h)

theorem stdV4Int_sound (m : Str) (v : Nat) (h : stdV4Int m = some v) : m = strV4 v ∧ v < 4294967296 := by
  have hj := (join_splitOn '.' m).1
  unfold stdV4Int at h
  split at h; · cases h
  split at h
  · next a b c d heq =>
    split at h
    · next v1 v2 v3 v4 h1 h2 h3 h4 =>
      obtain ⟨rfl, l1⟩ := parseOctet_sound a v1 h1
      obtain ⟨rfl, l2⟩ := parseOctet_sound b v2 h2
      obtain ⟨rfl, l3⟩ := parseOctet_sound c v3 h3
      obtain ⟨rfl, l4⟩ := parseOctet_sound d v4 h4
      cases h
      have hlt : ∀ g ∈ [v1, v2, v3, v4], g < 256 := by
        intro g hg
        simp only [List.mem_cons, List.not_mem_nil, or_false] at hg
        rcases hg with rfl | rfl | rfl | rfl <;> omega
      refine ⟨?_, Nat.lt_of_lt_of_le (ofGroups_lt [v1, v2, v3, v4] hlt) (show 256 ^ 4 ≤ 4294967296 by decide)⟩
      rw [← hj, heq, strV4, toBytes4_eq]
      exact congrArg (fun l => join ['.'] (l.map toDec)) (groupsOf_ofGroups [v1, v2, v3, v4] hlt).symm
    · cases h
  · cases h

theorem mask32 : ∀ len, len ≤ 32 → ipIntFromPrefix 32 len = 2 ^ 32 - 2 ^ (32 - len) ∧
    hostmaskInt 32 len = 2 ^ (32 - len) - 1 := by decide +kernel
theorem mask128 : ∀ len, len ≤ 128 → ipIntFromPrefix 128 len = 2 ^ 128 - 2 ^ (128 - len) ∧
    hostmaskInt 128 len = 2 ^ (128 - len) - 1 := by decide +kernel

theorem and_mask_idem (ip m : Nat) : (ip &&& m) &&& m = ip &&& m := by
  rw [Nat.and_assoc, Nat.and_self]

theorem and_lt (ip m w : Nat) (h : ip < 2 ^ w) : ip &&& m < 2 ^ w :=
  Nat.lt_of_le_of_lt Nat.and_le_left h

theorem and_mask_eq (w k ip : Nat) (hk : k ≤ w) (h : ip < 2 ^ w) :
    ip &&& (2 ^ w - 2 ^ k) = 2 ^ k * (ip / 2 ^ k) := by
  have e : 2 ^ w - 2 ^ k = 2 ^ k * (2 ^ (w - k) - 1) := by
    rw [Nat.mul_sub, ← Nat.pow_add, Nat.mul_one]; congr 2; omega
  apply Nat.eq_of_testBit_eq
  intro i
  rw [Nat.testBit_and, e, Nat.testBit_two_pow_mul, Nat.testBit_two_pow_mul, Nat.testBit_two_pow_sub_one,
    Nat.testBit_div_two_pow]
  by_cases hi : i ≥ k
  · have : i - k + k = i := by omega
    simp only [hi, decide_true, Bool.true_and, this]
    by_cases hw : i < w
    · have : i - k < w - k := by omega
      simp [this]
    · have : ip < 2 ^ i := Nat.lt_of_lt_of_le h (Nat.pow_le_pow_right (by omega) (by omega))
      simp [Nat.testBit_lt_two_pow this]
  · simp [hi]

theorem net_add_host (w k ip : Nat) (hk : k ≤ w) (h : ip < 2 ^ w) :
    (ip &&& (2 ^ w - 2 ^ k)) + (2 ^ k - 1) = (ip &&& (2 ^ w - 2 ^ k)) ||| (2 ^ k - 1) := by
  rw [and_mask_eq w k ip hk h]
  exact Nat.two_pow_add_eq_or_of_lt (by have := Nat.two_pow_pos k; omega) _

theorem net_eq_sub_mod (w k ip : Nat) (hk : k ≤ w) (h : ip < 2 ^ w) :
    ip &&& (2 ^ w - 2 ^ k) = ip - ip % 2 ^ k := by
  rw [and_mask_eq w k ip hk h]
  have := Nat.div_add_mod ip (2 ^ k)
  omega

theorem finishNet_false (w packed len : Nat) :
    finishNet w false packed len = .ok (packed &&& ipIntFromPrefix w len, len) := by
  unfold finishNet
  by_cases h : packed &&& ipIntFromPrefix w len = packed <;> simp [h]

theorem finishNet_true (w packed len : Nat) (h : packed &&& ipIntFromPrefix w len = packed) :
    finishNet w true packed len = .ok (packed, len) := by
  unfold finishNet; simp [h]

theorem prefixFromPrefixString_eq_some (w : Nat) (s : Str) (n : Nat) :
    prefixFromPrefixString w s = some n ↔
      s ≠ [] ∧ (∀ c ∈ s, isDigit c = true) ∧ ofDigits s = some n ∧ n ≤ w := by
  unfold prefixFromPrefixString
  by_cases h : s ≠ [] ∧ s.all isDigit = true
  · have hd := List.all_eq_true.mp h.2
    rw [if_pos h]
    cases ofDigits s with
    | none => simp
    | some v =>
      by_cases hv : v ≤ w
      · simp only [if_pos hv, Option.some.injEq]
        exact ⟨fun e => ⟨h.1, hd, e, e ▸ hv⟩, fun e => e.2.2.1⟩
      · simp only [if_neg hv]
        exact ⟨nofun, fun e => absurd (Option.some.inj e.2.2.1 ▸ e.2.2.2) hv⟩
  · rw [if_neg h, List.all_eq_true] at *
    exact ⟨nofun, fun e => absurd ⟨e.1, e.2.1⟩ h⟩

theorem prefixString_toDec (w len : Nat) (h : len ≤ w) : prefixFromPrefixString w (toDec len) = some len :=
  (prefixFromPrefixString_eq_some w _ len).mpr ⟨toDec_ne_nil len, toDec_digits len, ofDigits_toDec len, h⟩

theorem prefixString_of_dot (w : Nat) (s : Str) (h : '.' ∈ s) : prefixFromPrefixString w s = none := by
  cases e : prefixFromPrefixString w s with
  | none => rfl
  | some n => exact absurd (((prefixFromPrefixString_eq_some w s n).mp e).2.1 '.' h) (by decide)

/-- the standard library reads the mask value `m` as `/len` (netmask first, else hostmask) -/
def ReadsAs (m len : Nat) : Prop :=
  prefixFromIpInt 32 m = some len ∨
  (prefixFromIpInt 32 m = none ∧ prefixFromIpInt 32 (m ^^^ allOnes 32) = some len)

theorem readsAs_netmask : ∀ len, len ≤ 32 → ReadsAs (2 ^ 32 - 2 ^ (32 - len)) len := by
  unfold ReadsAs; decide +kernel
theorem readsAs_hostmask : ∀ len, len ≤ 32 → 0 < len → len < 32 → ReadsAs (2 ^ (32 - len) - 1) len := by
  unfold ReadsAs; decide +kernel

theorem prefixFromIpString_eq_some (s : Str) (len : Nat) :
    prefixFromIpString s = some len ↔ ∃ mv, stdV4Int s = some mv ∧ ReadsAs mv len := by
  unfold prefixFromIpString ReadsAs
  cases stdV4Int s with
  | none => simp
  | some mv => cases h : prefixFromIpInt 32 mv <;> simp [h]

theorem makeNetmask4_eq_ok (s : Str) (len : Nat) :
    makeNetmask4 s = .ok len ↔ prefixFromPrefixString 32 s = some len ∨
      (prefixFromPrefixString 32 s = none ∧ prefixFromIpString s = some len) := by
  unfold makeNetmask4
  cases prefixFromPrefixString 32 s with
  | some p => simp
  | none => cases prefixFromIpString s <;> simp

theorem makeNetmask6_eq_ok (s : Str) (len : Nat) :
    makeNetmask6 s = .ok len ↔ prefixFromPrefixString 128 s = some len := by
  unfold makeNetmask6
  cases prefixFromPrefixString 128 s <;> simp

theorem makeNetmask4_digits (p : Str) (len : Nat) (hne : p ≠ []) (hp : ∀ c ∈ p, isDigit c = true)
    (hv : ofDigits p = some len) (hl : len ≤ 32) : makeNetmask4 p = .ok len :=
  (makeNetmask4_eq_ok p len).mpr (Or.inl ((prefixFromPrefixString_eq_some 32 p len).mpr ⟨hne, hp, hv, hl⟩))

theorem makeNetmask6_digits (m : Str) (len : Nat) (hne : m ≠ []) (hd : ∀ c ∈ m, isDigit c = true)
    (hv : ofDigits m = some len) (hl : len ≤ 128) : makeNetmask6 m = .ok len :=
  (makeNetmask6_eq_ok m len).mpr ((prefixFromPrefixString_eq_some 128 m len).mpr ⟨hne, hd, hv, hl⟩)

theorem makeNetmask6_sound (m : Str) (len : Nat) (h : makeNetmask6 m = .ok len) :
    m ≠ [] ∧ (∀ c ∈ m, isDigit c = true) ∧ ofDigits m = some len ∧ len ≤ 128 :=
  (prefixFromPrefixString_eq_some 128 m len).mp ((makeNetmask6_eq_ok m len).mp h)

theorem makeNetmask4_strV4 (m len : Nat) (hm : m < 4294967296) (h : ReadsAs m len) :
    makeNetmask4 (strV4 m) = .ok len :=
  (makeNetmask4_eq_ok _ len).mpr (Or.inr ⟨prefixString_of_dot 32 _ (dot_mem_strV4 m),
    (prefixFromIpString_eq_some _ len).mpr ⟨m, stdV4Int_strV4 m hm, h⟩⟩)

theorem ctz_le (b n : Nat) : ctz b n ≤ b := by
  induction b generalizing n with
  | zero => simp [ctz]
  | succ k ih =>
    unfold ctz
    split
    · have := ih (n / 2); omega
    · omega

theorem ctz_dvd (b n : Nat) : n % 2 ^ ctz b n = 0 := by
  induction b generalizing n with
  | zero => simp [ctz, Nat.mod_one]
  | succ k ih =>
    unfold ctz
    split
    · rename_i he
      have := ih (n / 2)
      rw [Nat.pow_succ', Nat.mod_mul, this, he]
    · simp [Nat.mod_one]

theorem prefixFromIpInt_sound (m len : Nat) (h : prefixFromIpInt 32 m = some len) :
    len ≤ 32 ∧ m = 2 ^ 32 - 2 ^ (32 - len) := by
  unfold prefixFromIpInt at h
  simp only at h
  split at h
  · rename_i heq
    cases h
    have hle := ctz_le 32 m
    have hd := ctz_dvd 32 m
    refine ⟨by omega, ?_⟩
    generalize ctz 32 m = t at *
    rw [Nat.shiftRight_eq_div_pow] at heq
    have hm : m = 2 ^ t * (m / 2 ^ t) := by
      have := Nat.div_add_mod m (2 ^ t); omega
    rw [heq] at hm
    have e : 32 - (32 - t) = t := by omega
    rw [e, hm, Nat.mul_sub, Nat.mul_one, ← Nat.pow_add]
    congr 2; omega
  · cases h

theorem xor_allOnes_tables : ∀ len, len ≤ 32 →
    (2 ^ 32 - 2 ^ (32 - len)) ^^^ allOnes 32 = 2 ^ (32 - len) - 1 ∧
    (len = 0 → prefixFromIpInt 32 (2 ^ (32 - len) - 1) ≠ none) ∧
    (len = 32 → prefixFromIpInt 32 (2 ^ (32 - len) - 1) ≠ none) := by decide +kernel

theorem readsAs_sound (mv len : Nat) (h : ReadsAs mv len) :
    len ≤ 32 ∧ (mv = 2 ^ 32 - 2 ^ (32 - len) ∨ (0 < len ∧ len < 32 ∧ mv = 2 ^ (32 - len) - 1)) := by
  rcases h with h | ⟨h0, h⟩
  · have := prefixFromIpInt_sound mv len h
    exact ⟨this.1, Or.inl this.2⟩
  · have hs := prefixFromIpInt_sound _ len h
    have ht := xor_allOnes_tables len hs.1
    have hmv : mv = 2 ^ (32 - len) - 1 := by
      have : mv = (mv ^^^ allOnes 32) ^^^ allOnes 32 := by
        rw [Nat.xor_assoc, Nat.xor_self, Nat.xor_zero]
      rw [this, hs.2, ht.1]
    refine ⟨hs.1, Or.inr ⟨?_, ?_, hmv⟩⟩
    · rcases Nat.eq_zero_or_pos len with e | e
      · exact absurd (hmv ▸ h0) (ht.2.1 e)
      · exact e
    · rcases Nat.lt_or_ge len 32 with e | e
      · exact e
      · exact absurd (hmv ▸ h0) (ht.2.2 (by omega))

theorem makeNetmask4_le (s : Str) (len : Nat) (h : makeNetmask4 s = .ok len) : len ≤ 32 := by
  rcases (makeNetmask4_eq_ok s len).mp h with h | ⟨-, h⟩
  · exact ((prefixFromPrefixString_eq_some 32 s len).mp h).2.2.2
  · obtain ⟨mv, -, hr⟩ := (prefixFromIpString_eq_some s len).mp h
    exact (readsAs_sound mv len hr).1

theorem stdV4Net_slash (strict : Bool) (a m : Str) (ha : ∀ c ∈ a, c ≠ '/') (hm : ∀ c ∈ m, c ≠ '/') :
    stdV4Net strict (a ++ '/' :: m) = (do
      let packed ← stdV4Addr a
      let len ← makeNetmask4 m
      finishNet 32 strict packed len) := by
  unfold stdV4Net splitOptionalNetmask
  rw [splitOn_slash a m ha hm]; rfl

theorem stdV6Net_slash (strict : Bool) (a m : Str) (ha : ∀ c ∈ a, c ≠ '/') (hm : ∀ c ∈ m, c ≠ '/') :
    stdV6Net strict (a ++ '/' :: m) = (do
      let packed ← stdV6Addr a
      let len ← makeNetmask6 m
      finishNet 128 strict packed len) := by
  unfold stdV6Net splitOptionalNetmask
  rw [splitOn_slash a m ha hm]; rfl

theorem stdV4Net_of (ip len : Nat) (m : Str) (h : ip < 4294967296) (hm : ∀ c ∈ m, c ≠ '/')
    (hmk : makeNetmask4 m = .ok len) :
    stdV4Net false (strV4 ip ++ '/' :: m) = .ok (ip &&& ipIntFromPrefix 32 len, len) := by
  rw [stdV4Net_slash _ _ _ (strV4_ne ip '/' (by decide) (by decide)) hm, stdV4Addr_strV4 ip h, hmk]
  exact finishNet_false 32 ip len

theorem stdV4Net_cidr (ip len : Nat) (h : ip < 4294967296) (hl : len ≤ 32) :
    stdV4Net false (strV4 ip ++ '/' :: toDec len) = .ok (ip &&& ipIntFromPrefix 32 len, len) :=
  stdV4Net_of ip len _ h (toDec_ne len '/' (by decide)) (by rw [makeNetmask4, prefixString_toDec 32 len hl])

/-- what every constructor stores for the interface `(ip, len)` -/
def mk4 (ip len : Nat) : Obj := ⟨ip, ip &&& ipIntFromPrefix 32 len, len⟩

theorem mk4_net_lt (ip len : Nat) (hip : ip < 4294967296) : (mk4 ip len).net < 4294967296 :=
  and_lt ip _ 32 hip

section V4
variable (ip len : Nat) (hip : ip < 4294967296) (hlen : len ≤ 32)
include hip hlen

theorem V4.network_mk4 : V4.network (mk4 ip len) = .ok ((mk4 ip len).net, len) := by
  unfold V4.network V4.netObjStr mk4
  simp only
  rw [stdV4Net_cidr _ len (and_lt ip _ 32 hip) hlen, and_mask_idem]

theorem V4.asCidrNet_mk4 :
    V4.asCidrNet (mk4 ip len) = .ok (strV4 (mk4 ip len).net ++ '/' :: toDec len) := by
  unfold V4.asCidrNet
  rw [V4.network_mk4 ip len hip hlen]; rfl

omit hlen in
theorem V4.asDecimal_mk4 : V4.asDecimal (mk4 ip len) = .ok ip := by
  unfold V4.asDecimal V4.ipStr mk4
  simp only [sumPow_strV4 ip hip]; rfl

theorem V4.asDecimalNetwork_mk4 : V4.asDecimalNetwork (mk4 ip len) = .ok (mk4 ip len).net := by
  unfold V4.asDecimalNetwork
  rw [V4.asCidrNet_mk4 ip len hip hlen]
  simp only [bind, Except.bind]
  rw [splitOn_slash _ _ (strV4_ne _ '/' (by decide) (by decide)) (toDec_ne len '/' (by decide))]
  simp only [List.headD]
  rw [sumPow_strV4 (mk4 ip len).net (mk4_net_lt ip len hip)]; rfl

theorem V4.copy_mk4 : V4.copy (mk4 ip len) = .ok (mk4 ip len) := by
  unfold V4.copy
  rw [V4.asCidrNet_mk4 ip len hip hlen]
  simp only [bind, Except.bind, V4.ipStr]
  have : (mk4 ip len).ip = ip := rfl
  rw [this, stdV4Addr_strV4 ip hip]
  simp only
  rw [stdV4Net_cidr (mk4 ip len).net len (mk4_net_lt ip len hip) hlen]
  simp only [pure, Except.pure, mk4, and_mask_idem]

end V4

theorem V4.fromInt_ok (n : Nat) (h : n < 4294967296) : V4.fromInt (Int.ofNat n) = .ok (mk4 n 32) := by
  unfold V4.fromInt
  have : n ≤ Gen.ipv4MaxInt := by unfold Gen.ipv4MaxInt; omega
  simp only [this, if_true, finishNet_false]
  rfl

theorem isReDigit_of_isDigit (c : Char) (h : isDigit c = true) : isReDigit c = true :=
  List.any_eq_true.mpr ⟨(48, 57), by decide, by simpa [isDigit] using h⟩

theorem reDigit_ws : ∀ n ∈ Gen.whitespace, Gen.reDigitRanges.any (fun r => r.1 ≤ n && n ≤ r.2) = false := by
  decide +kernel

theorem isReDigit_of_isSpace (c : Char) (h : isSpace c = true) : isReDigit c = false :=
  reDigit_ws c.toNat (List.contains_iff_mem.mp h)

theorem isSpace_of_isReDigit (c : Char) (h : isReDigit c = true) : isSpace c = false := by
  cases hs : isSpace c with
  | false => rfl
  | true => rw [isReDigit_of_isSpace c hs] at h; cases h

theorem digitsDot_toDec (a : Nat) (r : Str) : digitsDot (toDec a ++ '.' :: r) = some (toDec a, r) := by
  have := takeWhile_append_stop isReDigit (toDec a) ('.' :: r)
    (fun c hc => isReDigit_of_isDigit c (toDec_digits a c hc)) (fun c hc => by cases hc; decide)
  simp only [digitsDot, this.1, this.2, toDec_ne_nil, if_false]

/-- `rest` does not continue the last run of digits -/
def NoDigitHead (rest : Str) : Prop := ∀ c, rest.head? = some c → isReDigit c = false

theorem noDigitHead_slash (r : Str) : NoDigitHead ('/' :: r) := by
  intro c hc; cases hc; decide

theorem quad_strV4 (n : Nat) (rest : Str) (hr : NoDigitHead rest) :
    quad (strV4 n ++ rest) = some (strV4 n, rest) := by
  have := takeWhile_append_stop isReDigit (toDec (n % 256)) rest
    (fun c hc => isReDigit_of_isDigit c (toDec_digits _ c hc)) hr
  rw [strV4_eq]
  simp only [quad, List.append_assoc, List.cons_append, digitsDot_toDec, this.1, this.2, toDec_ne_nil, if_false]

theorem quad_strV4_nil (n : Nat) : quad (strV4 n) = some (strV4 n, []) := by
  simpa using quad_strV4 n [] nofun

theorem fullQuad_strV4 (n : Nat) : fullQuad (strV4 n) = true := by
  rw [fullQuad, quad_strV4_nil]

theorem searchQuad_strV4 (n : Nat) : searchQuad (strV4 n) = true := by
  cases h : strV4 n with
  | nil => exact absurd h (strV4_ne_nil n)
  | cons c cs => rw [searchQuad, ← h, quad_strV4_nil]; rfl

theorem quad_digits (p : Str) (hp : ∀ c ∈ p, isDigit c = true) : quad p = none := by
  have := takeWhile_append_stop isReDigit p [] (fun c hc => isReDigit_of_isDigit c (hp c hc)) nofun
  rw [List.append_nil] at this
  have hd : digitsDot p = none := by
    simp only [digitsDot, this.1, this.2]
    split <;> rfl
  rw [quad, hd]

theorem fullDigits_iff (p : Str) : fullDigits p = true ↔ p ≠ [] ∧ ∀ c ∈ p, isReDigit c = true := by
  simp [fullDigits]

theorem fullDigits_ne {p : Str} (h : fullDigits p = true) (x : Char) (hx : isReDigit x = false) : ∀ c ∈ p, c ≠ x :=
  fun c hc e => by rw [← e, ((fullDigits_iff p).mp h).2 c hc] at hx; cases hx

theorem fullDigits_digits (p : Str) (hne : p ≠ []) (hp : ∀ c ∈ p, isDigit c = true) : fullDigits p = true :=
  (fullDigits_iff p).mpr ⟨hne, fun c hc => isReDigit_of_isDigit c (hp c hc)⟩

/-- the rest of `IPv4Obj.__init__` once the regex groups are fixed up: `addr` is the address text,
`mask` the netmask or prefix-length text -/
def V4.finish (addr mask : Str) : Except Err Obj :=
  if searchQuad addr then do
    let ip ← stdV4Addr addr
    let n0 ← stdV4Net false (addr ++ '/' :: mask)
    let n ← stdV4Net false (strV4 ip ++ '/' :: toDec n0.2)
    pure ⟨ip, n.1, n.2⟩
  else .error .addressValueError

theorem fullDigits_strip_nil : fullDigits (strip []) = false := by decide
theorem fullQuad_strip_nil : fullQuad (strip []) = false := by decide

theorem V4.fromStr_nomask {input a : Str} (h : (matchV4 (strip input)).getD {} = { nomask := a }) :
    V4.fromStr input = V4.finish a "32".toList := by
  have h32 : strip "32".toList = "32".toList := by decide
  have hf : fullDigits "32".toList = true := by decide
  unfold V4.fromStr
  rw [h]
  simp only [and_self, if_true, h32, hf, fullQuad_strip_nil, Bool.not_true, Bool.false_eq_true, if_false,
    Bool.not_false, ne_eq, not_true_eq_false, false_and, List.nil_append, List.append_nil]
  rfl

theorem V4.fromStr_masklen {input a p : Str}
    (h : (matchV4 (strip input)).getD {} = { addrPrefixlen := a, masklen := p })
    (hp : fullDigits p = true) : V4.fromStr input = V4.finish a p := by
  have hp' := (fullDigits_iff p).mp hp
  have hsp : strip p = p := strip_noSpace p fun c hc => isSpace_of_isReDigit c (hp'.2 c hc)
  unfold V4.fromStr
  rw [h]
  simp only [hp'.1, and_false, if_false, hsp, hp, fullQuad_strip_nil, Bool.not_true, Bool.false_eq_true,
    Bool.not_false, if_true, ne_eq, not_true_eq_false, false_and, List.nil_append, List.append_nil]
  rfl

theorem V4.fromStr_netmask {input a m : Str}
    (h : (matchV4 (strip input)).getD {} = { addrNetmask := a, netmask := m }) (hm : m ≠ []) (hs : strip m = m) :
    V4.fromStr input = V4.finish a (if fullQuad m then m else []) := by
  unfold V4.fromStr
  rw [h]
  simp only [hm, false_and, if_false, fullDigits_strip_nil, Bool.not_false, if_true, hs, ne_eq,
    not_true_eq_false, and_false, List.nil_append, List.append_nil]
  cases fullQuad m <;> rfl

theorem V4.finish_strV4 (ip len : Nat) (m : Str) (h : ip < 4294967296) (hl : len ≤ 32)
    (hm : ∀ c ∈ m, c ≠ '/') (hmk : makeNetmask4 m = .ok len) : V4.finish (strV4 ip) m = .ok (mk4 ip len) := by
  simp only [V4.finish, searchQuad_strV4, if_true, bind, Except.bind, stdV4Addr_strV4 ip h,
    stdV4Net_of ip len m h hm hmk, stdV4Net_cidr ip len h hl]
  rfl

theorem V4.fromStr_plain (input : Str) (ip : Nat) (h : ip < 4294967296) (hs : strip input = strV4 ip) :
    V4.fromStr input = .ok (mk4 ip 32) := by
  rw [V4.fromStr_nomask (a := strV4 ip) (by rw [hs, matchV4, quad_strV4_nil]; rfl)]
  exact V4.finish_strV4 ip 32 _ h (by omega) (by decide) (by rfl)

theorem V4.fromStr_prefix (input : Str) (ip len : Nat) (p : Str) (h : ip < 4294967296) (hl : len ≤ 32)
    (hne : p ≠ []) (hp : ∀ c ∈ p, isDigit c = true) (hv : ofDigits p = some len)
    (hs : strip input = strV4 ip ++ '/' :: p) :
    V4.fromStr input = .ok (mk4 ip len) := by
  have hf := fullDigits_digits p hne hp
  rw [V4.fromStr_masklen (a := strV4 ip) (p := p) (by
    rw [hs, matchV4, quad_strV4 _ _ (noDigitHead_slash p)]
    simp only [if_true, quad_digits p hp, hf]; rfl) hf]
  exact V4.finish_strV4 ip len p h hl (fun c hc => Py.ne_of_isDigit c '/' (hp c hc) (by decide))
    (makeNetmask4_digits p len hne hp hv hl)

theorem V4.fromStr_masks (input : Str) (ip len m : Nat) (h : ip < 4294967296) (hl : len ≤ 32)
    (hm : m < 4294967296) (hr : ReadsAs m len)
    (hmt : matchV4 (strip input) = some { addrNetmask := strV4 ip, netmask := strV4 m }) :
    V4.fromStr input = .ok (mk4 ip len) := by
  rw [V4.fromStr_netmask (by rw [hmt]; rfl) (strV4_ne_nil m) (strip_noSpace _ (strV4_noSpace m)), fullQuad_strV4, if_pos rfl]
  exact V4.finish_strV4 ip len _ h hl (strV4_ne m '/' (by decide) (by decide)) (makeNetmask4_strV4 m len hm hr)

theorem V4.fromStr_slashMask (input : Str) (ip len m : Nat) (h : ip < 4294967296) (hl : len ≤ 32)
    (hm : m < 4294967296) (hr : ReadsAs m len) (hs : strip input = strV4 ip ++ '/' :: strV4 m) :
    V4.fromStr input = .ok (mk4 ip len) :=
  V4.fromStr_masks input ip len m h hl hm hr (by
    rw [hs, matchV4, quad_strV4 _ _ (noDigitHead_slash _)]
    simp only [if_true, quad_strV4_nil])

theorem V4.fromStr_spaceMask (input : Str) (ip len m : Nat) (ws : Str) (h : ip < 4294967296) (hl : len ≤ 32)
    (hm : m < 4294967296) (hr : ReadsAs m len) (hws : ws ≠ []) (hsp : ∀ c ∈ ws, isSpace c = true)
    (hs : strip input = strV4 ip ++ ws ++ strV4 m) :
    V4.fromStr input = .ok (mk4 ip len) := by
  refine V4.fromStr_masks input ip len m h hl hm hr ?_
  cases ws with
  | nil => exact absurd rfl hws
  | cons w ws' =>
    have hw : isSpace w = true := hsp w (by simp)
    have hne : w ≠ '/' := by rintro rfl; revert hw; decide
    have hdw : (ws' ++ strV4 m).dropWhile isSpace = strV4 m :=
      (takeWhile_append_stop isSpace ws' (strV4 m) (fun c hc => hsp c (by simp [hc]))
        (fun c hc => strV4_noSpace m c (List.mem_of_mem_head? hc))).2
    rw [hs, matchV4, List.append_assoc, quad_strV4 _ _ (fun c hc => by cases hc; exact isReDigit_of_isSpace w hw)]
    simp only [List.cons_append, hne, if_false, hw, if_true, hdw, quad_strV4_nil]

theorem digitsDot_sound (s ds r : Str) (h : digitsDot s = some (ds, r)) :
    s = ds ++ '.' :: r ∧ ∀ c ∈ ds, isReDigit c = true := by
  have e := List.takeWhile_append_dropWhile (p := isReDigit) (l := s)
  simp only [digitsDot, Option.ite_none_left_eq_some] at h
  split at h
  · next r' heq =>
    obtain ⟨rfl, rfl⟩ := Prod.mk.inj (Option.some.inj h.2)
    exact ⟨by rw [heq] at e; exact e.symm, mem_takeWhile_imp isReDigit s⟩
  · cases h.2

theorem quad_sound (s m r : Str) (h : quad s = some (m, r)) :
    s = m ++ r ∧ (∀ c ∈ m, isReDigit c = true ∨ c = '.') ∧ '.' ∈ m := by
  unfold quad at h
  split at h; · cases h
  next a r1 h1 =>
  split at h; · cases h
  next b r2 h2 =>
  split at h; · cases h
  next c r3 h3 =>
  obtain ⟨-, h⟩ := Option.ite_none_left_eq_some.mp h
  obtain ⟨rfl, rfl⟩ := Prod.mk.inj (Option.some.inj h)
  obtain ⟨rfl, ha⟩ := digitsDot_sound _ _ _ h1
  obtain ⟨rfl, hb⟩ := digitsDot_sound _ _ _ h2
  obtain ⟨rfl, hc⟩ := digitsDot_sound _ _ _ h3
  refine ⟨?_, fun x hx => ?_, by simp⟩
  · conv => lhs; rw [← List.takeWhile_append_dropWhile (p := isReDigit) (l := r3)]
    simp
  · simp only [List.mem_append, List.mem_cons, or_assoc] at hx
    rcases hx with hx | hx | hx | hx | hx | hx | hx
    · exact Or.inl (ha x hx)
    · exact Or.inr hx
    · exact Or.inl (hb x hx)
    · exact Or.inr hx
    · exact Or.inl (hc x hx)
    · exact Or.inr hx
    · exact Or.inl (mem_takeWhile_imp isReDigit r3 x hx)

def QuadChars (m : Str) : Prop := (∀ c ∈ m, isReDigit c = true ∨ c = '.') ∧ '.' ∈ m

theorem QuadChars.ne {m : Str} (h : QuadChars m) (x : Char) (hx : isReDigit x = false) (hd : x ≠ '.') :
    ∀ c ∈ m, c ≠ x := by
  intro c hc
  rcases h.1 c hc with h1 | h1
  · rintro rfl; rw [h1] at hx; cases hx
  · rw [h1]; exact fun e => hd e.symm

theorem QuadChars.noSpace {m : Str} (h : QuadChars m) : ∀ c ∈ m, isSpace c = false := by
  intro c hc
  rcases h.1 c hc with h1 | h1
  · exact isSpace_of_isReDigit c h1
  · rw [h1]; exact isSpace_dot

/-- what a successful match of the IPv4 regex looks like -/
inductive V4Shape (s : Str) (g : V4Groups) : Prop
  | plain (a : Str) (hs : s = a) (hg : g = { nomask := a })
  | pfx (a p : Str) (hp : fullDigits p = true) (hs : s = a ++ '/' :: p)
      (hg : g = { addrPrefixlen := a, masklen := p })
  | mask (a sep m : Str) (hm : QuadChars m) (hq : fullQuad m = true)
      (hsep : sep = ['/'] ∨ (sep ≠ [] ∧ ∀ c ∈ sep, isSpace c = true)) (hs : s = a ++ sep ++ m)
      (hg : g = { addrNetmask := a, netmask := m })

theorem fullQuad_of_quad {r m : Str} (h : quad r = some (m, [])) : QuadChars m ∧ fullQuad m = true ∧ r = m := by
  obtain ⟨e, hc⟩ := quad_sound r m [] h
  rw [List.append_nil] at e
  subst e
  exact ⟨hc, by rw [fullQuad, h], rfl⟩

theorem matchV4_sound (s : Str) (g : V4Groups) (h : matchV4 s = some g) : V4Shape s g := by
  unfold matchV4 at h
  split at h; · cases h
  next a rest hq =>
  obtain ⟨rfl, -⟩ := quad_sound s a rest hq
  split at h
  · exact .plain a (by simp) (Option.some.inj h).symm
  next c r =>
  split at h
  · next hc =>
    subst hc
    split at h
    · next m hq2 =>
      obtain ⟨hm, hf, rfl⟩ := fullQuad_of_quad hq2
      exact .mask a ['/'] r hm hf (Or.inl rfl) (by simp) (Option.some.inj h).symm
    · split at h
      · next hf => exact .pfx a r hf rfl (Option.some.inj h).symm
      · cases h
  · split at h
    · next hsp =>
      split at h
      · next m hq2 =>
        obtain ⟨hm, hf, e⟩ := fullQuad_of_quad hq2
        refine .mask a (c :: r.takeWhile isSpace) m hm hf (Or.inr ⟨by simp, fun x hx => ?_⟩) ?_ (Option.some.inj h).symm
        · rcases List.mem_cons.mp hx with rfl | hx
          · exact hsp
          · exact mem_takeWhile_imp isSpace r x hx
        · rw [← e]; simp
      · cases h
    · cases h

theorem V4.finish_ok (a mp : Str) (o : Obj) (hmp : ∀ c ∈ mp, c ≠ '/') (h : V4.finish a mp = .ok o) :
    ∃ ip len, ip < 4294967296 ∧ len ≤ 32 ∧ a = strV4 ip ∧ makeNetmask4 mp = .ok len ∧ o = mk4 ip len := by
  unfold V4.finish at h
  split at h
  · cases e1 : stdV4Addr a with
    | error e => simp [bind, Except.bind, e1] at h
    | ok ip =>
      have hip : stdV4Int a = some ip := by
        unfold stdV4Addr at e1
        split at e1; · cases e1
        split at e1
        · next n hn => cases e1; exact hn
        · cases e1
      obtain ⟨rfl, hlt⟩ := stdV4Int_sound a ip hip
      rw [stdV4Net_slash _ _ _ (strV4_ne ip '/' (by decide) (by decide)) hmp] at h
      cases e2 : makeNetmask4 mp with
      | error e => simp [bind, Except.bind, e1, e2] at h
      | ok len =>
        have hle := makeNetmask4_le mp len e2
        simp only [bind, Except.bind, e1, e2, finishNet_false, stdV4Net_cidr ip len hlt hle, pure, Except.pure,
          Except.ok.injEq] at h
        exact ⟨ip, len, hlt, hle, rfl, rfl, h.symm⟩
  · cases h

/-- **what an accepted IPv4 text is**: the canonical dotted quad of the stored address, followed by
nothing, by `/digits`, or by `/` or blanks and the canonical dotted quad of a mask the stdlib reads as `/len` -/
theorem V4.fromStr_inv (input : Str) (o : Obj) (h : V4.fromStr input = .ok o) :
    ∃ ip len, ip < 4294967296 ∧ len ≤ 32 ∧ o = mk4 ip len ∧
      ((len = 32 ∧ strip input = strV4 ip) ∨
       (∃ p, p ≠ [] ∧ (∀ c ∈ p, isDigit c = true) ∧ ofDigits p = some len ∧ strip input = strV4 ip ++ '/' :: p) ∨
       (∃ mv, mv < 4294967296 ∧ ReadsAs mv len ∧ strip input = strV4 ip ++ '/' :: strV4 mv) ∨
       (∃ mv ws, mv < 4294967296 ∧ ReadsAs mv len ∧ ws ≠ [] ∧ (∀ c ∈ ws, isSpace c = true) ∧
          strip input = strV4 ip ++ ws ++ strV4 mv)) := by
  cases hm : matchV4 (strip input) with
  | none =>
    rw [V4.fromStr_nomask (a := []) (by rw [hm]; rfl)] at h
    cases h
  | some g =>
    cases matchV4_sound _ g hm with
    | plain a hs hg =>
      subst hg
      rw [V4.fromStr_nomask (by rw [hm]; rfl)] at h
      obtain ⟨ip, len, h1, h2, rfl, h4, h5⟩ := V4.finish_ok a _ o (by decide) h
      cases h4
      exact ⟨ip, 32, h1, h2, h5, Or.inl ⟨rfl, hs⟩⟩
    | pfx a p hp hs hg =>
      subst hg
      rw [V4.fromStr_masklen (by rw [hm]; rfl) hp] at h
      obtain ⟨ip, len, h1, h2, rfl, h4, h5⟩ := V4.finish_ok a p o (fullDigits_ne hp '/' (by decide)) h
      refine ⟨ip, len, h1, h2, h5, Or.inr (Or.inl ⟨p, ((fullDigits_iff p).mp hp).1, ?_⟩)⟩
      rcases (makeNetmask4_eq_ok p len).mp h4 with h4 | ⟨-, h4⟩
      · have := (prefixFromPrefixString_eq_some 32 p len).mp h4
        exact ⟨this.2.1, this.2.2.1, hs⟩
      · -- a text the IPv4 parser reads has a dot
        obtain ⟨mv, hmv, -⟩ := (prefixFromIpString_eq_some p len).mp h4
        exact absurd rfl (fullDigits_ne hp '.' (by decide) '.' ((stdV4Int_sound p mv hmv).1 ▸ dot_mem_strV4 mv))
    | mask a sep m hq hf hsep hs hg =>
      subst hg
      have hne : m ≠ [] := fun e => by have := hq.2; rw [e] at this; cases this
      rw [V4.fromStr_netmask (by rw [hm]; rfl) hne (strip_noSpace m hq.noSpace), if_pos hf] at h
      obtain ⟨ip, len, h1, h2, rfl, h4, h5⟩ := V4.finish_ok a m o (hq.ne '/' (by decide) (by decide)) h
      rcases (makeNetmask4_eq_ok m len).mp h4 with h4 | ⟨-, h4⟩
      · rw [prefixString_of_dot 32 m hq.2] at h4; cases h4
      · obtain ⟨mv, hmv, hr⟩ := (prefixFromIpString_eq_some m len).mp h4
        obtain ⟨rfl, hlt⟩ := stdV4Int_sound m mv hmv
        refine ⟨ip, len, h1, h2, h5, Or.inr (Or.inr ?_)⟩
        rcases hsep with rfl | ⟨hws, hsp⟩
        · exact Or.inl ⟨mv, hlt, hr, by simpa using hs⟩
        · exact Or.inr ⟨mv, sep, hlt, hr, hws, hsp, hs⟩

end Ccp.IPText
