import Ccp.Model.Asa
/-! The ASA tables and object groups of C20: the dictionaries filled in config order (`dictGet`, `dictItems`),
the specification `Flatten` of `network_strings`, and that `expand` meets it on every acyclic reference graph
with the fuel the model uses. -/
namespace Ccp.Asa
open Ccp.Py

theorem dict_foldl_init {α : Type} (d : List (Str × α)) (k : Str) (init : Option α) :
    d.foldl (fun acc p => if p.1 = k then some p.2 else acc) init =
      (d.foldl (fun acc p => if p.1 = k then some p.2 else acc) none).or init := by
  induction d generalizing init with
  | nil => simp
  | cons p ps ih =>
    simp only [List.foldl_cons]
    rw [ih, ih (init := if p.1 = k then some p.2 else none)]
    by_cases hp : p.1 = k
    · simp [hp]
    · simp [hp]

theorem dictGet_append {α : Type} (d₁ d₂ : List (Str × α)) (k : Str) :
    dictGet (d₁ ++ d₂) k = (dictGet d₂ k).or (dictGet d₁ k) := by
  unfold dictGet
  rw [List.foldl_append, dict_foldl_init]

theorem dictGet_cons {α : Type} (p : Str × α) (ps : List (Str × α)) (k : Str) :
    dictGet (p :: ps) k = (dictGet ps k).or (if p.1 = k then some p.2 else none) := by
  have := dictGet_append [p] ps k
  simpa [dictGet] using this

theorem dictGet_eq_none_iff {α : Type} (defs : List (Str × α)) (k : Str) :
    dictGet defs k = none ↔ k ∉ defs.map (·.1) := by
  induction defs with
  | nil => simp [dictGet]
  | cons p ps ih =>
    rw [dictGet_cons]
    by_cases hp : p.1 = k
    · simp [hp]
    · simp [hp, ih, Ne.symm hp]

theorem dictGet_isSome_iff {α : Type} (defs : List (Str × α)) (k : Str) :
    (∃ v, dictGet defs k = some v) ↔ k ∈ defs.map (·.1) := by
  rw [← Option.isSome_iff_exists, ← Option.ne_none_iff_isSome, Ne, dictGet_eq_none_iff, Classical.not_not]

/-- last definition wins -/
theorem dictGet_eq_some_iff {α : Type} (defs : List (Str × α)) (k : Str) (v : α) :
    dictGet defs k = some v ↔
      ∃ pre post, defs = pre ++ (k, v) :: post ∧ k ∉ post.map (·.1) := by
  constructor
  · induction defs with
    | nil => simp [dictGet]
    | cons p ps ih =>
      rw [dictGet_cons]
      intro h
      cases hps : dictGet ps k with
      | some w =>
        obtain ⟨pre, post, rfl, hn⟩ := ih (by simpa [hps] using h)
        exact ⟨p :: pre, post, rfl, hn⟩
      | none =>
        obtain ⟨rfl, rfl⟩ : p.1 = k ∧ p.2 = v := by simpa [hps] using h
        exact ⟨[], ps, rfl, (dictGet_eq_none_iff ps _).mp hps⟩
  · rintro ⟨pre, post, rfl, hn⟩
    simp [dictGet_append, dictGet_cons, (dictGet_eq_none_iff post k).mpr hn]

theorem nodup_eraseDups (l : List Str) : l.eraseDups.Nodup := by
  induction hn : l.length using Nat.strongRecOn generalizing l with
  | _ n ih =>
    cases l with
    | nil => simp
    | cons a as =>
      rw [List.eraseDups_cons, List.nodup_cons]
      constructor
      · rw [List.mem_eraseDups]; simp
      · exact ih _ (by subst hn; simp; exact Nat.lt_succ_of_le (List.length_filter_le _ _)) _ rfl

theorem mem_dictItems {α : Type} (defs : List (Str × α)) (k : Str) (v : α) :
    (k, v) ∈ dictItems defs ↔ dictGet defs k = some v := by
  unfold dictItems
  simp only [List.mem_filterMap, List.mem_eraseDups, Option.map_eq_some_iff]
  constructor
  · rintro ⟨k', _, w, hw, heq⟩; cases heq; exact hw
  · intro h; exact ⟨k, (dictGet_isSome_iff defs k).mp ⟨v, h⟩, v, h, rfl⟩

/-- **Spec.** `Flatten names tbl ms l`: `l` is the flattening of the member list `ms` in order:
a host contributes its (alias-resolved) address, a network its resolved address and mask (the
mask `255.255.255.255` makes it a host), a description nothing, a `group-object` the flattening of
the members of the group the table holds under that name. -/
inductive Flatten (names : List (Str × Str)) (tbl : List (Str × Group)) : List Member → List Str → Prop
  | nil : Flatten names tbl [] []
  | host {h ms l} : Flatten names tbl ms l → Flatten names tbl (.host h :: ms) (resolve names h :: l)
  | net32 {n ms l} : Flatten names tbl ms l → Flatten names tbl (.net n mask32 :: ms) (resolve names n :: l)
  | net {n m ms l} : m ≠ mask32 → Flatten names tbl ms l →
      Flatten names tbl (.net n m :: ms) ((resolve names n ++ '/' :: m) :: l)
  | descr {ms l} : Flatten names tbl ms l → Flatten names tbl (.descr :: ms) l
  | grp {g g' ms l l'} : dictGet tbl g = some g' → Flatten names tbl g'.members l' →
      Flatten names tbl ms l → Flatten names tbl (.grp g :: ms) (l' ++ l)

theorem Flatten.unique {names tbl ms l₁ l₂} (h₁ : Flatten names tbl ms l₁) (h₂ : Flatten names tbl ms l₂) :
    l₁ = l₂ := by
  induction h₁ generalizing l₂ with
  | nil => cases h₂; rfl
  | host _ ih => cases h₂ with | host h => rw [ih h]
  | net32 _ ih =>
    cases h₂ with
    | net32 h => rw [ih h]
    | net hne _ => exact absurd rfl hne
  | net hne _ ih =>
    cases h₂ with
    | net32 h => exact absurd rfl hne
    | net _ h => rw [ih h]
  | descr _ ih => cases h₂ with | descr h => exact ih h
  | grp hg _ _ ih' ih =>
    cases h₂ with
    | grp hg2 h2' h2 =>
      rw [hg] at hg2; cases hg2
      rw [ih' h2', ih h2]

def WellFormed (tbl : List (Str × Group)) (rank : Str → Nat) (self : Str) (ms : List Member) : Prop :=
  ∀ m ∈ ms, m ≠ .bad ∧ ∀ g, m = .grp g → ∃ g', dictGet tbl g = some g' ∧ g'.name = g ∧ rank g < rank self

def Acyclic (tbl : List (Str × Group)) (rank : Str → Nat) : Prop :=
  ∀ k g, dictGet tbl k = some g → WellFormed tbl rank g.name g.members

theorem expandList_flatten (names tbl) (rank : Str → Nat) (recur : Group → Except Err (List Str))
    (self : Str)
    (hrec : ∀ g g', dictGet tbl g = some g' → g'.name = g → rank g < rank self →
      ∃ l, recur g' = .ok l ∧ Flatten names tbl g'.members l)
    (ms : List Member) (hwf : WellFormed tbl rank self ms) :
    ∃ l, expandList names tbl recur self ms = .ok l ∧ Flatten names tbl ms l := by
  induction ms with
  | nil => exact ⟨[], rfl, .nil⟩
  | cons m ms ih =>
    obtain ⟨hm, hms⟩ := List.forall_mem_cons.mp hwf
    obtain ⟨l, hl, hf⟩ := ih hms
    cases m with
    | host h => exact ⟨_, by simp [expandList, plainMember, hl, bind, Except.bind], .host hf⟩
    | net n k =>
      by_cases hk : k = mask32
      · subst hk; exact ⟨_, by simp [expandList, plainMember, hl, bind, Except.bind], .net32 hf⟩
      · exact ⟨_, by simp [expandList, plainMember, hk, hl, bind, Except.bind], .net hk hf⟩
    | descr => exact ⟨l, by simp [expandList, plainMember, hl, bind, Except.bind], .descr hf⟩
    | bad => exact absurd rfl hm.1
    | grp g =>
      obtain ⟨g', hg', hname, hrank⟩ := hm.2 g rfl
      obtain ⟨l', hl', hf'⟩ := hrec g g' hg' hname hrank
      have hne : g ≠ self := by intro h; subst h; omega
      exact ⟨l' ++ l, by simp [expandList, plainMember, hne, hg', hl', hl, bind, Except.bind], .grp hg' hf' hf⟩

theorem expand_flatten (names tbl) (rank : Str → Nat) (hac : Acyclic tbl rank) :
    ∀ (fuel : Nat) (g : Group), WellFormed tbl rank g.name g.members → rank g.name ≤ fuel →
      ∃ l, expand names tbl fuel g = .ok l ∧ Flatten names tbl g.members l := by
  intro fuel
  induction fuel with
  | zero =>
    intro g hwf hr
    exact expandList_flatten names tbl rank _ g.name (fun k g' _ _ hlt => by omega) g.members hwf
  | succ f ih =>
    intro g hwf hr
    refine expandList_flatten names tbl rank _ g.name ?_ g.members hwf
    intro k g' hk hname hlt
    have := hac k g' hk
    exact ih g' this (by rw [hname]; omega)

/-- The number of table keys of smaller rank.  It is at most the number of table entries and witnesses
acyclicity whenever `rank` does, which is why the fuel `tbl.length + 1` is enough. -/
def boundedRank (tbl : List (Str × Group)) (rank : Str → Nat) (n : Str) : Nat :=
  (tbl.map (·.1)).countP (fun k => rank k < rank n)

theorem boundedRank_le (tbl rank n) : boundedRank tbl rank n ≤ tbl.length := by
  simpa [boundedRank] using List.countP_le_length (p := fun k => decide (rank k < rank n)) (l := tbl.map (·.1))

/-- `g` itself is counted for `self` and not for `g` -/
theorem boundedRank_lt (tbl : List (Str × Group)) (rank : Str → Nat) (g self : Str) (hg : g ∈ tbl.map (·.1))
    (h : rank g < rank self) : boundedRank tbl rank g < boundedRank tbl rank self := by
  obtain ⟨s, t, e⟩ := List.append_of_mem hg
  have mono : ∀ l : List Str, l.countP (fun k => rank k < rank g) ≤ l.countP (fun k => rank k < rank self) :=
    fun l => List.countP_mono_left fun x _ hx => by simp at hx ⊢; omega
  have := mono s
  have := mono t
  simp only [boundedRank, e, List.countP_append, List.countP_cons]
  simp [h]; omega

theorem wellFormed_bounded (tbl rank self ms) (h : WellFormed tbl rank self ms) :
    WellFormed tbl (boundedRank tbl rank) self ms := by
  intro m hm
  refine ⟨(h m hm).1, ?_⟩
  intro g hg
  obtain ⟨g', h1, h2, h3⟩ := (h m hm).2 g hg
  exact ⟨g', h1, h2, boundedRank_lt tbl rank g self ((dictGet_isSome_iff tbl g).mp ⟨g', h1⟩) h3⟩

theorem expand_flatten_model_fuel (names tbl) (rank : Str → Nat) (hac : Acyclic tbl rank) (g : Group)
    (hwf : WellFormed tbl rank g.name g.members) :
    ∃ l, expand names tbl (tbl.length + 1) g = .ok l ∧ Flatten names tbl g.members l := by
  apply expand_flatten names tbl (boundedRank tbl rank)
  · intro k g' hk; exact wellFormed_bounded _ _ _ _ (hac k g' hk)
  · exact wellFormed_bounded _ _ _ _ hwf
  · have := boundedRank_le tbl rank g.name; omega

end Ccp.Asa
