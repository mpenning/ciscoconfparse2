import Ccp.Proofs.TreeLink
/-!
For C03 (family relations form a consistent forest): the specification vocabulary (`Forest`,
`ancestors`, `IsAncestor`); no pass of `bootstrap` makes a parent index point forward (pass 1
yields the specified parent, `Proofs/TreeLink`; passes 2 and 3 only write a start line's index
into later positions, `Proofs/TreePasses`); and under `Forest` every family view of
`Model/Tree.lean` is a reading of the ancestor chain.
-/
namespace Ccp.Tree
open Ccp.Py

theorem nodup_of_sorted {l : List Nat} (h : l.Pairwise (· < ·)) : l.Nodup :=
  h.imp (fun hab => Nat.ne_of_lt hab)

theorem sorted_ext {l₁ l₂ : List Nat} (h₁ : l₁.Pairwise (· < ·)) (h₂ : l₂.Pairwise (· < ·))
    (h : ∀ x, x ∈ l₁ ↔ x ∈ l₂) : l₁ = l₂ :=
  List.Perm.eq_of_pairwise (fun _ _ _ _ hab hba => absurd hab (Nat.lt_asymm hba)) h₁ h₂
    ((List.perm_ext_iff_of_nodup (nodup_of_sorted h₁) (nodup_of_sorted h₂)).mpr h)

theorem getLast?_sorted_max {l : List Nat} (h : l.Pairwise (· < ·)) {m : Nat} (hm : l.getLast? = some m) :
    m ∈ l ∧ ∀ x ∈ l, x ≤ m := by
  refine ⟨List.mem_of_getLast? hm, ?_⟩
  obtain ⟨ys, rfl⟩ := List.getLast?_eq_some_iff.mp hm
  intro x hx
  rcases List.mem_append.mp hx with hx | hx
  · have := (List.pairwise_append.mp h).2.2 x hx m (by simp); omega
  · simp at hx; omega

theorem nodup_flatMap {α β : Type} {l : List α} {f : α → List β} (hl : l.Nodup)
    (hf : ∀ x ∈ l, (f x).Nodup)
    (hd : ∀ x ∈ l, ∀ y ∈ l, ∀ z, z ∈ f x → z ∈ f y → x = y) : (l.flatMap f).Nodup := by
  induction l with
  | nil => simp
  | cons a as ih =>
    have ha := List.pairwise_cons.mp hl
    rw [List.flatMap_cons, List.nodup_append]
    refine ⟨hf a (by simp), ih ha.2 (fun x hx => hf x (by simp [hx]))
      (fun x hx y hy => hd x (by simp [hx]) y (by simp [hy])), ?_⟩
    intro z hz w hw hzw
    subst hzw
    obtain ⟨y, hy, hzy⟩ := List.mem_flatMap.mp hw
    have := hd a (by simp) y (by simp [hy]) z hz hzy
    exact ha.1 y hy this

/-- One parent index per line, and no line's parent comes after it.  Hence a line is a
root iff `parentOf t i = i`, and a parent strictly precedes each of its children. -/
def Forest (t : T) : Prop :=
  t.parents.length = t.texts.length ∧ ∀ i, i < t.size → parentOf t i ≤ i

/-- the chain parent, grandparent, … of line `j`, nearest first, ending with its root
(empty for a root) -/
def ancestors (t : T) (j : Nat) : List Nat :=
  if parentOf t j < j then parentOf t j :: ancestors t (parentOf t j) else []
termination_by j

/-- `a` is a proper ancestor of `j`: the transitive closure of "is the parent of" -/
inductive IsAncestor (t : T) : Nat → Nat → Prop
  | parent {j} : parentOf t j ≠ j → IsAncestor t (parentOf t j) j
  | step {a j} : parentOf t j ≠ j → IsAncestor t a (parentOf t j) → IsAncestor t a j

theorem parentOf_of_size_le {t : T} (hf : Forest t) {i : Nat} (h : t.size ≤ i) : parentOf t i = i :=
  getD_of_length_le (by rw [hf.1]; exact h) i

theorem parentOf_le_of_forest {t : T} (h : Forest t) (i : Nat) : parentOf t i ≤ i := by
  by_cases hi : i < t.size
  · exact h.2 i hi
  · exact Nat.le_of_eq (parentOf_of_size_le h (Nat.le_of_not_lt hi))

def Below (ps : List Nat) (base : Nat) : Prop := ∀ k (h : k < ps.length), ps[k] ≤ base + k

theorem linkByIndent_below (cfg : Cfg) (ls : List Str) : Below (linkByIndent cfg ls) 0 := by
  rw [linkByIndent_eq_map]
  intro k hk
  simpa using specParent_le_self _ k

def Inv (n : Nat) (t : T) : Prop :=
  t.texts.length = n ∧ t.parents.length = n ∧ Below t.parents 0

theorem below_fill {ps : List Nat} (h : Below ps 0) {i v : Nat} (hv : v ≤ i) (n : Nat) : Below (fill ps i n v) 0 := by
  intro k hk
  have := getD_fill ps i n v k 0
  rw [List.getD_eq_getElem?_getD, List.getElem?_eq_getElem hk] at this
  rw [length_fill] at hk
  have hk' := h k hk
  simp only [Option.getD_some, List.getD_eq_getElem?_getD, List.getElem?_eq_getElem hk] at this
  rw [this]; split <;> omega

theorem inv_stampFrom {n : Nat} (cov prot : Str → List Str → Nat) (l : List Str) :
    ∀ (i : Nat) {t : T}, Inv n t → Inv n (stampFrom cov prot i l t) := by
  induction l with
  | nil => intro _ _ h; exact h
  | cons x rest ih =>
    intro i t h
    exact ih (i + 1) ⟨h.1, by simp [stamp, h.2.1], below_fill h.2.2 (Nat.le_succ i) _⟩

theorem inv_link (cfg : Cfg) (ls : List Str) : Inv ls.length (link cfg ls) := by
  have h1 := inv_stampFrom coverB protB ls 0 (t := pass1 cfg ls)
    ⟨rfl, linkByIndent_length cfg ls, linkByIndent_below cfg ls⟩
  rw [link_eq_stamps]
  split
  · exact inv_stampFrom _ _ _ 0 h1
  · exact h1

theorem forest_of_inv {n : Nat} {t : T} (h : Inv n t) : Forest t := by
  refine ⟨by rw [h.1, h.2.1], ?_⟩
  intro i hi
  have hi' : i < t.parents.length := by simp only [T.size] at hi; have := h.1; have := h.2.1; omega
  have := h.2.2 i hi'
  simp only [parentOf, List.getD_eq_getElem?_getD, List.getElem?_eq_getElem hi', Option.getD_some]
  omega

theorem link_forest (cfg : Cfg) (ls : List Str) : Forest (link cfg ls) := forest_of_inv (inv_link cfg ls)

theorem link_texts (cfg : Cfg) (ls : List Str) : (link cfg ls).texts.length = ls.length := (inv_link cfg ls).1

theorem setKeep_texts (t : T) (i : Nat) : (setKeep t i).texts = t.texts := rfl
theorem reparent_texts (t : T) (p c : Nat) : (reparent t p c).texts = t.texts := rfl

theorem bootstrap_forest (cfg : Cfg) (ls : List Str) : Forest (bootstrap cfg ls) := by
  rw [bootstrap, bootstrapFuel_is_link]; exact link_forest cfg _

theorem mem_children {t : T} {i j : Nat} :
    j ∈ children t i ↔ j < t.size ∧ parentOf t j = i ∧ j ≠ i := by
  simp only [children, List.mem_filter, List.mem_range, Bool.and_eq_true, bne_iff_ne, beq_iff_eq]
  constructor
  · rintro ⟨a, b, c⟩; exact ⟨a, c, b⟩
  · rintro ⟨a, b, c⟩; exact ⟨a, c, b⟩

theorem children_sorted (t : T) (i : Nat) : (children t i).Pairwise (· < ·) :=
  List.Pairwise.filter _ List.pairwise_lt_range

theorem children_count (t : T) (i j : Nat) :
    (children t i).count j = if j < t.size ∧ parentOf t j = i ∧ j ≠ i then 1 else 0 := by
  rw [(nodup_of_sorted (children_sorted t i)).count]
  simp only [mem_children]

theorem ancestors_of_lt {t : T} {j : Nat} (h : parentOf t j < j) :
    ancestors t j = parentOf t j :: ancestors t (parentOf t j) := by
  rw [ancestors]; simp [h]

theorem ancestors_of_not_lt {t : T} {j : Nat} (h : ¬ parentOf t j < j) : ancestors t j = [] := by
  rw [ancestors]; simp [h]

theorem ancestors_lt {t : T} {a j : Nat} (h : a ∈ ancestors t j) : a < j := by
  fun_induction ancestors t j with
  | case1 j hp ih =>
    rcases List.mem_cons.mp h with rfl | h
    · exact hp
    · have := ih h; omega
  | case2 => cases h

theorem ancestors_desc (t : T) (j : Nat) : (ancestors t j).Pairwise (· > ·) := by
  fun_induction ancestors t j with
  | case1 j hp ih => exact List.pairwise_cons.mpr ⟨fun a ha => ancestors_lt ha, ih⟩
  | case2 => exact List.Pairwise.nil

theorem ancestors_trans {t : T} {a b c : Nat} (hab : a ∈ ancestors t b) (hbc : b ∈ ancestors t c) :
    a ∈ ancestors t c := by
  fun_induction ancestors t c with
  | case1 c hp ih =>
    rcases List.mem_cons.mp hbc with rfl | hbc
    · exact List.mem_cons_of_mem _ hab
    · exact List.mem_cons_of_mem _ (ih hbc)
  | case2 => cases hbc

theorem isAncestor_of_mem {t : T} {a j : Nat} (h : a ∈ ancestors t j) : IsAncestor t a j := by
  fun_induction ancestors t j with
  | case1 j hp ih =>
    rcases List.mem_cons.mp h with rfl | h
    · exact .parent (by omega)
    · exact .step (by omega) (ih h)
  | case2 => cases h

theorem mem_of_isAncestor {t : T} (hf : Forest t) {a j : Nat} (h : IsAncestor t a j) : a ∈ ancestors t j := by
  induction h with
  | @parent j hne =>
    have := parentOf_le_of_forest hf j
    rw [ancestors_of_lt (by omega)]; simp
  | @step a j hne _ ih =>
    have := parentOf_le_of_forest hf j
    rw [ancestors_of_lt (by omega)]; exact List.mem_cons_of_mem _ ih

theorem ancestors_child {t : T} {i j : Nat} (h : i ∈ ancestors t j) :
    ∃ c, parentOf t c = i ∧ i < c ∧ (c = j ∨ c ∈ ancestors t j) := by
  fun_induction ancestors t j with
  | case1 j hp ih =>
    rcases List.mem_cons.mp h with rfl | h
    · exact ⟨j, rfl, hp, .inl rfl⟩
    · obtain ⟨c, hc1, hc2, hc3⟩ := ih h
      refine ⟨c, hc1, hc2, .inr ?_⟩
      rcases hc3 with rfl | hc3
      · exact List.mem_cons_self
      · exact List.mem_cons_of_mem _ hc3
  | case2 => cases h

theorem ancestors_linear {t : T} {a b j : Nat} (ha : a ∈ ancestors t j) (hb : b ∈ ancestors t j) :
    a = b ∨ a ∈ ancestors t b ∨ b ∈ ancestors t a := by
  fun_induction ancestors t j with
  | case1 j hp ih =>
    rcases List.mem_cons.mp ha with rfl | ha <;> rcases List.mem_cons.mp hb with rfl | hb
    · exact .inl rfl
    · exact .inr (.inr hb)
    · exact .inr (.inl ha)
    · exact ih ha hb
  | case2 => cases ha

theorem ancestors_lt_size {t : T} (hf : Forest t) {a j : Nat} (h : a ∈ ancestors t j) : j < t.size := by
  apply Classical.byContradiction
  intro hj
  rw [ancestors_of_not_lt (by rw [parentOf_of_size_le hf (Nat.le_of_not_lt hj)]; omega)] at h
  cases h

theorem ancestors_last_root {t : T} (hf : Forest t) {j r : Nat} (h : (ancestors t j).getLast? = some r) :
    parentOf t r = r := by
  fun_induction ancestors t j with
  | case1 j hp ih =>
    by_cases hpp : parentOf t (parentOf t j) < parentOf t j
    · rw [ancestors_of_lt hpp, List.getLast?_cons_cons, ← ancestors_of_lt hpp] at h
      exact ih h
    · rw [ancestors_of_not_lt hpp, List.getLast?_singleton] at h
      cases h
      have := parentOf_le_of_forest hf (parentOf t j)
      omega
  | case2 => cases h

theorem insertAsc_append {x : Nat} {l : List Nat} (h : ∀ y ∈ l, y < x) : insertAsc x l = l ++ [x] := by
  induction l with
  | nil => rfl
  | cons y ys ih =>
    have hy := h y (by simp)
    have : ¬ x < y := by omega
    have : ¬ x = y := by omega
    simp [insertAsc, *]
    exact ih (fun z hz => h z (by simp [hz]))

theorem sortDedup_desc {l : List Nat} (h : l.Pairwise (· > ·)) : sortDedup l = l.reverse := by
  induction l with
  | nil => rfl
  | cons x xs ih =>
    have hx := List.pairwise_cons.mp h
    simp only [sortDedup, List.foldr_cons] at ih ⊢
    rw [ih hx.2, List.reverse_cons]
    exact insertAsc_append (fun y hy => hx.1 y (List.mem_reverse.mp hy))

theorem insertKeep_perm (x : Nat) (l : List Nat) : (insertKeep x l).Perm (x :: l) := by
  induction l with
  | nil => exact List.Perm.refl _
  | cons y ys ih =>
    simp only [insertKeep]
    split
    · exact List.Perm.refl _
    · exact ((List.Perm.cons y ih).trans (List.Perm.swap x y ys))

theorem sortKeep_perm (l : List Nat) : (sortKeep l).Perm l := by
  induction l with
  | nil => exact List.Perm.refl _
  | cons x xs ih =>
    simp only [sortKeep, List.foldr_cons] at ih ⊢
    exact (insertKeep_perm x _).trans (List.Perm.cons x ih)

theorem mem_sortKeep {l : List Nat} {x : Nat} : x ∈ sortKeep l ↔ x ∈ l := (sortKeep_perm l).mem_iff

theorem insertKeep_sorted {x : Nat} {l : List Nat} (h : l.Pairwise (· ≤ ·)) :
    (insertKeep x l).Pairwise (· ≤ ·) := by
  induction l with
  | nil => simp [insertKeep]
  | cons y ys ih =>
    have hy := List.pairwise_cons.mp h
    simp only [insertKeep]
    split
    · rename_i hxy
      refine List.pairwise_cons.mpr ⟨?_, h⟩
      intro b hb
      rcases List.mem_cons.mp hb with rfl | hb
      · exact hxy
      · have := hy.1 b hb; omega
    · rename_i hxy
      refine List.pairwise_cons.mpr ⟨?_, ih hy.2⟩
      intro b hb
      rcases List.mem_cons.mp ((insertKeep_perm x ys).mem_iff.mp hb) with rfl | hb
      · omega
      · exact hy.1 b hb

theorem sortKeep_sorted (l : List Nat) : (sortKeep l).Pairwise (· ≤ ·) := by
  induction l with
  | nil => exact List.Pairwise.nil
  | cons x xs ih => exact insertKeep_sorted ih

theorem sortKeep_strict {l : List Nat} (h : l.Nodup) : (sortKeep l).Pairwise (· < ·) :=
  List.Pairwise.imp₂ (fun _ _ => Nat.lt_of_le_of_ne) (sortKeep_sorted l) ((sortKeep_perm l).nodup_iff.mpr h)

theorem sortKeep_id {l : List Nat} (h : l.Pairwise (· ≤ ·)) : sortKeep l = l :=
  List.Perm.eq_of_pairwise (fun _ _ _ _ => Nat.le_antisymm) (sortKeep_sorted l) h (sortKeep_perm l)

theorem allParentsFuel_eq {t : T} (hf : Forest t) (fuel i : Nat) (h : i ≤ fuel ∨ parentOf t i = i) :
    allParentsFuel t fuel i = ancestors t i := by
  induction fuel generalizing i with
  | zero =>
    have hp := parentOf_le_of_forest hf i
    rw [ancestors_of_not_lt (by omega)]; rfl
  | succ fuel ih =>
    have hp := parentOf_le_of_forest hf i
    simp only [allParentsFuel]
    split
    · rw [ancestors_of_not_lt (by omega)]
    · rename_i hne
      rw [ancestors_of_lt (by omega), ih _ (by omega)]

theorem allParentsFuel_size {t : T} (hf : Forest t) (i : Nat) :
    allParentsFuel t t.size i = ancestors t i := by
  apply allParentsFuel_eq hf
  by_cases hi : i < t.size
  · exact .inl (Nat.le_of_lt hi)
  · exact .inr (parentOf_of_size_le hf (Nat.le_of_not_lt hi))

theorem allParents_eq {t : T} (hf : Forest t) (i : Nat) : allParents t i = (ancestors t i).reverse := by
  rw [allParents, allParentsFuel_size hf, sortDedup_desc (ancestors_desc t i)]

theorem allParents_sorted {t : T} (hf : Forest t) (i : Nat) : (allParents t i).Pairwise (· < ·) := by
  rw [allParents_eq hf, List.pairwise_reverse]
  exact (ancestors_desc t i).imp (fun h => h)

theorem mem_allParents {t : T} (hf : Forest t) {i a : Nat} : a ∈ allParents t i ↔ a ∈ ancestors t i := by
  rw [allParents_eq hf, List.mem_reverse]

theorem mem_ancestors_of_child {t : T} (hf : Forest t) {i c : Nat} (hc : c ∈ children t i) :
    i ∈ ancestors t c := by
  obtain ⟨_, hpc, hne⟩ := mem_children.mp hc
  have hle := parentOf_le_of_forest hf c
  rw [ancestors_of_lt (by omega), hpc]; exact List.mem_cons_self

theorem child_on_chain {t : T} (hf : Forest t) {i j : Nat} (h : i ∈ ancestors t j) :
    ∃ c ∈ children t i, c ≤ j ∧ (c = j ∨ c ∈ ancestors t j) := by
  obtain ⟨c, hc1, hc2, hc3⟩ := ancestors_child h
  have hj := ancestors_lt_size hf h
  have hcj : c ≤ j := by
    rcases hc3 with rfl | hc3
    · exact Nat.le_refl _
    · exact Nat.le_of_lt (ancestors_lt hc3)
  exact ⟨c, mem_children.mpr ⟨by omega, hc1, by omega⟩, hcj, hc3⟩

theorem child_not_ancestor_of_child {t : T} (hf : Forest t) {i c c' : Nat} (hc : c ∈ children t i)
    (hc' : c' ∈ children t i) : c ∉ ancestors t c' := by
  intro h
  obtain ⟨_, hpc, hne⟩ := mem_children.mp hc
  obtain ⟨_, hpc', hne'⟩ := mem_children.mp hc'
  have hle := parentOf_le_of_forest hf c
  have hle' := parentOf_le_of_forest hf c'
  rw [ancestors_of_lt (by omega), hpc'] at h
  rcases List.mem_cons.mp h with h | h
  · exact hne h
  · have := ancestors_lt h; omega

theorem allChildrenFuel_sound {t : T} (hf : Forest t) (fuel : Nat) {i j : Nat}
    (h : j ∈ allChildrenFuel t fuel i) : i ∈ ancestors t j := by
  induction fuel generalizing i with
  | zero => cases h
  | succ fuel ih =>
    simp only [allChildrenFuel, List.mem_flatMap, List.mem_cons] at h
    obtain ⟨c, hc, hj⟩ := h
    have hic := mem_ancestors_of_child hf hc
    rcases hj with rfl | hj
    · exact hic
    · exact ancestors_trans hic (ih hj)

theorem allChildrenFuel_complete {t : T} (hf : Forest t) (fuel : Nat) {i j : Nat}
    (h : i ∈ ancestors t j) (hfuel : j ≤ fuel + i) : j ∈ allChildrenFuel t fuel i := by
  induction fuel generalizing i with
  | zero => have := ancestors_lt h; omega
  | succ fuel ih =>
    obtain ⟨c, hc, hcj, hc3⟩ := child_on_chain hf h
    have := ancestors_lt (mem_ancestors_of_child hf hc)
    simp only [allChildrenFuel, List.mem_flatMap, List.mem_cons]
    refine ⟨c, hc, ?_⟩
    rcases hc3 with rfl | hc3
    · exact .inl rfl
    · exact .inr (ih hc3 (by omega))

/-- the subtrees of two children are disjoint -/
theorem allChildrenFuel_nodup {t : T} (hf : Forest t) (fuel i : Nat) : (allChildrenFuel t fuel i).Nodup := by
  induction fuel generalizing i with
  | zero => exact List.nodup_nil
  | succ fuel ih =>
    have hz : ∀ {c z}, z ∈ c :: allChildrenFuel t fuel c → z = c ∨ c ∈ ancestors t z := fun h =>
      (List.mem_cons.mp h).imp id (allChildrenFuel_sound hf fuel)
    refine nodup_flatMap (nodup_of_sorted (children_sorted t i)) ?_ ?_
    · intro c _
      refine List.nodup_cons.mpr ⟨fun hc => ?_, ih c⟩
      have := ancestors_lt (allChildrenFuel_sound hf fuel hc); omega
    · intro c hc c' hc' z h h'
      rcases hz h with rfl | h <;> rcases hz h' with rfl | h'
      · rfl
      · exact absurd h' (child_not_ancestor_of_child hf hc' hc)
      · exact absurd h (child_not_ancestor_of_child hf hc hc')
      · rcases ancestors_linear h h' with e | e | e
        · exact e
        · exact absurd e (child_not_ancestor_of_child hf hc hc')
        · exact absurd e (child_not_ancestor_of_child hf hc' hc)

theorem mem_allChildren {t : T} (hf : Forest t) {i j : Nat} : j ∈ allChildren t i ↔ i ∈ ancestors t j := by
  rw [allChildren, mem_sortKeep]
  constructor
  · exact allChildrenFuel_sound hf _
  · intro h
    have := ancestors_lt_size hf h
    exact allChildrenFuel_complete hf _ h (by omega)

theorem allChildren_sorted {t : T} (hf : Forest t) (i : Nat) : (allChildren t i).Pairwise (· < ·) :=
  sortKeep_strict (allChildrenFuel_nodup hf _ i)

theorem allChildren_eq_filter {t : T} (hf : Forest t) (i : Nat) :
    allChildren t i = (List.range t.size).filter (fun j => decide (i ∈ ancestors t j)) := by
  apply sorted_ext (allChildren_sorted hf i) (List.Pairwise.filter _ List.pairwise_lt_range)
  intro j
  rw [mem_allChildren hf, List.mem_filter, List.mem_range]
  constructor
  · intro h; exact ⟨ancestors_lt_size hf h, by simpa using h⟩
  · intro h; simpa using h.2

theorem allChildren_nil_of_children_nil {t : T} {i : Nat} (h : children t i = []) : allChildren t i = [] := by
  unfold allChildren
  cases t.size with
  | zero => rfl
  | succ n => simp [allChildrenFuel, h, sortKeep]

theorem family_sorted {t : T} (hf : Forest t) (i : Nat) :
    (allParents t i ++ [i] ++ allChildren t i).Pairwise (· < ·) := by
  rw [List.pairwise_append, List.pairwise_append]
  refine ⟨⟨allParents_sorted hf i, by simp, ?_⟩, allChildren_sorted hf i, ?_⟩
  · intro a ha b hb
    have := ancestors_lt ((mem_allParents hf).mp ha)
    simp at hb; omega
  · intro a ha b hb
    have hb' := ancestors_lt ((mem_allChildren hf).mp hb)
    rcases List.mem_append.mp ha with ha | ha
    · have := ancestors_lt ((mem_allParents hf).mp ha); omega
    · simp at ha; omega

theorem lineage_eq {t : T} (hf : Forest t) (i : Nat) :
    lineage t i = allParents t i ++ [i] ++ allChildren t i := by
  have h : (if (children t i).isEmpty then [] else allChildren t i) = allChildren t i := by
    split
    · rename_i he
      rw [allChildren_nil_of_children_nil (List.isEmpty_iff.mp he)]
    · rfl
  rw [lineage, h]
  exact sortKeep_id ((family_sorted hf i).imp (fun h => Nat.le_of_lt h))

theorem familyEndpoint_max {t : T} (hf : Forest t) (i : Nat) :
    familyEndpoint t i ∈ i :: allChildren t i ∧ ∀ j ∈ i :: allChildren t i, j ≤ familyEndpoint t i := by
  unfold familyEndpoint
  cases hl : (allChildren t i).getLast? with
  | none =>
    have : allChildren t i = [] := List.getLast?_eq_none_iff.mp hl
    simp [this]
  | some m =>
    obtain ⟨h1, h2⟩ := getLast?_sorted_max (allChildren_sorted hf i) hl
    have him := ancestors_lt ((mem_allChildren hf).mp h1)
    simp only [Option.getD_some]
    refine ⟨List.mem_cons_of_mem _ h1, ?_⟩
    intro j hj
    rcases List.mem_cons.mp hj with rfl | hj
    · omega
    · exact h2 j hj

theorem mem_siblings {t : T} {i j : Nat} :
    j ∈ siblings t i ↔ j < t.size ∧ parentOf t j = parentOf t i ∧ j ≠ parentOf t i ∧ indentOf t j = indentOf t i := by
  simp only [siblings, List.mem_filter, mem_children, beq_iff_eq]
  constructor
  · rintro ⟨⟨a, b, c⟩, d⟩; exact ⟨a, b, c, d⟩
  · rintro ⟨a, b, c, d⟩; exact ⟨⟨a, b, c⟩, d⟩

end Ccp.Tree
