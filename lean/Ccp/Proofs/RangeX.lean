import Ccp.Model.RangeX
import Ccp.Proofs.Range
/-!
The option forms of `CiscoRange` on integers (`Ccp.Model.RangeX`): `sorted(l)` (`sortDup`) is a permutation of `l`
and agrees with `sorted(set(l))` (`sortedSet`) on a list without duplicates.
-/
namespace Ccp.RangeX
open Ccp.Py Ccp.Range

theorem insertDup_perm (x : Nat) (l : List Nat) : (insertDup x l).Perm (x :: l) := by
  induction l with
  | nil => exact .refl _
  | cons a l ih =>
    unfold insertDup
    split
    · exact .refl _
    · exact (ih.cons a).trans (.swap x a l)

theorem insertDup_sorted (x : Nat) (l : List Nat) (h : l.Pairwise (· ≤ ·)) :
    (insertDup x l).Pairwise (· ≤ ·) := by
  induction l with
  | nil => simp [insertDup]
  | cons a l ih =>
    rw [List.pairwise_cons] at h
    unfold insertDup
    split
    · rename_i hxa
      refine List.pairwise_cons.mpr ⟨?_, List.pairwise_cons.mpr h⟩
      intro y hy
      rcases List.mem_cons.mp hy with rfl | hy
      · exact hxa
      · exact Nat.le_trans hxa (h.1 y hy)
    · rename_i hxa
      refine List.pairwise_cons.mpr ⟨?_, ih h.2⟩
      intro y hy
      rcases List.mem_cons.mp ((insertDup_perm x l).mem_iff.mp hy) with rfl | hy
      · omega
      · exact h.1 y hy

theorem sortDup_perm (l : List Nat) : (sortDup l).Perm l := by
  induction l with
  | nil => exact .refl _
  | cons a l ih => exact (insertDup_perm a (sortDup l)).trans (ih.cons a)

theorem mem_sortDup (l : List Nat) (y : Nat) : y ∈ sortDup l ↔ y ∈ l := (sortDup_perm l).mem_iff

theorem length_sortDup (l : List Nat) : (sortDup l).length = l.length := (sortDup_perm l).length_eq

theorem count_sortDup (l : List Nat) (y : Nat) : (sortDup l).count y = l.count y := (sortDup_perm l).count_eq y

theorem sortDup_sorted (l : List Nat) : (sortDup l).Pairwise (· ≤ ·) := by
  induction l with
  | nil => simp [sortDup]
  | cons a l ih => exact insertDup_sorted a _ ih

theorem insertDup_eq_insertAsc (x : Nat) (l : List Nat) (h : x ∉ l) : insertDup x l = insertAsc x l := by
  induction l with
  | nil => rfl
  | cons a l ih =>
    have hxa : x ≠ a := fun e => h (by simp [e])
    have hl : x ∉ l := fun e => h (by simp [e])
    unfold insertDup insertAsc
    by_cases hlt : x < a
    · simp [hlt, Nat.le_of_lt hlt]
    · have : ¬ x ≤ a := by omega
      simp [hlt, this, hxa, ih hl]

theorem sortDup_eq_sortedSet (l : List Nat) (h : l.Nodup) : sortDup l = sortedSet l := by
  induction l with
  | nil => rfl
  | cons a l ih =>
    rw [List.nodup_cons] at h
    have e1 : sortDup (a :: l) = insertDup a (sortDup l) := rfl
    have e2 : sortedSet (a :: l) = insertAsc a (sortedSet l) := rfl
    rw [e1, e2, ih h.2]
    exact insertDup_eq_insertAsc a _ (fun hm => h.1 ((mem_sortedSet l a).mp hm))

theorem nodup_append_new (d : List Nat) (v : Nat) (hd : d.Pairwise (· < ·)) (hv : v ∉ d) :
    (d ++ [v]).Nodup := by
  rw [List.nodup_append]
  refine ⟨hd.imp Nat.ne_of_lt, by simp, ?_⟩
  intro a ha b hb
  simp at hb
  subst hb
  exact fun e => hv (e ▸ ha)

theorem ne_nil_of_mem_iff {l l' : List Nat} (h : ∀ n, n ∈ l' ↔ n ∈ l) (hne : l ≠ []) : l' ≠ [] := by
  obtain ⟨x, hx⟩ := List.exists_mem_of_ne_nil _ hne
  exact List.ne_nil_of_mem ((h x).mpr hx)

theorem elTy_of_ne_nil (t : ElTy) (l : List Nat) (h : l ≠ []) : elTy t l = t := by simp [elTy, h]

theorem mem_ordered (s : St) (n : Nat) : n ∈ ordered s ↔ n ∈ s.data := by
  unfold ordered; split <;> simp [mem_sortedSet]

theorem ordered_asc (s : St) (h : s.rev = false) : (ordered s).Pairwise (· < ·) := by
  simpa [ordered, h] using sortedSet_sorted s.data

theorem ordered_desc (s : St) (h : s.rev = true) : (ordered s).Pairwise (· > ·) := by
  simpa [ordered, h] using List.pairwise_reverse.mpr (sortedSet_sorted s.data)

theorem filter_length_lt_iff (d : List Nat) (v : Nat) :
    (d.filter (· != v)).length < d.length ↔ v ∈ d := by
  simp [List.length_filter_lt_length_iff_exists]

/-- what `stepX` does with the result of `append` / `remove`: the new data under the old `reverse`, or the
old state and the error -/
def settle (s : St) (r : Except XErr (List Nat)) : St × AnsX :=
  match r with
  | .ok d => (⟨d, s.rev⟩, .ok)
  | .error e => (s, .err e)

theorem settle_err (s : St) (r : Except XErr (List Nat)) (e : XErr) (h : (settle s r).2 = .err e) :
    (settle s r).1 = s := by
  cases r with
  | ok _ => cases h
  | error _ => rfl

theorem settle_rev (d : List Nat) (r1 r2 : Bool) (r : Except XErr (List Nat)) :
    (settle ⟨d, r1⟩ r).2 = (settle ⟨d, r2⟩ r).2 ∧ (settle ⟨d, r1⟩ r).1.data = (settle ⟨d, r2⟩ r).1.data := by
  cases r <;> exact ⟨rfl, rfl⟩

end Ccp.RangeX
