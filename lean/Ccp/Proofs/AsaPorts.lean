import Ccp.Model.Asa
import Ccp.Proofs.Py
/-! Port specifications of `L4Object` (`ladder`, `parseSpec`, `portList`) for C20: what the ladder answers on an
operator followed by operand words, and that decimal numbers and the names of the generated service tables
are such words. -/
namespace Ccp.Asa
open Ccp.Py

theorem mem_portList_range (a b k : Nat) : k ∈ portList (.range a b) ↔ a ≤ k ∧ k ≤ b := by
  simp only [portList, List.mem_range'_1]; omega

theorem mem_portList_lt (n k : Nat) : k ∈ portList (.lt n) ↔ 1 ≤ k ∧ k < n := by
  simp only [portList, List.mem_range'_1]; omega

theorem mem_portList_gt (n k : Nat) : k ∈ portList (.gt n) ↔ n < k ∧ k ≤ 65535 := by
  simp only [portList, List.mem_range'_1]; omega

theorem mem_portList_neq (n k : Nat) : k ∈ portList (.neq n) ↔ (1 ≤ k ∧ k ≤ 65535) ∧ k ≠ n := by
  simp only [portList, List.mem_filter, List.mem_range'_1, bne_iff_ne]; omega

theorem portList_sorted (op : PortOp) : (portList op).Pairwise (· < ·) := by
  cases op <;> simp only [portList]
  · simp
  · exact List.pairwise_lt_range'
  · exact List.pairwise_lt_range'
  · exact List.pairwise_lt_range'
  · exact List.Pairwise.filter _ List.pairwise_lt_range'

theorem mem_of_hasSub {pat s : Str} (h : hasSub pat s = true) : ∀ c ∈ pat, c ∈ s := by
  induction s with
  | nil => simp [hasSub] at h; simp [h]
  | cons a as ih =>
    rw [hasSub, Bool.or_eq_true, List.isPrefixOf_iff_prefix] at h
    intro c hc
    rcases h with h | h
    · exact h.subset hc
    · exact List.mem_cons_of_mem _ (ih h c hc)

theorem hasSub_eq_false {pat s : Str} (c : Char) (hc : c ∈ pat) (hs : c ∉ s) : hasSub pat s = false :=
  Bool.eq_false_iff.mpr fun h => hs (mem_of_hasSub h c hc)

theorem hasSub_prefix (pat s : Str) : hasSub pat (pat ++ s) = true := by
  cases hp : pat ++ s with
  | nil => simp at hp; simp [hp.1, hasSub]
  | cons a as =>
    simp only [hasSub, Bool.or_eq_true]; left
    rw [← hp]; simp

theorem words_append (t rest : Str) (hne : t ≠ []) (h : ∀ c ∈ t, isSpace c = false)
    (hr : ∀ c ∈ rest.head?, isSpace c = true) : words (t ++ rest) = t :: words rest := by
  induction t with
  | nil => exact absurd rfl hne
  | cons a as ih =>
    obtain ⟨ha, has⟩ := List.forall_mem_cons.mp h
    cases as with
    | nil =>
      cases rest with
      | nil => simp [words, ha]
      | cons d r => simp [words, ha, hr d rfl]
    | cons b bs =>
      have hb := has b (by simp)
      have := ih (by simp) has
      simp only [List.cons_append] at this ⊢
      rw [words.eq_def]
      simp only [ha, hb, Bool.false_eq_true, if_false, this]

theorem words_single (t : Str) (hne : t ≠ []) (h : ∀ c ∈ t, isSpace c = false) : words t = [t] := by
  simpa [words] using words_append t [] hne h (by simp)

theorem words_cons_word (t rest : Str) (sp : Char) (hne : t ≠ []) (h : ∀ c ∈ t, isSpace c = false)
    (hsp : isSpace sp = true) : words (t ++ sp :: rest) = t :: words rest := by
  simpa [words, hsp] using words_append t (sp :: rest) hne h (by simpa using hsp)

theorem bound_nat (lo hi n : Nat) :
    inPorts (Int.ofNat lo) (Int.ofNat hi) (Int.ofNat n) = decide (lo ≤ n ∧ n ≤ hi) := by
  simp only [inPorts, Int.ofNat_eq_natCast, Int.ofNat_le, Bool.decide_and]

/-- bounds written as numerals, as `ladder` writes them (`no_index`: a numeral is indexed as a literal) -/
theorem inPorts_ofNat (lo hi n : Nat) :
    inPorts (no_index (OfNat.ofNat lo)) (no_index (OfNat.ofNat hi)) (n : Int) =
      decide (OfNat.ofNat lo ≤ n ∧ n ≤ OfNat.ofNat hi) :=
  bound_nat lo hi n

section Operands

/-- What `ladder` needs of the word `w` written for the number `n`: it is one blank-free word, and the
table lookup followed by `int()` answers `n`. -/
structure Operand (tbl : List (String × Nat)) (w : Str) (n : Nat) : Prop where
  ne : w ≠ []
  noBlank : ∀ c ∈ w, isSpace c = false
  value : portValue tbl w = .ok (Int.ofNat n)

variable {tbl : List (String × Nat)} {w : Str} {n : Nat}

/-- every pattern the ladder looks for ends in a blank -/
theorem Operand.not_hasSub (h : Operand tbl w n) (pat : Str) (hp : ' ' ∈ pat) : hasSub pat w = false :=
  hasSub_eq_false ' ' hp fun hm => absurd (h.noBlank _ hm) (by decide)

theorem Operand.words_kw (h : Operand tbl w n) (kw : Str) (hne : kw ≠ []) (hk : ∀ c ∈ kw, isSpace c = false) :
    words (kw ++ ' ' :: w) = [kw, w] := by
  rw [words_cons_word kw w ' ' hne hk (by decide), words_single w h.ne h.noBlank]

theorem Operand.strip_append (h : Operand tbl w n) (pre : Str) (hp : ∀ c ∈ pre.head?, isSpace c = false) :
    strip (pre ++ w) = pre ++ w := by
  refine strip_id _ (fun c hc => ?_) (fun c hc => ?_)
  · cases pre with
    | nil => exact h.noBlank c (List.mem_of_mem_head? hc)
    | cons k ks => exact hp c hc
  · rw [List.getLast?_append] at hc
    cases hl : w.getLast? with
    | none => exact absurd (List.getLast?_eq_none_iff.mp hl) h.ne
    | some x => rw [hl] at hc; cases hc; exact h.noBlank c (List.mem_of_getLast? hl)

theorem Operand.strip_range_append (h : Operand tbl w n) (a : Str) :
    strip ("range ".toList ++ (a ++ ' ' :: w)) = "range ".toList ++ (a ++ ' ' :: w) := by
  simpa using h.strip_append ("range ".toList ++ (a ++ [' '])) (by simp; decide)

/- `simp` walks the `"neq " in …`, `"eq " in …` tests of `ladder`
over the literal keyword; behind the keyword no pattern can match, since the operand holds no blank. -/
attribute [local simp] ladder hasSub List.isPrefixOf bind Except.bind isSpace_blank inPorts_ofNat

theorem ladder_eq (h : Operand tbl w n) : ladder tbl ("eq ".toList ++ w) =
    if 1 ≤ n ∧ n ≤ 65535 then .ok (.eq n) else .error .requirementFailure := by
  have hw := h.words_kw "eq".toList (by decide) (by decide)
  simp at hw
  simp [h.not_hasSub, hw, h.value]

theorem ladder_neq (h : Operand tbl w n) : ladder tbl ("neq ".toList ++ w) =
    if 1 ≤ n ∧ n ≤ 65535 then .ok (.neq n) else .error .requirementFailure := by
  have hw := h.words_kw "neq".toList (by decide) (by decide)
  simp at hw
  simp [hw, h.value]

theorem ladder_lt (h : Operand tbl w n) : ladder tbl ("lt ".toList ++ w) =
    if 2 ≤ n ∧ n ≤ 65535 then .ok (.lt n) else .error .requirementFailure := by
  have hw := h.words_kw "lt".toList (by decide) (by decide)
  simp at hw
  simp [h.not_hasSub, hw, h.value]

theorem ladder_gt (h : Operand tbl w n) : ladder tbl ("gt ".toList ++ w) =
    if 1 ≤ n ∧ n ≤ 65534 then .ok (.gt n) else .error .requirementFailure := by
  have hw := h.words_kw "gt".toList (by decide) (by decide)
  simp at hw
  simp [h.not_hasSub, hw, h.value]

theorem ladder_bare (h : Operand tbl w n) : ladder tbl w =
    if 1 ≤ n ∧ n ≤ 65535 then .ok (.eq n) else .error .requirementFailure := by
  have hc : w.all (fun c => !isSpace c) = true := List.all_eq_true.mpr (by simpa using h.noBlank)
  simp [h.not_hasSub, h.ne, hc, h.value]

/-- `range a b` reaches its branch only if the two operands with the blank between them spell neither
`neq ` nor `eq ` (a first operand ending in `eq` would) -/
theorem ladder_range {a b : Str} {m : Nat} (ha : Operand tbl a n) (hb : Operand tbl b m)
    (hn : hasSub "neq ".toList (a ++ ' ' :: b) = false) (he : hasSub "eq ".toList (a ++ ' ' :: b) = false) :
    ladder tbl ("range ".toList ++ (a ++ ' ' :: b)) =
      if 1 ≤ n ∧ n ≤ m ∧ m ≤ 65535 then .ok (.range n m) else .error .requirementFailure := by
  have hw : words ("range ".toList ++ (a ++ ' ' :: b)) = ["range".toList, a, b] := by
    rw [show "range ".toList ++ (a ++ ' ' :: b) = "range".toList ++ ' ' :: (a ++ ' ' :: b) by simp,
      words_cons_word _ _ ' ' (by decide) (by decide) (by decide), hb.words_kw a ha.ne ha.noBlank]
  simp at hw hn he
  simp [hn, he, hw, ha.value, hb.value]
  by_cases h1 : m < n
  · simp [h1]; omega
  · have : (1 ≤ (n : Int) ∧ (m : Int) ≤ 65535) ↔ (1 ≤ n ∧ n ≤ m ∧ m ≤ 65535) := by omega
    simp [h1, this]

/-- An entry (name, number) of a service table as `ladder` sees it: the name is a word of printable ASCII that
does not begin with a digit (so no number is shadowed by a name) and that, written twice with a blank
between, spells neither `neq ` nor `eq `; looking the name up finds the number; every operator accepts it. -/
def serviceOk (names : List (Str × Nat)) (e : Str × Nat) : Bool :=
  (match e.1 with | c :: _ => !isDigit c | [] => false) &&
  e.1.all (fun c => 33 ≤ c.toNat && c.toNat ≤ 126) &&
  !hasSub "neq ".toList (e.1 ++ ' ' :: e.1) && !hasSub "eq ".toList (e.1 ++ ' ' :: e.1) &&
  (names.find? (·.1 = e.1)).map (·.2) == some e.2 && 2 ≤ e.2 && e.2 ≤ 65534

def servicesOk (tbl : List (String × Nat)) : Bool :=
  let names := tbl.map (fun p => (p.1.toList, p.2))
  names.all (serviceOk names)

-- `toList_lit` spells the names out before the kernel runs the check: it decodes a string literal slowly
theorem tcp_services : servicesOk Gen.asaTcpPorts = true := by
  simp only [servicesOk, Gen.asaTcpPorts, List.map_cons, List.map_nil, toList_lit]; decide +kernel
theorem udp_services : servicesOk Gen.asaUdpPorts = true := by
  simp only [servicesOk, Gen.asaUdpPorts, List.map_cons, List.map_nil, toList_lit]; decide +kernel

theorem serviceOk_of_mem (ht : servicesOk tbl = true) {p : String × Nat} (hp : p ∈ tbl) :
    serviceOk (tbl.map (fun p => (p.1.toList, p.2))) (p.1.toList, p.2) = true :=
  List.all_eq_true.mp ht _ (List.mem_map.mpr ⟨p, hp, rfl⟩)

theorem operand_toDec (ht : servicesOk tbl = true) (n : Nat) : Operand tbl (toDec n) n := by
  refine ⟨toDec_ne_nil n, fun c hc => isSpace_of_isDigit c (toDec_digits n c hc), ?_⟩
  have : tbl.find? (fun p => p.1.toList = toDec n) = none := by
    rw [List.find?_eq_none]
    intro p hp heq
    have hp' := serviceOk_of_mem ht hp
    obtain ⟨c, cs, h, hd⟩ := toDec_cons n
    simp only [decide_eq_true_eq] at heq
    simp [serviceOk, heq, h, hd] at hp'
  simp [portValue, this, pyInt_toDec]

theorem operand_service (ht : servicesOk tbl = true) {p : String × Nat} (hp : p ∈ tbl) :
    Operand tbl p.1.toList p.2 ∧ hasSub "neq ".toList (p.1.toList ++ ' ' :: p.1.toList) = false ∧
      hasSub "eq ".toList (p.1.toList ++ ' ' :: p.1.toList) = false ∧ 2 ≤ p.2 ∧ p.2 ≤ 65534 := by
  have h := serviceOk_of_mem ht hp
  simp only [serviceOk, Bool.and_eq_true, Bool.not_eq_true', List.all_eq_true, decide_eq_true_eq,
    beq_iff_eq, List.find?_map, Option.map_map] at h
  obtain ⟨⟨⟨⟨⟨⟨h0, h1⟩, hn⟩, he⟩, hf⟩, h2⟩, h3⟩ := h
  refine ⟨⟨?_, fun c hc => isSpace_of_printable c (h1 c hc).1 (by have := (h1 c hc).2; omega), ?_⟩, hn, he, h2, h3⟩
  · intro e; simp [e] at h0
  · unfold portValue
    cases hq : tbl.find? (fun q => decide (q.1.toList = p.1.toList)) with
    | none => simp [Function.comp_def, hq] at hf
    | some q => simp [Function.comp_def, hq] at hf; simp [hf]

end Operands

def specText : PortOp → Str
  | .eq n => "eq ".toList ++ toDec n
  | .range a b => "range ".toList ++ (toDec a ++ ' ' :: toDec b)
  | .lt n => "lt ".toList ++ toDec n
  | .gt n => "gt ".toList ++ toDec n
  | .neq n => "neq ".toList ++ toDec n

/-- the operand bounds `L4Object` enforces; within them every operator denotes a non-empty subset of 1..65535 -/
def valid : PortOp → Bool
  | .eq n => 1 ≤ n && n ≤ 65535
  | .range a b => 1 ≤ a && a ≤ b && b ≤ 65535
  | .lt n => 2 ≤ n && n ≤ 65535
  | .gt n => 1 ≤ n && n ≤ 65534
  | .neq n => 1 ≤ n && n ≤ 65535

/-- the two protocols `L4Object` knows -/
def isProto (p : Str) : Prop := p = "tcp".toList ∨ p = "udp".toList

/-- the service-name table `L4Object` consults for a protocol -/
def portTable (proto : Str) : List (String × Nat) :=
  if proto = "tcp".toList then Gen.asaTcpPorts else Gen.asaUdpPorts

theorem parseSpec_asa {proto : Str} (hp : isProto proto) (s : Str) :
    parseSpec proto "asa".toList s = ladder (portTable proto) (strip s) := by
  rcases hp with rfl | rfl <;> simp [parseSpec, portTable]

theorem portTable_ok {proto : Str} (hp : isProto proto) : servicesOk (portTable proto) = true := by
  rcases hp with rfl | rfl
  · exact tcp_services
  · exact udp_services

theorem parseSpec_specText (proto : Str) (hp : isProto proto) (op : PortOp) :
    parseSpec proto "asa".toList (specText op) = if valid op then .ok op else .error .requirementFailure := by
  have d := operand_toDec (portTable_ok hp)
  rw [parseSpec_asa hp]
  cases op with
  | eq n => rw [specText, (d n).strip_append _ (by decide), ladder_eq (d n)]; simp [valid]
  | lt n => rw [specText, (d n).strip_append _ (by decide), ladder_lt (d n)]; simp [valid]
  | gt n => rw [specText, (d n).strip_append _ (by decide), ladder_gt (d n)]; simp [valid]
  | neq n => rw [specText, (d n).strip_append _ (by decide), ladder_neq (d n)]; simp [valid]
  | range a b =>
    have hne : ∀ p : Char, isDigit p = false → p ≠ ' ' → p ∉ toDec a ++ ' ' :: toDec b := fun p h1 h2 => by
      simp [not_mem_of_digits _ (toDec_digits a) p h1, not_mem_of_digits _ (toDec_digits b) p h1, h2]
    rw [specText, (d b).strip_range_append,
      ladder_range (d a) (d b) (hasSub_eq_false 'n' (by decide) (hne _ (by decide) (by decide)))
        (hasSub_eq_false 'e' (by decide) (hne _ (by decide) (by decide)))]
    simp [valid, and_assoc]

theorem parseSpec_bare (proto : Str) (hp : isProto proto) (n : Nat) :
    parseSpec proto "asa".toList (toDec n) = if valid (.eq n) then .ok (.eq n) else .error .requirementFailure := by
  have d := operand_toDec (portTable_ok hp) n
  rw [parseSpec_asa hp, strip_noSpace _ d.noBlank, ladder_bare d]
  simp [valid]

def errOf {α : Type} : Except Err α → Option Err
  | .error e => some e
  | .ok _ => none

def okIs (r : Except Err PortOp) (op : PortOp) : Bool :=
  match r with
  | .ok o => o == op
  | .error _ => false

theorem okIs_eq {r : Except Err PortOp} {op : PortOp} (h : okIs r op = true) : r = .ok op := by
  cases r with
  | error e => simp [okIs] at h
  | ok o => simp [okIs] at h; rw [h]

def namedOk (proto : Str) (p : String × Nat) : Bool :=
  let nm := p.1.toList
  okIs (parseSpec proto "asa".toList ("eq ".toList ++ nm)) (.eq p.2) &&
  okIs (parseSpec proto "asa".toList nm) (.eq p.2) &&
  okIs (parseSpec proto "asa".toList ("neq ".toList ++ nm)) (.neq p.2) &&
  okIs (parseSpec proto "asa".toList ("lt ".toList ++ nm)) (.lt p.2) &&
  okIs (parseSpec proto "asa".toList ("gt ".toList ++ nm)) (.gt p.2) &&
  okIs (parseSpec proto "asa".toList ("range ".toList ++ (nm ++ ' ' :: nm))) (.range p.2 p.2)

theorem named_ok {proto : Str} (hp : isProto proto) {p : String × Nat} (hm : p ∈ portTable proto) :
    namedOk proto p = true := by
  obtain ⟨h, hn, he, h2, h3⟩ := operand_service (portTable_ok hp) hm
  have h1 : 1 ≤ p.2 ∧ p.2 ≤ 65535 := by omega
  simp only [namedOk, parseSpec_asa hp, strip_noSpace _ h.noBlank, h.strip_range_append p.1.toList,
    h.strip_append "eq ".toList (by decide), h.strip_append "neq ".toList (by decide),
    h.strip_append "lt ".toList (by decide), h.strip_append "gt ".toList (by decide),
    ladder_eq h, ladder_bare h, ladder_neq h, ladder_lt h, ladder_gt h, ladder_range h h hn he]
  simp [okIs, h1, h2, h3]

end Ccp.Asa
