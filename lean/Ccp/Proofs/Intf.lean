import Ccp.Model.Intf
import Ccp.Proofs.Range
import Ccp.Proofs.Py
/-!
C15.  Interfaces of one shape compare (`sort_list`, `<`) as their numeric keys do (`lt_same_shape`); the members of
a range differ in one numeric cell of `sort_list`, so they sort as their numbers (`sortedMembers_vary`);
`parse ∘ render` is the identity on the canonical descriptions (`Canon`), and `parse` constructs no others.
-/
namespace Ccp.Intf
open Ccp.Py

theorem listLt_cons_self (c : Cell) (as bs : List Cell) : listLt (c :: as) (c :: bs) = listLt as bs := by
  simp [listLt]

theorem listLt_cons_int (m n : Nat) (as bs : List Cell) (h : m ≠ n) :
    listLt (.int m :: as) (.int n :: bs) = .ok (decide (m < n)) := by
  simp [listLt, cellLt, h]

theorem listLt_self (l : List Cell) : listLt l l = .ok false := by
  induction l with
  | nil => rfl
  | cons a as ih => rw [listLt_cons_self, ih]

theorem strLt_irrefl (u : Str) : strLt u u = false := by
  induction u with
  | nil => rfl
  | cons a as ih => simp [strLt, ih]

def shape (i : Intf) : Bool × Bool × Bool × Bool × Bool :=
  (i.slot.isSome, i.card.isSome, i.sub.isSome, i.chan.isSome, i.cls.isSome)

def key (i : Intf) : List Nat :=
  i.slot.toList ++ i.card.toList ++ [i.port] ++ i.sub.toList ++ i.chan.toList

def lexLt : List Nat → List Nat → Bool
  | [], [] => false
  | [], _ :: _ => true
  | _ :: _, [] => false
  | a :: as, b :: bs => if a = b then lexLt as bs else a < b

def clsLt : Option Str → Option Str → Bool
  | some u, some v => strLt u v
  | _, _ => false

/-- One step of the lexicographic comparison: a numeric component that is present on both sides or
on neither is compared as the head of the keys.  `ka`, `kb` are the keys of the remaining
components, `r` is the answer when all keys agree. -/
theorem listLt_cellOf_cons (x y : Option Nat) (h : x.isSome = y.isSome) (as bs : List Cell)
    (ka kb : List Nat) (r : Bool) (ih : listLt as bs = .ok (if ka = kb then r else lexLt ka kb)) :
    listLt (cellOf x :: as) (cellOf y :: bs) =
      .ok (if x.toList ++ ka = y.toList ++ kb then r else lexLt (x.toList ++ ka) (y.toList ++ kb)) := by
  cases x <;> cases y <;> try cases h
  · exact (listLt_cons_self _ _ _).trans ih
  · rename_i m n
    by_cases hmn : m = n
    · subst hmn; rw [cellOf, listLt_cons_self, ih]; simp [lexLt]
    · rw [cellOf, cellOf, listLt_cons_int _ _ _ _ hmn]; simp [lexLt, hmn]

theorem lt_same_shape (a b : Intf) (h : shape a = shape b) :
    lt a b = .ok (if key a = key b then clsLt a.cls b.cls else lexLt (key a) (key b)) := by
  simp only [shape, Prod.mk.injEq] at h
  obtain ⟨h1, h2, h3, h4, h5⟩ := h
  -- the last cell: class words, present on both sides or on neither
  have hcls : listLt ((sortList a).drop 5) ((sortList b).drop 5) = .ok (clsLt a.cls b.cls) := by
    simp only [sortList, List.drop]
    revert h5
    cases a.cls <;> cases b.cls <;> intro h5 <;> try cases h5
    · rfl
    · rename_i u v
      by_cases huv : u = v
      · subst huv; simp [listLt, clsLt, strLt_irrefl]
      · simp [listLt, cellLt, clsLt, huv]
  -- before it, `sortList` is the five numeric cells (the port always present)
  have : lt a b = _ := listLt_cellOf_cons _ _ h1 _ _ _ _ _ <| listLt_cellOf_cons _ _ h2 _ _ _ _ _ <|
    listLt_cellOf_cons (some a.port) (some b.port) rfl _ _ _ _ _ <| listLt_cellOf_cons _ _ h3 _ _ _ _ _ <|
    listLt_cellOf_cons _ _ h4 _ _ [] [] _ (hcls.trans (congrArg _ (if_pos rfl).symm))
  simpa [key] using this

def vary (b : Intf) (a : Attr) (n : Nat) : Intf := setAttr b a (some n)

theorem sortList_vary (b : Intf) (a : Attr) :
    ∃ p s, ∀ n, (vary b a n).pfx = b.pfx ∧ sortList (vary b a n) = p ++ .int n :: s := by
  cases a
  · exact ⟨(sortList b).take 4, (sortList b).drop 5, fun _ => ⟨rfl, rfl⟩⟩
  · exact ⟨(sortList b).take 3, (sortList b).drop 4, fun _ => ⟨rfl, rfl⟩⟩
  · exact ⟨(sortList b).take 2, (sortList b).drop 3, fun _ => ⟨rfl, rfl⟩⟩

theorem lt_vary (b : Intf) (a : Attr) (x y : Nat) : lt (vary b a x) (vary b a y) = .ok (decide (x < y)) := by
  obtain ⟨p, s, h⟩ := sortList_vary b a
  rw [lt, (h x).2, (h y).2]
  clear h
  induction p with
  | cons c p ih => exact (listLt_cons_self c _ _).trans ih
  | nil =>
    by_cases hxy : x = y
    · subst hxy; simp [listLt_self]
    · exact listLt_cons_int x y s s hxy

theorem eq_vary (b : Intf) (a : Attr) (x y : Nat) : eq (vary b a x) (vary b a y) = decide (x = y) := by
  obtain ⟨p, s, h⟩ := sortList_vary b a
  by_cases hxy : x = y <;> simp [eq, h, hxy]

theorem insertMember_vary (b : Intf) (a : Attr) (x : Nat) (l : List Nat) :
    insertMember (vary b a x) (l.map (vary b a)) = .ok ((Ccp.Range.insertAsc x l).map (vary b a)) := by
  induction l with
  | nil => rfl
  | cons y ys ih =>
    simp only [List.map_cons, insertMember, eq_vary, lt_vary, Ccp.Range.insertAsc]
    by_cases h1 : x = y
    · subst h1; simp
    · by_cases h2 : x < y
      · simp [h1, h2]
      · simp [h1, h2, ih]

theorem sortedMembers_vary (b : Intf) (a : Attr) (ns : List Nat) :
    sortedMembers (ns.map (vary b a)) = .ok ((Ccp.Range.sortedSet ns).map (vary b a)) := by
  induction ns with
  | nil => rfl
  | cons n ns ih =>
    simp only [List.map_cons, sortedMembers, ih]
    exact insertMember_vary b a n _

theorem plan_attr (text : Str) (b : Intf) (a : Attr) (ps : List (Option Nat × Option Nat))
    (h : plan text = .ok (b, a, ps)) : a = iterAttr b := by
  unfold plan at h
  split at h
  · cases h
  · split at h
    · cases h
    · simp only at h
      split at h
      · cases h
      · simp only [Except.ok.injEq, Prod.mk.injEq] at h
        obtain ⟨h1, h2, _⟩ := h
        rw [← h1, ← h2]

/-- `int(str(n)) = n` for the `int()` of this model -/
theorem natOf_toDec (n : Nat) : natOf (toDec n) = n :=
  Option.some.inj ((ofDigitsAux_digits _ 0 (toDec_digits n)).symm.trans (ofDigitsAux_toDec n))

/-- the head of `t` is not a digit -/
def NDH (t : Str) : Prop := ∀ c, t.head? = some c → isDigit c = false

theorem digits_take (n : Nat) (t : Str) (ht : NDH t) :
    (toDec n ++ t).takeWhile isDigit = toDec n ∧ (toDec n ++ t).dropWhile isDigit = t :=
  takeWhile_append_stop isDigit _ t (toDec_digits n) ht

theorem word_facts (c : Char) (h : isWordCh c = true) : isDigit c = false ∧ isSpace c = false := by
  have hr : 45 ≤ c.toNat ∧ c.toNat ≤ 122 ∧ ¬ (48 ≤ c.toNat ∧ c.toNat ≤ 57) := by
    simp only [isWordCh, isAlpha, Bool.or_eq_true, Bool.and_eq_true, decide_eq_true_eq, beq_iff_eq] at h
    rcases h with (h | h) | rfl
    · omega
    · omega
    · decide
  exact ⟨by simpa [isDigit] using hr.2.2, isSpace_of_printable c (by omega) (by omega)⟩

theorem digit_not_word (c : Char) (h : isDigit c = true) : isWordCh c = false := by
  cases hw : isWordCh c with
  | false => rfl
  | true => rw [(word_facts c hw).1] at h; cases h

theorem short_of_digit (c : Char) (h : isDigit c = true) : isShortCh c = true := by simp [isShortCh, h]

def LastIs (P : Char → Prop) (l : Str) : Prop := ∀ c, l.getLast? = some c → P c

theorem LastIs.mono {P Q : Char → Prop} {l : Str} (h : LastIs P l) (hpq : ∀ c, P c → Q c) : LastIs Q l :=
  fun c hc => hpq c (h c hc)

theorem lastIs_of_all {P : Char → Prop} {l : Str} (h : ∀ c ∈ l, P c) : LastIs P l :=
  fun c hc => h c (List.mem_of_getLast? hc)

theorem LastIs.append_right {P : Char → Prop} {b : Str} (a : Str) (hb : LastIs P b) (hne : b ≠ []) :
    LastIs P (a ++ b) := by
  intro c hc
  rw [List.getLast?_append] at hc
  cases h : b.getLast? with
  | none => exact absurd (List.getLast?_eq_none_iff.mp h) hne
  | some d => rw [h] at hc; cases hc; exact hb _ h

theorem LastIs.append {P : Char → Prop} {a b : Str} (ha : LastIs P a) (hb : LastIs P b) : LastIs P (a ++ b) := by
  by_cases h : b = []
  · rw [h, List.append_nil]; exact ha
  · exact hb.append_right a h

theorem searchAfter_append (ch : Char) (l t : Str) (h : ch ∉ l) : searchAfter ch (l ++ t) = searchAfter ch t := by
  induction l with
  | nil => rfl
  | cons c cs ih =>
    have hc : c ≠ ch := fun e => h (by simp [e])
    simpa [searchAfter, hc] using ih (fun hm => h (by simp [hm]))

/-- `re.search` for the mark `m` finds the optional number written after `m`, when `m` occurs nowhere else -/
theorem searchAfter_optNum (m : Char) (x : Option Nat) (pre post : Str) (h1 : m ∉ pre) (h2 : m ∉ post)
    (hn : NDH post) : searchAfter m (pre ++ (optNum m x ++ post)) = x := by
  rw [searchAfter_append _ _ _ h1]
  cases x with
  | some n => simp [optNum, searchAfter, (digits_take n post hn).1, toDec_ne_nil, natOf_toDec]
  | none =>
    have := searchAfter_append m post [] h2
    rwa [List.append_nil] at this

/-- a class word as the grammar has it: non-empty, over `[A-Za-z-]` -/
def GoodCls (cls : Option Str) : Prop := ∀ w, cls = some w → w ≠ [] ∧ ∀ c ∈ w, isWordCh c = true

/-- what `render` puts after the number -/
def tl (sub chan : Option Nat) (cls : Option Str) : Str := optNum '.' sub ++ (optNum ':' chan ++ clsStr cls)

theorem ndh_cls (cls : Option Str) : NDH (clsStr cls) := by
  cases cls with
  | none => intro c h; cases h
  | some w => intro c h; cases h; decide

theorem ndh_optNum (m : Char) (hm : isDigit m = false) (x : Option Nat) (t : Str) (ht : NDH t) :
    NDH (optNum m x ++ t) := by
  cases x with
  | none => exact ht
  | some n => intro c h; cases h; exact hm

theorem ndh_tl (sub chan : Option Nat) (cls : Option Str) : NDH (tl sub chan cls) :=
  ndh_optNum '.' (by decide) _ _ (ndh_optNum ':' (by decide) _ _ (ndh_cls cls))

theorem mem_clsStr (cls : Option Str) (hg : GoodCls cls) : ∀ c ∈ clsStr cls, c = ' ' ∨ isWordCh c = true := by
  cases cls with
  | none => simp [clsStr]
  | some w =>
    intro c hc
    rcases List.mem_cons.mp hc with rfl | hc
    · exact Or.inl rfl
    · exact Or.inr ((hg w rfl).2 c hc)

theorem mem_optNum (m : Char) (x : Option Nat) : ∀ c ∈ optNum m x, c = m ∨ isDigit c = true := by
  cases x with
  | none => simp [optNum]
  | some n =>
    intro c hc
    rcases List.mem_cons.mp hc with rfl | hc
    · exact Or.inl rfl
    · exact Or.inr (toDec_digits n c hc)

theorem tl_short (sub chan : Option Nat) (cls : Option Str) (hg : GoodCls cls) :
    ∀ c ∈ tl sub chan cls, isShortCh c = true := by
  intro c hc
  simp only [tl, List.mem_append] at hc
  rcases hc with hc | hc | hc
  · exact (mem_optNum '.' sub c hc).elim (fun h => by rw [h]; decide) (short_of_digit c)
  · exact (mem_optNum ':' chan c hc).elim (fun h => by rw [h]; decide) (short_of_digit c)
  · rcases mem_clsStr cls hg c hc with rfl | h
    · decide
    · simp [isShortCh, isPfxCh, h]

theorem lastIs_optNum (m : Char) (x : Option Nat) : LastIs (isDigit · = true) (optNum m x) := by
  cases x with
  | none => exact lastIs_of_all (by simp [optNum])
  | some n => exact (lastIs_of_all (toDec_digits n)).append_right [m] (toDec_ne_nil n)

theorem lastIs_clsStr (cls : Option Str) (hg : GoodCls cls) : LastIs (isWordCh · = true) (clsStr cls) := by
  cases cls with
  | none => exact lastIs_of_all (by simp [clsStr])
  | some w => exact (lastIs_of_all (hg w rfl).2).append_right [' '] (hg w rfl).1

theorem classWord_of_last (r : Str) (h : LastIs (isWordCh · = false) r) : classWord r = none := by
  have : r.reverse.takeWhile isWordCh = [] := takeWhile_head _ _ (by simpa [LastIs] using h)
  simp only [classWord, this]
  split <;> simp

theorem classWord_append_word (x w : Str) (hne : w ≠ []) (hw : ∀ c ∈ w, isWordCh c = true) :
    classWord (x ++ ' ' :: w) = some w := by
  have hst := takeWhile_append_stop isWordCh w.reverse (' ' :: x.reverse)
    (fun c hc => hw c (List.mem_reverse.mp hc)) (by intro c h; cases h; decide)
  have hrev : (x ++ ' ' :: w).reverse = w.reverse ++ ' ' :: x.reverse := by simp
  unfold classWord
  rw [hrev, hst.1, hst.2]
  simp [hne, show isSpace ' ' = true by decide]

def slashed (x : Option Nat) (t : Str) : Str :=
  match x with
  | some n => toDec n ++ '/' :: t
  | none => t

/-- the number as `render` writes it with `/` as separator: `port`, `slot/port` or `slot/card/port` -/
def numStr (slot card : Option Nat) (port : Nat) : Str := slashed slot (slashed card (toDec port))

theorem mem_slashed (x : Option Nat) (t : Str) (c : Char) (h : c ∈ slashed x t) :
    isDigit c = true ∨ c = '/' ∨ c ∈ t := by
  cases x with
  | none => exact Or.inr (Or.inr h)
  | some n =>
    rcases List.mem_append.mp h with h | h
    · exact Or.inl (toDec_digits n c h)
    · exact Or.inr (List.mem_cons.mp h)

theorem slashed_head (x : Option Nat) (t : Str) (h : ∃ d r, t = d :: r ∧ isDigit d = true) :
    ∃ d r, slashed x t = d :: r ∧ isDigit d = true := by
  cases x with
  | none => exact h
  | some n =>
    obtain ⟨d, r, h1, h2⟩ := toDec_cons n
    exact ⟨d, r ++ '/' :: t, by rw [slashed, h1]; rfl, h2⟩

theorem lastIs_slashed {P : Char → Prop} (x : Option Nat) {t : Str} (h : LastIs P t ∧ t ≠ []) :
    LastIs P (slashed x t) ∧ slashed x t ≠ [] := by
  cases x with
  | none => exact h
  | some n => exact ⟨(h.1.append_right ['/'] h.2).append_right _ (by simp), by simp [slashed]⟩

theorem mem_numStr (slot card : Option Nat) (port : Nat) (c : Char) (h : c ∈ numStr slot card port) :
    isDigit c = true ∨ c = '/' := by
  rcases mem_slashed _ _ c h with h | h | h
  · exact Or.inl h
  · exact Or.inr h
  · rcases mem_slashed _ _ c h with h | h | h
    · exact Or.inl h
    · exact Or.inr h
    · exact Or.inl (toDec_digits port c h)

theorem lastIs_numStr (slot card : Option Nat) (port : Nat) :
    LastIs (isDigit · = true) (numStr slot card port) ∧ numStr slot card port ≠ [] :=
  lastIs_slashed _ (lastIs_slashed _ ⟨lastIs_of_all (toDec_digits port), toDec_ne_nil port⟩)

theorem not_mem_numStr (slot card : Option Nat) (port : Nat) (ch : Char) (h1 : isDigit ch = false) (h2 : ch ≠ '/') :
    ch ∉ numStr slot card port := by
  intro hm
  rcases mem_numStr _ _ _ _ hm with h | h
  · rw [h1] at h; cases h
  · exact h2 h

theorem fields_of_render (slot card : Option Nat) (port : Nat) (sub chan : Option Nat) (cls : Option Str)
    (hg : GoodCls cls) :
    searchAfter '.' (numStr slot card port ++ tl sub chan cls) = sub ∧
    searchAfter ':' (numStr slot card port ++ tl sub chan cls) = chan ∧
    classWord (numStr slot card port ++ tl sub chan cls) = cls := by
  have hcls : ∀ c, c ≠ ' ' → isWordCh c = false → c ∉ clsStr cls := fun c h1 h2 h =>
    (mem_clsStr cls hg c h).elim h1 (fun hw => by rw [h2] at hw; cases hw)
  have hnum : ∀ c m x, c ≠ m → isDigit c = false → c ∉ optNum m x := fun c m x h1 h2 h =>
    (mem_optNum m x c h).elim h1 (fun hd => by rw [h2] at hd; cases hd)
  refine ⟨?_, ?_, ?_⟩
  · exact searchAfter_optNum '.' sub _ _ (not_mem_numStr _ _ _ '.' (by decide) (by decide))
      (fun h => (List.mem_append.mp h).elim (hnum _ _ _ (by decide) (by decide)) (hcls _ (by decide) (by decide)))
      (ndh_optNum ':' (by decide) _ _ (ndh_cls cls))
  · rw [tl, ← List.append_assoc]
    exact searchAfter_optNum ':' chan _ _
      (fun h => (List.mem_append.mp h).elim (not_mem_numStr _ _ _ ':' (by decide) (by decide))
        (hnum _ _ _ (by decide) (by decide)))
      (hcls _ (by decide) (by decide)) (ndh_cls cls)
  · cases cls with
    | some w =>
      have := classWord_append_word (numStr slot card port ++ (optNum '.' sub ++ optNum ':' chan)) w (hg w rfl).1 (hg w rfl).2
      simpa [tl, clsStr] using this
    | none =>
      apply classWord_of_last
      have := (lastIs_numStr slot card port).1.append ((lastIs_optNum '.' sub).append (lastIs_optNum ':' chan))
      simpa [tl, clsStr] using this.mono digit_not_word

theorem firstDigits_dec (n : Nat) (t : Str) (ht : NDH t) : firstDigits (toDec n ++ t) = some (toDec n) := by
  obtain ⟨d, r, h1, h2⟩ := toDec_cons n
  have hhead : ∀ c, (toDec n ++ t).head? = some c → (!isDigit c) = false := by
    intro c hc; rw [h1] at hc; cases hc; simp [h2]
  simp [firstDigits, dropWhile_head _ _ hhead, (digits_take n t ht).1, toDec_ne_nil]

theorem optSep_of_short (t : Str) (h : ∀ c ∈ t, isShortCh c = true) : optSep t = (none, t) := by
  cases t with
  | nil => rfl
  | cons a as => simp [optSep, isSepCh, h a (by simp)]

theorem optDigits_none (t : Str) (ht : NDH t) : optDigits t = (none, t) := by
  simp [optDigits, takeWhile_head isDigit t ht]

theorem optDigits_dec (n : Nat) (t : Str) (ht : NDH t) : optDigits (toDec n ++ t) = (some n, t) := by
  simp [optDigits, (digits_take n t ht).1, (digits_take n t ht).2, toDec_ne_nil, natOf_toDec]

theorem ndh_slash (t : Str) : NDH ('/' :: t) := by
  intro c hc; cases hc; decide

theorem optSep_slash (t : Str) : optSep ('/' :: t) = (some '/', t) := by
  simp [optSep, show isSepCh '/' = true by decide]

/-- `slot/port…` : the second number is first taken for the card; `slot/card/port…` -/
theorem scan_numStr (s : Nat) (card : Option Nat) (p : Nat) (t : Str) (ht : NDH t)
    (hs : ∀ c ∈ t, isShortCh c = true) :
    scanSlotCardPort (numStr (some s) card p ++ t) =
      some (s, some '/', match card with | some c => (some c, some p) | none => (some p, none)) := by
  unfold scanSlotCardPort
  cases card <;>
    simp only [numStr, slashed, List.append_assoc, List.cons_append,
      (digits_take s _ (ndh_slash _)).1, (digits_take s _ (ndh_slash _)).2, toDec_ne_nil, if_false,
      natOf_toDec, optSep_slash, optDigits_dec _ _ (ndh_slash _), optDigits_dec p _ ht,
      optSep_of_short t hs, optDigits_none t ht]

theorem matchHead_split (cls : Char → Bool) (pfx r : Str) (hp : ∀ c ∈ pfx, isPfxCh c = true)
    (hr : ∀ c, r.head? = some c → isPfxCh c = false) (hne : r ≠ []) (hall : ∀ c ∈ pfx ++ r, cls c = true) :
    matchHead cls (pfx ++ r) = some (pfx, r) := by
  obtain ⟨h1, h2⟩ := takeWhile_append_stop isPfxCh pfx r hp hr
  simp [matchHead, h1, h2, List.all_eq_true.mpr hall, hne]

theorem matchHead_none (cls : Char → Bool) (s : Str) (c : Char) (hc : c ∈ s) (h : cls c = false) :
    matchHead cls s = none := by
  have : s.all cls = false := by
    cases hh : s.all cls with
    | false => rfl
    | true => rw [List.all_eq_true.mp hh c hc] at h; cases h
  simp [matchHead, this]

/-- the patterns cut `pfx ++ r` after the prefix: the short pattern when `r` has no `/`, otherwise only the long one -/
theorem parseSingle_split (pfx r : Str) (d : Char) (t : Str) (hr : r = d :: t) (hd : isDigit d = true)
    (hp : ∀ c ∈ pfx, isPfxCh c = true) (hstrip : strip pfx = pfx)
    (hlast : LastIs (isSpace · = false) r) (hch : ∀ c ∈ r, isShortCh c = true ∨ c = '/') :
    parseSingle (pfx ++ r) = if '/' ∈ r then parseLong (pfx, r) else parseShort (pfx, r) := by
  have hne : r ≠ [] := by simp [hr]
  have hhead : ∀ c, r.head? = some c → isDigit c = true := by
    intro c hc; rw [hr] at hc; cases hc; exact hd
  have hall : ∀ c ∈ pfx ++ r, isShortCh c = true ∨ (c = '/' ∧ c ∈ r) := by
    intro c hc
    rcases List.mem_append.mp hc with hc | hc
    · exact Or.inl (by simp [isShortCh, hp c hc])
    · exact (hch c hc).imp_right (fun h => ⟨h, hc⟩)
  have hlong : ∀ c ∈ pfx ++ r, isLongCh c = true := by
    intro c hc
    rcases hall c hc with h | ⟨rfl, _⟩
    · simp [isLongCh, h]
    · decide
  have hcomma : (pfx ++ r).contains ',' = false := by
    rw [List.contains_eq_mem, decide_eq_false_iff_not]
    exact fun h => absurd (hlong ',' h) (by decide)
  have hs : strip (pfx ++ r) = pfx ++ r := by
    refine strip_id _ ?_ (hlast.append_right pfx hne)
    intro c hc
    cases pfx with
    | nil => exact isSpace_of_isDigit c (hhead c hc)
    | cons a as => exact strip_head (a :: as) c (by rw [hstrip]; simpa using hc)
  have hpfx : ∀ c, r.head? = some c → isPfxCh c = false := fun c hc => by
    simp [isPfxCh, digit_not_word c (hhead c hc), isSpace_of_isDigit c (hhead c hc)]
  unfold parseSingle
  simp only [hcomma, hs, Bool.false_eq_true, if_false]
  by_cases hsl : '/' ∈ r
  · rw [if_pos hsl, matchHead_none isShortCh _ '/' (List.mem_append_right _ hsl) (by decide),
      matchHead_split isLongCh pfx _ hp hpfx hne hlong]
  · rw [if_neg hsl, matchHead_split isShortCh pfx _ hp hpfx hne
      (fun c hc => (hall c hc).resolve_right (fun h => hsl (h.1 ▸ h.2)))]

/-- what every constructed interface looks like -/
structure Canon (d : Intf) : Prop where
  pfxch : ∀ c ∈ d.pfx, isPfxCh c = true
  pfxstrip : strip d.pfx = d.pfx
  shape : (d.slot = none ∧ d.card = none ∧ d.sep = none) ∨ (d.slot.isSome = true ∧ d.sep = some '/')
  cls : GoodCls d.cls

theorem canon_roundtrip (d : Intf) (h : Canon d) : ∃ s, render d = .ok s ∧ parse s = .ok d := by
  obtain ⟨pfx, sep, slot, card, port, sub, chan, cls⟩ := d
  obtain ⟨hp, hst, hshape, hc⟩ := h
  simp only at hp hst hshape hc
  -- the name is `pfx ++ number ++ tail`: the patterns cut it after the prefix (`hsplit`), the searches find
  -- subinterface, channel and class word in the rest, and the scan of its head gives the number back
  obtain ⟨hsub, hchan, hcls⟩ := fields_of_render slot card port sub chan cls hc
  obtain ⟨d0, t0, hd0, hdig⟩ : ∃ d r, numStr slot card port = d :: r ∧ isDigit d = true :=
    slashed_head _ _ (slashed_head _ _ (toDec_cons port))
  have hsplit := parseSingle_split pfx (numStr slot card port ++ tl sub chan cls) d0 (t0 ++ tl sub chan cls)
    (by rw [hd0]; rfl) hdig hp hst
    (((lastIs_numStr slot card port).1.mono isSpace_of_isDigit).append
      (((lastIs_optNum '.' sub).mono isSpace_of_isDigit).append
        (((lastIs_optNum ':' chan).mono isSpace_of_isDigit).append
          ((lastIs_clsStr cls hc).mono (fun c h => (word_facts c h).2)))))
    (fun c hc' => (List.mem_append.mp hc').elim
      (fun h => (mem_numStr _ _ _ c h).imp_left (short_of_digit c))
      (fun h => Or.inl (tl_short sub chan cls hc c h)))
  refine ⟨pfx ++ (numStr slot card port ++ tl sub chan cls), ?_, ?_⟩
  · rcases hshape with ⟨rfl, rfl, rfl⟩ | ⟨hs, rfl⟩
    · simp [render, number, numStr, slashed, tl]
    · cases slot with
      | none => cases hs
      | some s => cases card <;> simp [render, number, numStr, slashed, tl, sepStr]
  · unfold parse
    rw [hsplit]
    rcases hshape with ⟨rfl, rfl, rfl⟩ | ⟨hs, rfl⟩
    · have hno : '/' ∉ numStr none none port ++ tl sub chan cls := fun h => (List.mem_append.mp h).elim
        (not_mem_of_digits _ (toDec_digits port) '/' (by decide))
        (fun h => absurd (tl_short sub chan cls hc _ h) (by decide))
      rw [if_neg hno, parseShort, hsub, hchan, hcls]
      simp [numStr, slashed, firstDigits_dec port _ (ndh_tl sub chan cls), natOf_toDec, updateInternalState, hst]
    · cases slot with
      | none => cases hs
      | some s =>
        rw [if_pos (List.mem_append_left _ (by simp [numStr, slashed])), parseLong, hsub, hchan, hcls,
          scan_numStr s card port _ (ndh_tl sub chan cls) (tl_short sub chan cls hc)]
        cases card <;> simp [updateInternalState, hst]

theorem classWord_good (r : Str) : GoodCls (classWord r) := by
  intro w hw
  unfold classWord at hw
  simp only at hw
  split at hw
  · split at hw
    · rename_i hcond
      cases hw
      simp only [Bool.and_eq_true, bne_iff_ne, ne_eq] at hcond
      refine ⟨hcond.2, ?_⟩
      intro c hc
      have : c ∈ r.reverse.takeWhile isWordCh := by simpa using hc
      exact mem_takeWhile_imp _ _ c this
    · cases hw
  · cases hw

theorem matchHead_spec (cls : Char → Bool) (t : Str) (g : Str × Str) (h : matchHead cls t = some g) :
    (∀ c ∈ g.1, isPfxCh c = true) ∧ (∀ c ∈ g.2, cls c = true) := by
  unfold matchHead at h
  split at h
  · cases h
  · rename_i hcond
    simp only [Bool.or_eq_true, decide_eq_true_eq, Bool.not_eq_true', not_or, Bool.not_eq_false] at hcond
    have hall : ∀ c ∈ t, cls c = true := List.all_eq_true.mp hcond.2
    simp only at h
    split at h
    · rename_i hnil
      cases h
      -- nothing is dropped: `t` is its own `takeWhile`
      have ht := List.takeWhile_append_dropWhile (p := isPfxCh) (l := t)
      rw [hnil, List.append_nil] at ht
      exact ⟨fun c hc => mem_takeWhile_imp isPfxCh t c (by rw [ht]; exact List.dropLast_subset t hc),
        fun c hc => hall c (List.drop_subset _ t hc)⟩
    · cases h
      exact ⟨mem_takeWhile_imp _ _, fun c hc => hall c ((List.dropWhile_sublist _).mem hc)⟩

theorem optSep_mem (r : Str) (sp : Char) (h : (optSep r).1 = some sp) : sp ∈ r ∧ isSepCh sp = true := by
  cases r with
  | nil => simp [optSep] at h
  | cons c cs =>
    by_cases hc : isSepCh c = true
    · simp [optSep, hc] at h; subst h; exact ⟨by simp, hc⟩
    · simp [optSep, hc] at h

theorem scan_sep (r : Str) (sl : Nat) (sp : Char) (c p : Option Nat)
    (h : scanSlotCardPort r = some (sl, some sp, c, p)) : sp ∈ r ∧ isSepCh sp = true := by
  unfold scanSlotCardPort at h
  simp only at h
  split at h
  · cases h
  · simp only [Option.some.injEq, Prod.mk.injEq] at h
    obtain ⟨_, h2, _⟩ := h
    obtain ⟨hm, hs⟩ := optSep_mem _ sp h2
    exact ⟨(List.dropWhile_sublist _).mem hm, hs⟩

/-- `Canon`, before `update_internal_state` -/
def RawOK (r : Raw) : Prop :=
  (∀ c ∈ r.pfx, isPfxCh c = true) ∧ strip r.pfx = r.pfx ∧ GoodCls r.cls ∧
  ((r.slot = none ∧ r.card = none ∧ r.sep = none) ∨ (r.slot.isSome = true ∧ r.sep = some '/'))

theorem parseShort_ok (g : Str × Str) (r : Raw) (hg : ∀ c ∈ g.1, isPfxCh c = true)
    (h : parseShort g = .ok r) : RawOK r := by
  unfold parseShort at h
  split at h
  · cases h
  · cases h
    exact ⟨fun c hc => hg c (strip_mem _ _ hc), strip_strip _, classWord_good _, Or.inl ⟨rfl, rfl, rfl⟩⟩

theorem parseLong_ok (g : Str × Str) (r : Raw) (hg : ∀ c ∈ g.1, isPfxCh c = true)
    (hl : ∀ c ∈ g.2, isLongCh c = true) (h : parseLong g = .ok r) : RawOK r := by
  unfold parseLong at h
  split at h
  · cases h
  · rename_i slot sep1 card port hscan
    simp only at h
    split at h
    · cases h
    · rename_i sp
      cases h
      obtain ⟨hm, hs⟩ := scan_sep _ _ _ _ _ hscan
      have : sp = '/' := by
        simp only [isSepCh, Bool.not_eq_true'] at hs
        simpa [isLongCh, hs] using hl sp hm
      subst this
      exact ⟨fun c hc => hg c (strip_mem _ _ hc), strip_strip _, classWord_good _, Or.inr ⟨rfl, rfl⟩⟩

theorem parseSingle_ok (s : Str) (r : Raw) (h : parseSingle s = .ok r) : RawOK r := by
  unfold parseSingle at h
  split at h
  · cases h
  · simp only at h
    split at h
    · rename_i g hm
      exact parseShort_ok g r (matchHead_spec _ _ g hm).1 h
    · split at h
      · rename_i g hm
        exact parseLong_ok g r (matchHead_spec _ _ g hm).1 (matchHead_spec _ _ g hm).2 h
      · cases h

theorem parse_canon (s : Str) (d : Intf) (h : parse s = .ok d) : Canon d := by
  unfold parse at h
  split at h
  · rename_i r hr
    obtain ⟨h1, h2, h3, h4⟩ := parseSingle_ok s r hr
    rw [← h2] at h1
    have hst : strip (strip r.pfx) = strip r.pfx := by rw [h2, h2]
    unfold updateInternalState at h
    split at h
    · rename_i sl p hsl hp
      cases h
      refine ⟨h1, hst, ?_, h3⟩
      rcases h4 with ⟨h5, _, _⟩ | ⟨_, h6⟩
      · rw [hsl] at h5; cases h5
      · exact Or.inr ⟨rfl, h6⟩
    · rename_i p hsl hp
      cases h
      refine ⟨h1, hst, ?_, h3⟩
      rcases h4 with ⟨_, _, h7⟩ | ⟨h5, _⟩
      · exact Or.inl ⟨rfl, rfl, h7⟩
      · rw [hsl] at h5; cases h5
    · cases h
  · cases h

end Ccp.Intf
