import Ccp.Proofs.EditList
import Ccp.Proofs.TreeForest
import Ccp.Proofs.TreeLossless
/-!
Vocabulary and helper lemmas of C06 and C07 about the edit state machine `Ccp.Model.Edit`: what
`commit` establishes (`FreshInv`, `AutoInv`), what every operation does, for both settings of the
auto-commit flag at once (`step_shape`; the facts about a single step are read off it, a history
is a fold of `step`), the identities of the committed objects (`idsOf`, `IdsSub`), and where
`append_to_family` puts its line.  The list primitives are in `EditList`, the re-bootstrapping
loop in `TreeLossless`.
-/
namespace Ccp.Edit
open Ccp.Py Ccp.Tree

theorem bootstrap_idempotent (cfg : Cfg) (ls : List Str) :
    bootstrap cfg (bootstrap cfg ls).texts = bootstrap cfg ls :=
  -- the left side is `parse cfg ls` unfolded
  Ccp.Tree.parse_eq_bootstrap cfg ls

theorem parse_eq_bootstrap (cfg : Cfg) (ls : List Str) : parse cfg ls = bootstrap cfg ls :=
  Ccp.Tree.parse_eq_bootstrap cfg ls

theorem bootstrap_noignore (cfg : Cfg) (ls : List Str) (h : cfg.ignoreBlank = false) :
    bootstrap cfg ls = link cfg ls := bootstrapFuel_noIgnore cfg h _ ls

theorem bootstrap_texts_noignore (cfg : Cfg) (ls : List Str) (h : cfg.ignoreBlank = false) :
    (bootstrap cfg ls).texts = ls := by rw [bootstrap_noignore cfg ls h, link_texts_ll]

theorem bootstrap_texts (cfg : Cfg) (ls : List Str) :
    (bootstrap cfg ls).texts.Sublist ls ∧
    (bootstrap cfg ls).texts.filter (fun x => !isBlank x) = ls.filter (fun x => !isBlank x) := by
  rw [bootstrap_texts_eq]
  split
  · have hs := keptTexts_sublist (link cfg ls)
    have hn := keptTexts_nonBlank _ (link_wf cfg ls)
    rw [link_texts_ll] at hs hn
    exact ⟨hs, hn⟩
  · exact ⟨.refl _, rfl⟩

instance : DecidableEq (Except Err Unit) := fun a b =>
  match a, b with
  | .ok (), .ok () => isTrue rfl
  | .error e, .error e' =>
    if h : e = e' then isTrue (h ▸ rfl) else isFalse (fun h' => by cases h'; exact h rfl)
  | .ok _, .error _ => isFalse (fun h => by cases h)
  | .error _, .ok _ => isFalse (fun h => by cases h)

theorem committedItems_texts (t : T) : (committedItems t).map Item.text = t.texts := by
  simp [committedItems, Function.comp_def]

theorem committedItems_ids (t : T) :
    (committedItems t).map Item.id = (List.range t.texts.length).map some := by
  simp only [committedItems, List.map_map]
  have : (Item.id ∘ fun p : Str × Nat => ({ text := p.1, id := some p.2 } : Item)) = some ∘ Prod.snd := rfl
  rw [this, ← List.map_map, List.zipIdx_map_snd, List.range_eq_range']

theorem committedItems_length (t : T) : (committedItems t).length = t.texts.length := by
  simp [committedItems]

theorem committedItems_getElem? (t : T) (k : Nat) :
    (committedItems t)[k]? = (t.texts[k]?).map fun x => { text := x, id := some k } := by
  simp only [committedItems, List.getElem?_map, List.getElem?_zipIdx, Option.map_map, Nat.zero_add]; rfl

@[simp] theorem fresh_text (txt : Str) : (fresh txt).text = txt := rfl

@[simp] theorem fresh_id (x : Str) : (fresh x).id = none := rfl

theorem items_map_text (s : S) : s.items.map Item.text = s.texts := rfl

theorem texts_length (s : S) : s.texts.length = s.items.length := by simp [S.texts]

theorem posOf_some {items : List Item} {h p : Nat} (hp : posOf items h = some p) :
    p < items.length ∧ (items[p]?).map Item.id = some (some h) ∧
    ∀ q, q < p → (items[q]?).map Item.id ≠ some (some h) := by
  obtain ⟨hlt, h1, h2⟩ := List.findIdx?_eq_some_iff_getElem.1 hp
  refine ⟨hlt, by simpa [List.getElem?_eq_getElem hlt] using h1, fun q hq => ?_⟩
  simpa [List.getElem?_eq_getElem (Nat.lt_trans hq hlt)] using h2 q hq

theorem findIdx?_committed (l : List Str) (k j : Nat) :
    (l.zipIdx k |>.map (fun p => ({ text := p.1, id := some p.2 } : Item))).findIdx? (fun it => it.id == some (k + j))
      = if j < l.length then some j else none := by
  induction l generalizing k j with
  | nil => rfl
  | cons a as ih =>
    rw [List.zipIdx_cons, List.map_cons, List.findIdx?_cons]
    cases j with
    | zero => simp
    | succ j =>
      have hne : ((some k : Option Nat) == some (k + (j + 1))) = false := by simp
      have := ih (k + 1) j
      rw [Nat.add_right_comm, Nat.add_assoc] at this
      simp only [hne, this, List.length_cons, Nat.add_lt_add_iff_right, Bool.false_eq_true, if_false]
      split <;> rfl

theorem posOf_committed (t : T) (h : Nat) :
    posOf (committedItems t) h = if h < t.texts.length then some h else none := by
  have := findIdx?_committed t.texts 0 h
  rwa [Nat.zero_add] at this

theorem setText_texts (items : List Item) (p : Nat) (txt : Str) :
    (setText items p txt).map Item.text = (items.map Item.text).set p txt := by
  unfold setText
  induction items generalizing p with
  | nil => simp
  | cons a as ih =>
    cases p with
    | zero => simp
    | succ p => simp [ih]

/-- the committed line numbers carried by the list elements, in list order -/
def idsOf (items : List Item) : List Nat := items.filterMap Item.id

def IdsDistinct (items : List Item) : Prop := (idsOf items).Nodup

def IdsSub (new old : List Item) : Prop := (idsOf new).Sublist (idsOf old)

theorem idsOf_committed (t : T) : idsOf (committedItems t) = List.range t.texts.length := by
  simp [idsOf, committedItems, List.filterMap_map, Function.comp_def, List.range_eq_range']

theorem idsDistinct_committed (t : T) : IdsDistinct (committedItems t) := by
  unfold IdsDistinct; rw [idsOf_committed]; exact List.nodup_range

theorem IdsSub.of_eq {new old : List Item} (h : idsOf new = idsOf old) : IdsSub new old := by
  unfold IdsSub; rw [h]; exact List.Sublist.refl _

theorem idsSub_of_sublist {new old : List Item} (h : new.Sublist old) : IdsSub new old :=
  h.filterMap _

theorem idsOf_insert_fresh (l : List Item) (j : Nat) (x : Str) :
    idsOf (l.take j ++ fresh x :: l.drop j) = idsOf l := by
  unfold idsOf
  rw [List.filterMap_append, List.filterMap_cons]
  show List.filterMap Item.id (List.take j l) ++ List.filterMap Item.id (List.drop j l) = _
  rw [← List.filterMap_append, List.take_append_drop]

theorem idsOf_pyInsert (l : List Item) (k : Int) (x : Str) : idsOf (pyInsert l k (fresh x)) = idsOf l := by
  rw [pyInsert_eq]; exact idsOf_insert_fresh l _ x

theorem idsOf_setText (l : List Item) (p : Nat) (x : Str) : idsOf (setText l p x) = idsOf l := by
  unfold idsOf setText
  induction l generalizing p with
  | nil => simp
  | cons a as ih =>
    cases p with
    | zero => simp [List.filterMap_cons]
    | succ p => simp [List.filterMap_cons, ih]

theorem getElem_id_of {items : List Item} {h p : Nat} (hp : (items[p]?).map Item.id = some (some h)) :
    ∃ hlt : p < items.length, items[p].id = some h := by
  obtain ⟨it, e, hi⟩ := Option.map_eq_some_iff.1 hp
  obtain ⟨hlt, rfl⟩ := List.getElem?_eq_some_iff.1 e
  exact ⟨hlt, hi⟩

theorem idsDistinct_unique {items : List Item} (hd : IdsDistinct items) {h p q : Nat}
    (hp : (items[p]?).map Item.id = some (some h)) (hq : (items[q]?).map Item.id = some (some h)) :
    p = q := by
  unfold IdsDistinct idsOf at hd
  rw [List.Nodup, List.pairwise_filterMap, List.pairwise_iff_getElem] at hd
  obtain ⟨hpl, hp⟩ := getElem_id_of hp
  obtain ⟨hql, hq⟩ := getElem_id_of hq
  rcases Nat.lt_trichotomy p q with hlt | rfl | hlt
  · exact absurd rfl (hd p q hpl hql hlt h hp h hq)
  · rfl
  · exact absurd rfl (hd q p hql hpl hlt h hq h hp)

theorem commit_texts (s : S) : (commit s).texts = (bootstrap s.cfg s.texts).texts :=
  committedItems_texts _

/-- C07's invariant: a state without uncommitted changes holds the tree of a from-scratch parse of
its texts -/
def FreshInv (s : S) : Prop :=
  s.dirty = false →
    s.tree = parse s.cfg s.texts ∧ s.texts = s.tree.texts ∧ s.items = committedItems s.tree

/-- with auto-commit on there is never an uncommitted change nor a moved checkpoint -/
def AutoInv (s : S) : Prop := s.auto = true → s.dirty = false ∧ s.stale = false

theorem commit_fresh (s : S) :
    (commit s).tree = parse s.cfg (commit s).texts ∧ (commit s).texts = (commit s).tree.texts ∧
    (commit s).items = committedItems (commit s).tree := by
  refine ⟨?_, commit_texts s, rfl⟩
  rw [commit_texts]
  show bootstrap s.cfg s.texts = parse s.cfg (bootstrap s.cfg s.texts).texts
  rw [parse_eq_bootstrap, bootstrap_idempotent]

theorem commit_idempotent (s : S) : commit (commit s) = commit s := by
  have h : bootstrap s.cfg (commit s).texts = bootstrap s.cfg s.texts := by
    rw [commit_texts, bootstrap_idempotent]
  have h2 : commit (commit s) = S.mk s.cfg s.auto s.width
      (committedItems (bootstrap s.cfg (commit s).texts)) (bootstrap s.cfg (commit s).texts) false false := rfl
  rw [h2, h]; rfl

theorem init_fresh (cfg : Cfg) (auto : Bool) (width : Nat) (ls : List Str) :
    FreshInv (init cfg auto width ls) := by
  intro _
  have ht : (init cfg auto width ls).texts = (parse cfg ls).texts := committedItems_texts _
  refine ⟨?_, ht, rfl⟩
  rw [ht]
  show parse cfg ls = parse cfg (parse cfg ls).texts
  rw [parse_eq_bootstrap, parse_eq_bootstrap, bootstrap_idempotent]

theorem init_texts (cfg : Cfg) (auto : Bool) (width : Nat) (ls : List Str) (h : cfg.ignoreBlank = false) :
    (init cfg auto width ls).texts = ls :=
  (committedItems_texts _).trans (by rw [parse_eq_bootstrap, bootstrap_texts_noignore cfg ls h])

theorem init_auto (cfg : Cfg) (auto : Bool) (width : Nat) (ls : List Str) :
    AutoInv (init cfg auto width ls) := fun _ => ⟨rfl, rfl⟩

theorem fresh_texts_fixed (s : S) (hd : s.dirty = false) (hinv : FreshInv s) :
    s.texts = (bootstrap s.cfg s.texts).texts := by
  have h := hinv hd
  have h2 := h.2.1
  rw [h.1, parse_eq_bootstrap] at h2
  exact h2

theorem autoCommit_off (s : S) (h : s.auto = false) : autoCommit s = s := by
  simp [autoCommit, h]

theorem autoCommit_on (s : S) (h : s.auto = true) : autoCommit s = commit s := by
  simp [autoCommit, h]

theorem edited_off (s : S) (its : List Item) (st : Bool) (ha : s.auto = false) :
    autoCommit { s with items := its, stale := st, dirty := true } = { s with items := its, stale := st, dirty := true } :=
  autoCommit_off _ ha

theorem edited_on (s : S) (its : List Item) (st : Bool) (ha : s.auto = true) :
    autoCommit { s with items := its, stale := st, dirty := true }
      = commit { s with items := its, stale := st, dirty := true } :=
  autoCommit_on _ ha

theorem autoCommit_frame (s : S) :
    (autoCommit s).cfg = s.cfg ∧ (autoCommit s).auto = s.auto ∧ (autoCommit s).width = s.width := by
  unfold autoCommit; split <;> exact ⟨rfl, rfl, rfl⟩

theorem autoCommit_fresh (s : S) (hd : s.dirty = true) : FreshInv (autoCommit s) := by
  unfold autoCommit; split
  · exact fun _ => commit_fresh s
  · intro h; rw [hd] at h; cases h

theorem autoCommit_autoInv (s : S) : AutoInv (autoCommit s) := by
  unfold autoCommit; split
  · exact fun _ => ⟨rfl, rfl⟩
  · exact fun ha => absurd ha ‹_›

/-- the commit that may follow an edit does not filter lines -/
def NoFilter (s : S) : Prop := s.auto = false ∨ s.cfg.ignoreBlank = false

theorem commit_texts_noignore (s : S) (h : s.cfg.ignoreBlank = false) : (commit s).texts = s.texts := by
  rw [commit_texts]; exact bootstrap_texts_noignore s.cfg s.texts h

theorem edited_texts (s : S) (hnf : NoFilter s) (its : List Item) (st : Bool) :
    (autoCommit { s with items := its, stale := st, dirty := true }).texts = its.map Item.text := by
  rcases hnf with h | h
  · rw [edited_off s its st h]; rfl
  · unfold autoCommit; split
    · exact commit_texts_noignore _ h
    · rfl

/-- What `op` does in state `s`, for every value `b` of the auto-commit flag at once (`step` looks at
the flag only through the `autoCommit` that ends a successful change): it leaves the state alone (a
refusal, a probe, a `re_sub` that changes nothing), it is the explicit `commit`, or it replaces the
list and ends in the auto-commit.  Only `insert` and `append_to_family` move the checkpoint.  (`hids`
and `hst` stand before `h`: they fix `its` and `st`, which unification under the binder of `h` finds
only at great cost.) -/
inductive StepShape (s : S) (op : Op) : Prop
  | stay (r : Except Err Unit) (h : ∀ b, step { s with auto := b } op = ({ s with auto := b }, r))
  | commit (h : op = .commit)
  | edit (its : List Item) (st : Bool) (hids : IdsSub its s.items)
      (hst : st = s.stale ∨ st = true ∧
        ((∃ k txt, op = .insert k txt) ∨ ∃ i txt ind ai, op = .appendToFamily i txt ind ai))
      (h : ∀ b, step { s with auto := b } op
        = (autoCommit { s with auto := b, items := its, stale := st, dirty := true }, .ok ()))

theorem step_shape (s : S) (op : Op) : StepShape s op := by
  cases op with
  | insert k txt =>
    exact .edit _ _ (.of_eq (idsOf_pyInsert s.items k txt)) (.inr ⟨rfl, .inl ⟨k, txt, rfl⟩⟩) fun _ => rfl
  | append txt =>
    exact .edit (s.items ++ [fresh txt]) _ (.of_eq (by simpa using idsOf_insert_fresh s.items s.items.length txt))
      (.inl rfl) fun _ => rfl
  | pop k =>
    cases h : pyPop s.items k with
    | none => exact .stay (.error .indexError) fun b => by simp only [step, h]
    | some l => exact .edit l _ (idsSub_of_sublist (pyPop_sublist h)) (.inl rfl) fun b => by simp only [step, h]
  | listInsBefore emptyRx row txt | listInsAfter emptyRx row txt =>
    by_cases h1 : (isBlank txt && s.cfg.ignoreBlank) = true
    · exact .stay _ fun b => if_pos h1
    by_cases h2 : emptyRx = true
    · exact .stay _ fun b => (if_neg h1).trans (if_pos h2)
    · exact .edit _ _ (.of_eq (insertAtMatches_filterMap Item.id _ (fresh txt) s.items row rfl)) (.inl rfl)
        fun b => (if_neg h1).trans (if_neg h2)
  | objInsBefore h txt | objInsAfter h txt =>
    cases hp : posOf s.items h with
    | none => exact .stay (.error .dirtyHandle) fun b => by simp only [step, hp]
    | some p =>
      by_cases h1 : (isBlank txt && s.cfg.ignoreBlank) = true
      · exact .stay (.error .invalidParameters) fun b => by simp only [step, hp, if_pos h1]
      · exact .edit _ _ (.of_eq (idsOf_insert_fresh s.items _ txt)) (.inl rfl)
          fun b => by simp only [step, hp]; exact if_neg h1
  | delete i =>
    by_cases h1 : (s.dirty || decide (i ≥ s.items.length)) = true
    · exact .stay _ fun b => if_pos h1
    · exact .edit _ _ (idsSub_of_sublist (eraseAll_sublist s.items (descendantsAndSelf s.tree i))) (.inl rfl)
        fun b => if_neg h1
  | appendToFamily i txt ind ai =>
    by_cases h1 : (s.dirty || decide (i ≥ s.items.length)) = true
    · exact .stay _ fun b => if_pos h1
    by_cases h2 : (ai && decide (ind > 0)) = true
    · exact .stay _ fun b => (if_neg h1).trans (if_pos h2)
    cases h3 : appendIndex s.tree s.width i (familyText (indentOf s.tree i) s.width txt ind ai) with
    | error e => exact .stay (.error e) fun b => by simp only [step, if_neg h1, if_neg h2, h3]
    | ok idx =>
      exact .edit _ true (.of_eq (idsOf_pyInsert s.items idx (familyText (indentOf s.tree i) s.width txt ind ai)))
        (.inr ⟨rfl, .inr ⟨i, txt, ind, ai, rfl⟩⟩) fun b => by simp only [step, if_neg h1, if_neg h2, h3]
  | replaceText h before after =>
    cases hp : posOf s.items h with
    | none => exact .stay (.error .dirtyHandle) fun b => by simp only [step, hp]
    | some p =>
      exact .edit _ _ (.of_eq (idsOf_setText s.items p (pyReplace before after (s.texts.getD p [])))) (.inl rfl)
        fun b => by simp only [step, hp]; rfl
  | reSub h newText =>
    cases hp : posOf s.items h with
    | none => exact .stay (.error .dirtyHandle) fun b => by simp only [step, hp]
    | some p =>
      by_cases h1 : s.stale = true
      · exact .stay (.error .notImplemented) fun b => by simp only [step, hp, if_pos h1]
      by_cases h2 : newText = s.texts.getD p []
      · exact .stay (.ok ()) fun b => by simp only [step, hp]; exact (if_neg h1).trans (if_pos h2)
      · exact .edit _ _ (.of_eq (idsOf_setText s.items p newText)) (.inl rfl)
          fun b => by simp only [step, hp]; exact (if_neg h1).trans (if_neg h2)
  | commit => exact .commit rfl
  | probe => exact .stay (if s.stale then .error .notImplemented else .ok ()) fun _ => rfl

theorem step_cases (s : S) (op : Op) :
    (step s op).1 = s ∨ (step s op).1 = commit s ∨
    ∃ its st, (step s op).1 = autoCommit { s with items := its, stale := st, dirty := true } ∧
      (st = true ∨ st = s.stale) ∧ (step s op).2 = .ok () := by
  cases step_shape s op with
  | stay r h => exact .inl (congrArg Prod.fst (h s.auto))
  | commit h => exact .inr (.inl (h ▸ rfl))
  | edit its st _ hst h =>
    exact .inr (.inr ⟨its, st, congrArg Prod.fst (h s.auto), hst.elim .inr (.inl ·.1), congrArg Prod.snd (h s.auto)⟩)

theorem step_error_unchanged (s : S) (op : Op) (e : Err) (h : (step s op).2 = .error e) :
    (step s op).1 = s := by
  cases step_shape s op with
  | stay r hs => exact congrArg Prod.fst (hs s.auto)
  | commit hc => subst hc; cases h
  | edit its st _ _ hs => cases (congrArg Prod.snd (hs s.auto)).symm.trans h

theorem step_frame (s : S) (op : Op) :
    (step s op).1.cfg = s.cfg ∧ (step s op).1.auto = s.auto ∧ (step s op).1.width = s.width := by
  rcases step_cases s op with h | h | ⟨txts, st, h, _⟩ <;> rw [h]
  · exact ⟨rfl, rfl, rfl⟩
  · exact ⟨rfl, rfl, rfl⟩
  · exact autoCommit_frame _

theorem step_fresh (s : S) (op : Op) (h : FreshInv s) : FreshInv (step s op).1 := by
  rcases step_cases s op with e | e | ⟨txts, st, e, _⟩ <;> rw [e]
  · exact h
  · exact fun _ => commit_fresh s
  · exact autoCommit_fresh _ rfl

theorem step_autoInv (s : S) (op : Op) (h : AutoInv s) : AutoInv (step s op).1 := by
  rcases step_cases s op with e | e | ⟨txts, st, e, _⟩ <;> rw [e]
  · exact h
  · exact fun _ => ⟨rfl, rfl⟩
  · exact autoCommit_autoInv _

theorem step_tree_unchanged (s : S) (op : Op) (ha : s.auto = false) (hop : op ≠ .commit) :
    (step s op).1.tree = s.tree := by
  cases step_shape s op with
  | stay r h => exact congrArg (·.1.tree) (h s.auto)
  | commit h => exact absurd h hop
  | edit its st _ _ h =>
    rw [show step s op = _ from h s.auto, edited_off s its st ha]

theorem step_stale_keeps (s : S) (op : Op) (ha : s.auto = false) (hs : s.stale = true) (hop : op ≠ .commit) :
    (step s op).1.stale = true := by
  cases step_shape s op with
  | stay r h => exact (congrArg (·.1.stale) (h s.auto)).trans hs
  | commit h => exact absurd h hop
  | edit its st _ hst h =>
    rw [show step s op = _ from h s.auto, edited_off s its st ha]
    exact hst.elim (·.trans hs) (·.1)

theorem step_ids (s : S) (op : Op) :
    (∃ t, (step s op).1.items = committedItems t) ∨ IdsSub (step s op).1.items s.items := by
  cases step_shape s op with
  | stay r h => rw [show step s op = _ from h s.auto]; exact .inr (List.Sublist.refl _)
  | commit h => subst h; exact .inl ⟨_, rfl⟩
  | edit its st hids _ h =>
    rw [show step s op = _ from h s.auto]
    unfold autoCommit; split
    · exact .inl ⟨_, rfl⟩
    · exact .inr hids

theorem step_idsDistinct (s : S) (op : Op) (h : IdsDistinct s.items) : IdsDistinct (step s op).1.items := by
  rcases step_ids s op with ⟨t, ht⟩ | hs
  · rw [ht]; exact idsDistinct_committed t
  · exact List.Nodup.sublist hs h

theorem auto_step_texts (s : S) (op : Op) (ha : s.auto = true) (hd : s.dirty = false) (hinv : FreshInv s) :
    (step s op).1.texts = (bootstrap s.cfg (step { s with auto := false } op).1.texts).texts ∧
    (step s op).2 = (step { s with auto := false } op).2 := by
  cases step_shape s op with
  | stay r h =>
    rw [show step s op = _ from h s.auto, h false]
    exact ⟨fresh_texts_fixed s hd hinv, rfl⟩
  | commit h =>
    subst h
    refine ⟨?_, rfl⟩
    show (commit s).texts = (bootstrap s.cfg (commit { s with auto := false }).texts).texts
    rw [commit_texts, commit_texts, bootstrap_idempotent]
    rfl
  | edit its st _ _ h =>
    rw [show step s op = _ from h s.auto, h false, edited_on s its st ha, autoCommit_off _ rfl]
    exact ⟨commit_texts _, rfl⟩

theorem run_eq_foldl (s : S) (ops : List Op) : run s ops = ops.foldl (fun s op => (step s op).1) s := by
  induction ops generalizing s with
  | nil => rfl
  | cons op ops ih => exact ih _

theorem run_induction {P : S → Prop} {s : S} (ops : List Op) (h : P s)
    (hstep : ∀ s, P s → ∀ op ∈ ops, P (step s op).1) : P (run s ops) := by
  rw [run_eq_foldl]; exact List.foldlRecOn ops _ h hstep

theorem run_append (s : S) (ops ops' : List Op) : run s (ops ++ ops') = run (run s ops) ops' := by
  simp only [run_eq_foldl, List.foldl_append]

theorem run_frame (s : S) (ops : List Op) :
    (run s ops).cfg = s.cfg ∧ (run s ops).auto = s.auto ∧ (run s ops).width = s.width :=
  run_induction (P := fun s' => s'.cfg = s.cfg ∧ s'.auto = s.auto ∧ s'.width = s.width) ops ⟨rfl, rfl, rfl⟩
    fun s' h op _ =>
      have h2 := step_frame s' op
      ⟨h2.1.trans h.1, h2.2.1.trans h.2.1, h2.2.2.trans h.2.2⟩

theorem run_fresh (s : S) (ops : List Op) (h : FreshInv s) : FreshInv (run s ops) :=
  run_induction ops h fun s h op _ => step_fresh s op h

theorem run_autoInv (s : S) (ops : List Op) (h : AutoInv s) : AutoInv (run s ops) :=
  run_induction ops h fun s h op _ => step_autoInv s op h

theorem run_idsDistinct (s : S) (ops : List Op) (h : IdsDistinct s.items) : IdsDistinct (run s ops).items :=
  run_induction (P := fun s => IdsDistinct s.items) ops h fun s h op _ => step_idsDistinct s op h

theorem run_stale_keeps (s : S) (ops : List Op) (ha : s.auto = false) (hs : s.stale = true)
    (hop : ∀ op ∈ ops, op ≠ .commit) : (run s ops).stale = true :=
  (run_induction (P := fun s => s.auto = false ∧ s.stale = true) ops ⟨ha, hs⟩ fun s h op hm =>
    ⟨(step_frame s op).2.1.trans h.1, step_stale_keeps s op h.1 h.2 (hop op hm)⟩).2

theorem step_appendToFamily_ok (s : S) (i : Nat) (txt : Str) (ind : Int) (ai : Bool)
    (hok : (step s (.appendToFamily i txt ind ai)).2 = .ok ()) :
    s.dirty = false ∧ i < s.items.length ∧ ¬ (ai = true ∧ ind > 0) ∧
    ∃ idx, appendIndex s.tree s.width i (familyText (indentOf s.tree i) s.width txt ind ai) = .ok idx ∧
      (step s (.appendToFamily i txt ind ai)).1
        = autoCommit { s with items := pyInsert s.items idx (fresh (familyText (indentOf s.tree i) s.width txt ind ai)),
                              stale := true, dirty := true } := by
  by_cases h1 : (s.dirty || decide (i ≥ s.items.length)) = true
  · cases (congrArg Prod.snd (if_pos h1)).symm.trans hok
  by_cases h2 : (ai && decide (ind > 0)) = true
  · cases (congrArg Prod.snd ((if_neg h1).trans (if_pos h2))).symm.trans hok
  cases h3 : appendIndex s.tree s.width i (familyText (indentOf s.tree i) s.width txt ind ai) with
  | error e => simp only [step, if_neg h1, if_neg h2, h3] at hok; cases hok
  | ok idx =>
    refine ⟨?_, ?_, by simpa using h2, idx, rfl, by simp only [step, if_neg h1, if_neg h2, h3]⟩
    · cases hd : s.dirty
      · rfl
      · simp [hd] at h1
    · simp at h1; omega

theorem cfi_eq (w si : Nat) (txt : Str) (hw : w ≠ 0) (hm : indent txt % w = 0) :
    cfi w si txt = some (Int.tdiv ((indent txt : Int) - (si : Int)) (w : Int)) := by
  unfold cfi
  dsimp only
  rw [if_neg hw]
  have : (indent txt % w != 0) = false := by simp [hm]
  rw [this]
  simp only [Bool.false_eq_true, if_false]
  split
  · next h => rw [h]; simp
  · rfl

theorem cfi_none (w si : Nat) (txt : Str) (h : w = 0 ∨ indent txt % w ≠ 0) : cfi w si txt = none := by
  unfold cfi
  dsimp only
  rcases h with h | h
  · rw [if_pos h]
  · by_cases hw : w = 0
    · rw [if_pos hw]
    · rw [if_neg hw]
      have : (indent txt % w != 0) = true := by simp [h]
      rw [this]; rfl

theorem cfi_self (w : Nat) (t : T) (i : Nat) (c : Int)
    (h : cfi w (indentOf t i) (t.texts.getD i []) = some c) : c = 0 := by
  unfold cfi indentOf at h
  dsimp only at h
  rw [if_pos rfl] at h
  split at h
  · cases h
  · split at h
    · cases h
    · exact (Option.some.inj h).symm

theorem appendIndex_child_level (t : T) (w self : Nat) (s : Str) (idx : Nat)
    (hk : children t self ≠ []) (h : appendIndex t w self s = .ok idx)
    (h0 : cfi w (indentOf t self) s ≠ some 0) :
    idx = familyEndpoint t self + 1 ∧ cfi w (indentOf t self) s = some 1 := by
  unfold appendIndex at h
  dsimp only at h
  rw [if_neg (by simpa using hk)] at h
  have hself := cfi_self w t self
  generalize cfi w (indentOf t self) (t.texts.getD ((children t self).getLast?.getD self) []) = cl at h
  generalize cfi w (indentOf t self) s = cs at h h0 ⊢
  generalize cfi w (indentOf t self) (t.texts.getD self []) = cself at h hself
  cases cl with
  | none => cases h
  | some c =>
    cases cs with
    | none => cases h
    | some ifi =>
      dsimp only at h
      rw [if_neg (fun hz => h0 (congrArg some hz))] at h
      cases cself with
      | none => cases h
      | some selfc =>
        cases hself selfc rfl
        dsimp only at h
        split at h
        · split at h
          · cases h
          · injection h with h
            exact ⟨h.symm, congrArg some (by omega)⟩
        · cases h

/-- known finding F10b: for a new line at the target's own indent the code inserts at
`self + |children|` -/
theorem appendIndex_same_indent (t : T) (w self : Nat) (s : Str) (idx : Nat)
    (hk : children t self ≠ []) (h : appendIndex t w self s = .ok idx)
    (h0 : cfi w (indentOf t self) s = some 0) :
    idx = self + (children t self).length := by
  unfold appendIndex at h
  dsimp only at h
  rw [if_neg (by simpa using hk)] at h
  split at h
  · rename_i c ifi hc hifi
    rw [h0] at hifi
    injection hifi with hifi
    subst hifi
    simp at h
    exact h.symm
  · cases h

theorem appendIndex_childless (t : T) (w self : Nat) (s : Str) (idx : Nat)
    (hk : children t self = []) (h : appendIndex t w self s = .ok idx) :
    (cfi w (indentOf t self) s = some 0 ∧
      ((siblings t self ≠ [] ∧ idx = ((siblings t self).getLast?).getD self + 1) ∨
       (siblings t self = [] ∧ ∃ l, lastFamilyLinenum t w self = some l ∧ idx = l + 1))) ∨
    (cfi w (indentOf t self) s = some 1 ∧ ∃ lp, lastParentLinenum0 t w self = some lp ∧ idx = lp + 1) := by
  unfold appendIndex at h
  dsimp only at h
  rw [if_pos (by rw [hk]; rfl)] at h
  split at h
  · rename_i lp this nfi hlp hthis hnfi
    have := cfi_self w t self this hthis
    subst this
    split at h
    · rename_i heq
      left
      refine ⟨by rw [hnfi, ← heq], ?_⟩
      split at h
      · rename_i hs
        left
        injection h with h
        exact ⟨by simpa using hs, h.symm⟩
      · rename_i hs
        right
        refine ⟨by simpa using hs, ?_⟩
        split at h
        · rename_i l hl
          injection h with h
          exact ⟨l, hl, h.symm⟩
        · cases h
    · split at h
      · rename_i h1
        right
        injection h with h
        refine ⟨by rw [hnfi, ← h1]; rfl, lp, hlp, h.symm⟩
      · cases h
  · cases h

theorem appendIndex_level (t : T) (w self : Nat) (s : Str) (idx : Nat)
    (h : appendIndex t w self s = .ok idx) :
    cfi w (indentOf t self) s = some 0 ∨ cfi w (indentOf t self) s = some 1 := by
  by_cases hk : children t self = []
  · rcases appendIndex_childless t w self s idx hk h with h | h
    · exact .inl h.1
    · exact .inr h.1
  · by_cases h0 : cfi w (indentOf t self) s = some 0
    · exact .inl h0
    · exact .inr (appendIndex_child_level t w self s idx hk h h0).2

theorem familyEndpoint_lt_size {t : T} (hf : Forest t) {i : Nat} (hi : i < t.size) :
    familyEndpoint t i < t.size := by
  rcases List.mem_cons.mp (familyEndpoint_max hf i).1 with h | h
  · rw [h]; exact hi
  · exact ancestors_lt_size hf ((mem_allChildren hf).mp h)

theorem delete_filter_forest {t : T} (hf : Forest t) (l : List Str) (i : Nat) :
    eraseAll l (descendantsAndSelf t i)
      = (l.zipIdx.filter (fun p => decide (p.2 ≠ i ∧ i ∉ ancestors t p.2))).map (·.1) := by
  rw [eraseAll_eq_filter]
  congr 1
  apply List.filter_congr
  intro p _
  have h3 := mem_allChildren hf (i := i) (j := p.2)
  by_cases h1 : p.2 = i <;> by_cases h2 : i ∈ ancestors t p.2 <;>
    simp [descendantsAndSelf, h1, h2, h3]

theorem delete_length_forest {t : T} (hf : Forest t) (l : List Str) (i : Nat) (hsz : t.size = l.length)
    (hi : i < l.length) :
    (eraseAll l (descendantsAndSelf t i)).length + 1 + (allChildren t i).length = l.length := by
  have h := eraseAll_length l (descendantsAndSelf t i) ?_ ?_
  · simp only [descendantsAndSelf, List.length_cons] at h ⊢; omega
  · refine List.nodup_cons.mpr ⟨?_, nodup_of_sorted (allChildren_sorted hf i)⟩
    intro hm
    have := ancestors_lt ((mem_allChildren hf).mp hm); omega
  · intro j hj
    rcases List.mem_cons.mp hj with rfl | hj
    · exact hi
    · have := ancestors_lt_size hf ((mem_allChildren hf).mp hj); omega

end Ccp.Edit
