import Ccp.Proofs.IosModels
import Ccp.Proofs.RangeCompress
/-!
`trunk_vlans_allowed` on a stanza: the dictionary the loop over the children builds from the one
`switchport trunk allowed vlan …` line of the grammar, evaluated through C14's range parser.  Then the accessors
of the interface line that scan its text: `port_type` and the lazy groups of `interface_number` /
`subinterface_number`.
-/
namespace Ccp.Ios
open Ccp.Py Ccp.Tree

/-- the word after `switchport trunk allowed vlan` in the description grammar -/
inductive AllowedWord : Str → Prop
  | all : AllowedWord kAll
  | none : AllowedWord kNone
  | list (ps : List (Nat × Option Nat)) (hne : ps ≠ []) : AllowedWord (Range.renderParts ps)

theorem renderPart_chars (p : Nat × Option Nat) : ∀ c ∈ Range.renderPart p, isDigit c = true ∨ c = '-' := by
  obtain ⟨lo, hi⟩ := p
  cases hi with
  | none => intro c hc; exact Or.inl (toDec_digits lo c hc)
  | some hi =>
    intro c hc
    simp only [Range.renderPart, List.mem_append, List.mem_cons] at hc
    rcases hc with h | rfl | h
    · exact Or.inl (toDec_digits lo c h)
    · exact Or.inr rfl
    · exact Or.inl (toDec_digits hi c h)

theorem renderParts_chars (ps : List (Nat × Option Nat)) :
    ∀ c ∈ Range.renderParts ps, isDigit c = true ∨ c = '-' ∨ c = ',' := by
  apply join_chars
  · intro c hc; simp at hc; exact Or.inr (Or.inr hc)
  · intro w hw c hc
    obtain ⟨p, _, rfl⟩ := List.mem_map.mp hw
    rcases renderPart_chars p c hc with h | h
    · exact Or.inl h
    · exact Or.inr (Or.inl h)

theorem renderParts_head (ps : List (Nat × Option Nat)) (hne : ps ≠ []) :
    ∃ c r, Range.renderParts ps = c :: r ∧ isDigit c = true := by
  cases ps with
  | nil => exact absurd rfl hne
  | cons p ps =>
    obtain ⟨lo, hi⟩ := p
    obtain ⟨c, r, hc, hdig⟩ := toDec_cons lo
    cases hi <;> cases ps <;> simp [Range.renderParts, Range.renderPart, join, hc] <;> exact hdig

theorem word_renderParts (ps : List (Nat × Option Nat)) (hne : ps ≠ []) : Word (Range.renderParts ps) := by
  obtain ⟨c, r, h, _⟩ := renderParts_head ps hne
  refine ⟨by rw [h]; simp, fun x hx => ?_⟩
  rcases renderParts_chars ps x hx with h | rfl | rfl
  · exact isSpace_of_isDigit x h
  · decide
  · decide

/-- a rendered vlan list starts with a digit, so it is none of the keywords (for a given `k` the hypothesis is a
closed Boolean: `by decide`) -/
theorem renderParts_ne (ps : List (Nat × Option Nat)) (hne : ps ≠ []) (k : Str)
    (hk : (match k with | c :: _ => !isDigit c | [] => false) = true) : Range.renderParts ps ≠ k := by
  obtain ⟨c, r, hc, hdig⟩ := renderParts_head ps hne
  intro e
  rw [hc] at e; subst e
  simp [hdig] at hk

theorem AllowedWord.word {v : Str} (h : AllowedWord v) : Word v := by
  cases h with
  | all => decide +kernel
  | none => decide +kernel
  | list ps hne => exact word_renderParts ps hne

def specAllowed : Item → Option Str
  | .allowed v => some v
  | _ => none

theorem specAllowed_eq_some {it : Item} {v : Str} (h : specAllowed it = some v) : it = .allowed v := by
  cases it <;> cases h
  rfl

theorem vdictStep_id (vd : VDict) (it : Item) (h : it.Valid) (hna : specAllowed it = none) :
    vdictStep vd it.render = vd := by
  have hw : ¬ it.words.take 4 = [kSwitchport, kTrunk, kAllowed, kVlan] := by
    cases it
    case allowed v => cases hna
    case switchport => nofun
    case mode | accessVlan => exact take_ne_at 1 rfl rfl (by decide +kernel)
    case nativeVlan => exact take_ne_at 2 rfl rfl (by decide +kernel)
    all_goals exact take_ne_of_not_sw h rfl
  rw [vdictStep]
  simp only [lex_render it h, map_fst_toksOf]
  exact if_neg hw

/-- the dictionary `trunkVlansAllowed` starts its loop over the children with -/
def vd0 : VDict := { allowed := allVlans, add := none, exc := none, rem := none }

/-- the dictionary after the one `allowed vlan` line of the grammar -/
def vdAfter (v : Str) : VDict :=
  if v = kNone then { vd0 with allowed := [] } else if v = kAll then vd0 else { vd0 with allowed := v }

/-- a vlan list is read by the last alternative of `(all|none|\d[\d\-\,\s]*)$` -/
theorem allowedGroup_list (ps : List (Nat × Option Nat)) (hne : ps ≠ []) :
    allowedGroup ind1 [(Range.renderParts ps, [])] = some (Range.renderParts ps) := by
  obtain ⟨c, r, hc, hdig⟩ := renderParts_head ps hne
  have hall : (Range.renderParts ps).all isVlanChar = true := by
    rw [List.all_eq_true]; intro x hx
    rcases renderParts_chars ps x hx with h | rfl | rfl
    · simp [isVlanChar, h]
    · decide
    · decide
  have hk : ¬ (Range.renderParts ps = kAll ∨ Range.renderParts ps = kNone) :=
    fun h => h.elim (renderParts_ne ps hne kAll (by decide)) (renderParts_ne ps hne kNone (by decide))
  rw [hc] at hall hk
  simp [allowedGroup, vlanListGroup, unlex, hc, hk, hdig, hall, ind1]

theorem vdictStep_allowed (v : Str) (hv : AllowedWord v) :
    vdictStep vd0 (Item.allowed v).render = vdAfter v := by
  have hg : allowedGroup ind1 [(v, [])] = some v ∧ v ≠ kAdd ∧ v ≠ kExcept ∧ v ≠ kRemove := by
    cases hv with
    | all => decide +kernel
    | none => decide +kernel
    | list ps hne =>
      exact ⟨allowedGroup_list ps hne, renderParts_ne ps hne kAdd (by decide), renderParts_ne ps hne kExcept (by decide),
        renderParts_ne ps hne kRemove (by decide)⟩
  rw [vdictStep]
  simp only [lex_render (.allowed v) hv.word, map_fst_toksOf]
  simp [Item.words, toksOf, hg, vd0, vdAfter]

theorem foldl_vdict_none (vd : VDict) (kids : List Item) (hv : ∀ it ∈ kids, it.Valid)
    (hn : kids.filterMap specAllowed = []) : (kids.map Item.render).foldl vdictStep vd = vd := by
  induction kids with
  | nil => rfl
  | cons k ks ih =>
    have hk : specAllowed k = none := by
      cases h : specAllowed k with
      | none => rfl
      | some v => rw [List.filterMap_cons_some h] at hn; cases hn
    rw [List.filterMap_cons_none hk] at hn
    rw [List.map_cons, List.foldl_cons, vdictStep_id vd k (hv k (by simp)) hk]
    exact ih (fun it hit => hv it (by simp [hit])) hn

theorem foldl_vdict_one (kids : List Item) (hv : ∀ it ∈ kids, it.Valid) (v : Str) (hw : AllowedWord v)
    (h1 : kids.filterMap specAllowed = [v]) : (kids.map Item.render).foldl vdictStep vd0 = vdAfter v := by
  induction kids with
  | nil => cases h1
  | cons k ks ih =>
    have hv' := fun it hit => hv it (List.mem_cons_of_mem k hit)
    rw [List.map_cons, List.foldl_cons]
    cases hk : specAllowed k with
    | none =>
      rw [List.filterMap_cons_none hk] at h1
      rw [vdictStep_id vd0 k (hv k (by simp)) hk]
      exact ih hv' h1
    | some v' =>
      rw [List.filterMap_cons_some hk] at h1
      obtain ⟨rfl, hrest⟩ := List.cons.inj h1
      rw [specAllowed_eq_some hk, vdictStep_allowed v' hw]
      exact foldl_vdict_none _ ks hv' hrest

theorem upto_sorted (lo hi : Nat) : (Range.upto lo hi).Pairwise (· < ·) := by
  unfold Range.upto
  rw [List.pairwise_map]
  exact (List.pairwise_lt_range).imp (fun h => by omega)

theorem applyVDict_parts (ps : List (Nat × Option Nat)) (hne : ps ≠ []) :
    applyVDict { allowed := Range.renderParts ps, add := none, exc := none, rem := none } =
      .ok (Range.sortedSet (ps.flatMap Range.expandPart)) := by
  have hnil : Range.renderParts ps ≠ [] := (word_renderParts ps hne).1
  have hs := strip_noSpace _ (word_renderParts ps hne).2
  have hss := Range.sortedSet_of_sorted _ (Range.sortedSet_sorted (ps.flatMap Range.expandPart))
  simp only [applyVDict, hs, hnil, rangeOf, Range.parse_renderParts ps hne]
  by_cases ha : Range.renderParts ps = allVlans <;>
    simp [ha, hss, bind, Except.bind, pure, Except.pure]

theorem applyVDict_vd0 : applyVDict vd0 = .ok (Range.upto 1 4094) := by
  have h : allVlans = Range.renderParts [(1, some 4094)] := by decide +kernel
  rw [vd0, h, applyVDict_parts _ (by simp)]
  simp [Range.expandPart, Range.sortedSet_of_sorted _ (upto_sorted 1 4094)]

theorem applyVDict_none : applyVDict (vdAfter kNone) = .ok [] := by
  rw [vdAfter, if_pos rfl]
  rfl

theorem vdAfter_all : vdAfter kAll = vd0 := by
  rw [vdAfter, if_neg (by decide +kernel), if_pos rfl]

theorem applyVDict_list (ps : List (Nat × Option Nat)) (hne : ps ≠ []) :
    applyVDict (vdAfter (Range.renderParts ps)) = .ok (Range.sortedSet (ps.flatMap Range.expandPart)) := by
  rw [vdAfter, if_neg (renderParts_ne ps hne kNone (by decide)), if_neg (renderParts_ne ps hne kAll (by decide))]
  exact applyVDict_parts ps hne

section
variable {d : Desc} {others kids : List Item}

theorem items_allowed (ho : ∀ it ∈ others, ∃ ws, it = .other ws) :
    (d.items ++ others).filterMap specAllowed = d.allowed.toList := by
  rw [filterMap_items specAllowed ho fun _ => rfl]
  simp [Desc.hits, specAllowed]

theorem foldl_vdict_stanza (st : Stanza d others kids) (hw : ∀ v, d.allowed = some v → AllowedWord v) :
    (kids.map Item.render).foldl vdictStep vd0 = (d.allowed.map vdAfter).getD vd0 := by
  have hp := st.perm.filterMap specAllowed
  rw [items_allowed st.unrelated] at hp
  cases ha : d.allowed with
  | none =>
    rw [ha] at hp
    exact foldl_vdict_none vd0 kids st.valid (List.Perm.eq_nil hp)
  | some v =>
    rw [ha] at hp
    exact foldl_vdict_one kids st.valid v (hw v ha) (List.perm_singleton.mp hp)

end

theorem kInterface_chars : kInterface = ['i', 'n', 't', 'e', 'r', 'f', 'a', 'c', 'e'] := by decide +kernel

theorem isIntf_hdr (c : Char) (r : Str) (hc : isSpace c = false) :
    isIntf (kInterface ++ ' ' :: c :: r) = some true := by
  have : c ≠ ' ' := by intro e; subst e; revert hc; decide
  simp [isIntf, kInterface_chars, this]

theorem afterInterface_hdr (c : Char) (r : Str) (hc : isSpace c = false) :
    afterInterface (kInterface ++ ' ' :: c :: r) = some (c :: r) := by
  simp [afterInterface, kInterface_chars, List.isPrefixOf, isSpace_blank, List.dropWhile, hc]

theorem alphaHyphen_not_space (c : Char) (h : isAlphaHyphen c = true) : isSpace c = false := by
  have : ∀ k : Fin 123, 45 ≤ k.val → Gen.whitespace.contains k.val = false := by decide +kernel
  unfold isAlphaHyphen at h
  have hb : 45 ≤ c.toNat ∧ c.toNat < 123 := by
    simp only [Bool.or_eq_true, Bool.and_eq_true, decide_eq_true_eq] at h
    rcases h with (h | h) | h
    · omega
    · omega
    · subst h; decide
  exact this ⟨c.toNat, hb.2⟩ hb.1

theorem tail2_nonspace (c : Char) (r : Str) (hc : isSpace c = false) : tail2 (c :: r) = false := by
  unfold tail2
  rw [lex_cons_nonspace c r hc]
  obtain ⟨g, ts⟩ := lex r
  cases g <;> cases ts <;> simp [consWord]

def TailOk (tl : Str) : Prop := tl = [] ∨ (∃ t, tl = ' ' :: t) ∧ tail2 tl = true

theorem tailOk_tail2 (tl : Str) (h : TailOk tl) : tail2 tl = true := by
  rcases h with rfl | ⟨_, h⟩
  · simp [tail2, lex]
  · exact h

theorem tailOk_head (tl : Str) (ht : TailOk tl) : ∀ x, tl.head? = some x → isDigit x = false := by
  intro x hx
  rcases ht with rfl | ⟨⟨t, rfl⟩, _⟩
  · cases hx
  · cases hx; decide

theorem lazySub_cons (acc : Str) (c : Char) (r : Str) :
    lazySub acc (c :: r) = (match subEnd (c :: r) with | some e => acc ++ e | none => lazySub (acc ++ [c]) r) := by
  rw [lazySub]; rfl

theorem subEnd_of_ne_dot (d : Char) (r : Str) (hd : d ≠ '.') :
    subEnd (d :: r) = if isDigit d && tail2 r then some [d] else if tail2 (d :: r) then some [] else none := by
  unfold subEnd
  split
  · rename_i heq; cases heq; exact absurd rfl hd
  · rename_i heq; cases heq; exact absurd rfl hd
  · rename_i heq; cases heq; rfl
  · rename_i heq; cases heq

theorem subEnd_two (x y : Char) (rest : Str) (hx : isSpace x = false) (hy : isSpace y = false) :
    subEnd (x :: y :: rest) =
      if x = '.' ∧ isDigit y = true ∧ tail2 rest = true then some ['.', y] else none := by
  have h1 := tail2_nonspace x (y :: rest) hx
  have h2 := tail2_nonspace y rest hy
  by_cases hdot : x = '.'
  · subst hdot; simp [subEnd, h2]
  · rw [subEnd_of_ne_dot x _ hdot]; simp [h1, h2, hdot]

theorem subEnd_one (x : Char) (tl : Str) (hx : isSpace x = false) (ht : TailOk tl) :
    subEnd (x :: tl) = if x = '.' then some ['.'] else if isDigit x = true then some [x] else none := by
  have h1 := tail2_nonspace x tl hx
  have h2 := tailOk_tail2 tl ht
  by_cases hdot : x = '.'
  · subst hdot
    rcases ht with rfl | ⟨⟨t, rfl⟩, _⟩
    · rfl
    · simp [subEnd, show isDigit ' ' = false by decide, h2]
  · rw [subEnd_of_ne_dot x _ hdot]; simp [h1, h2, hdot]

theorem subEnd_tail (tl : Str) (h : TailOk tl) : subEnd tl = some [] := by
  have h2 := tailOk_tail2 tl h
  rcases h with rfl | ⟨⟨t, rfl⟩, _⟩
  · rfl
  · rw [subEnd_of_ne_dot ' ' t (by decide)]; simp [show isDigit ' ' = false by decide, h2]

theorem lazySub_tail (acc tl : Str) (ht : TailOk tl) : lazySub acc tl = acc := by
  cases tl with
  | nil => rfl
  | cons c r => rw [lazySub_cons, subEnd_tail _ ht]; simp

/-- the lazy group of `subinterface_number` runs to the end of the number word -/
theorem lazySub_all (r : Str) (hr : ∀ c ∈ r, isSpace c = false) (tl : Str) (ht : TailOk tl) (acc : Str) :
    lazySub acc (r ++ tl) = acc ++ r := by
  induction r generalizing acc with
  | nil => simpa using lazySub_tail acc tl ht
  | cons x r ih =>
    have hx := hr x (by simp)
    have ih' := ih (fun c hc => hr c (by simp [hc]))
    cases r with
    | nil =>
      simp only [List.cons_append, List.nil_append] at ih' ⊢
      rw [lazySub_cons, subEnd_one x tl hx ht]
      by_cases hdot : x = '.'
      · simp [hdot]
      · by_cases hd : isDigit x = true
        · simp [hdot, hd]
        · simp [hdot, hd, lazySub_tail _ tl ht]
    | cons y r' =>
      have hy := hr y (by simp)
      simp only [List.cons_append] at ih' ⊢
      rw [lazySub_cons, subEnd_two x y _ hx hy]
      by_cases hstop : x = '.' ∧ isDigit y = true ∧ tail2 (r' ++ tl) = true
      · have hr' : r' = [] := by
          cases r' with
          | nil => rfl
          | cons z zs =>
            have := tail2_nonspace z (zs ++ tl) (hr z (by simp))
            simp [this] at hstop
        subst hr'
        obtain ⟨h1, h2, h3⟩ := hstop
        subst h1
        simp only [List.nil_append] at h3
        simp [h2, h3]
      · simp only [hstop, if_false]
        rw [ih']; simp

theorem digit_not_alphaHyphen (c : Char) (h : isDigit c = true) : isAlphaHyphen c = false := by
  unfold isDigit at h; unfold isAlphaHyphen
  simp only [Bool.and_eq_true, decide_eq_true_eq] at h
  have : c ≠ '-' := by intro e; subst e; simp at h
  simp [this]; omega

/-- the number part is what is left after `^interface\s+[A-Za-z\-]+\s*` -/
theorem numberPart_hdr (p ds rest : Str) (hp : p ≠ []) (hpc : ∀ c ∈ p, isAlphaHyphen c = true)
    (hds : ds ≠ []) (hdd : ∀ c ∈ ds, isDigit c = true) :
    isIntf (kInterface ++ ' ' :: p ++ (ds ++ rest)) = some true ∧
    numberPart (kInterface ++ ' ' :: p ++ (ds ++ rest)) = some (ds ++ rest) := by
  obtain ⟨c, p', rfl⟩ := List.exists_cons_of_ne_nil hp
  obtain ⟨d0, ds', rfl⟩ := List.exists_cons_of_ne_nil hds
  have hc : isSpace c = false := alphaHyphen_not_space c (hpc c (by simp))
  have hd0 : isDigit d0 = true := hdd d0 (by simp)
  have hrest : ∀ x, (d0 :: ds' ++ rest).head? = some x → isAlphaHyphen x = false :=
    fun x hx => Option.some.inj hx ▸ digit_not_alphaHyphen d0 hd0
  have hstop := takeWhile_append_stop _ (c :: p') _ hpc hrest
  rw [List.append_assoc, List.cons_append, List.cons_append]
  refine ⟨isIntf_hdr c _ hc, ?_⟩
  rw [numberPart, afterInterface_hdr c _ hc]
  simp only [← List.cons_append, hstop.1, hstop.2]
  simp [isSpace_of_isDigit d0 hd0, hd0]

theorem tail1_false (n : Nat) (x : Char) (rest : Str) (hx : isSpace x = false) (hdot : x ≠ '.') :
    tail1 n (x :: rest) = false := by
  cases n with
  | zero => simpa [tail1] using tail2_nonspace x rest hx
  | succ n =>
    rw [tail1]
    · simp [tail2_nonspace x rest hx]
    · intro r1 he; cases he; exact hdot rfl

theorem tail1_tail (n : Nat) (tl : Str) (ht : TailOk tl) : tail1 n tl = true := by
  cases n <;> simp [tail1, tailOk_tail2 tl ht]

def dotSub : Option Str → Str
  | some sub => '.' :: sub
  | none => []

theorem tail1_dotSub (n : Nat) (sub : Option Str) (tl : Str) (ht : TailOk tl)
    (hs : ∀ s, sub = some s → s ≠ [] ∧ ∀ c ∈ s, isDigit c = true) (hn : 1 ≤ n) :
    tail1 n (dotSub sub ++ tl) = true := by
  cases sub with
  | none => simpa [dotSub] using tail1_tail n tl ht
  | some s =>
    obtain ⟨hne, hd⟩ := hs s rfl
    have hstop := tailOk_head tl ht
    obtain ⟨m, rfl⟩ : ∃ m, n = m + 1 := ⟨n - 1, by omega⟩
    simp only [dotSub, List.cons_append]
    rw [tail1]
    simp only [(takeWhile_append_stop _ _ _ hd hstop).1, (takeWhile_append_stop _ _ _ hd hstop).2, tail1_tail m tl ht]
    cases s with
    | nil => exact absurd rfl hne
    | cons a b => simp

theorem lazyNum_mid (mid rem : Str) (hm : ∀ c ∈ mid, isSpace c = false ∧ c ≠ '.')
    (hrem : rem = [] ∨ tail1 rem.length rem = true) (acc : Str) :
    lazyNum acc (mid ++ rem) = acc ++ mid := by
  induction mid generalizing acc with
  | nil =>
    simp only [List.nil_append, List.append_nil]
    cases rem with
    | nil => rfl
    | cons c r =>
      rcases hrem with h | h
      · cases h
      · have h' : tail1 (r.length + 1) (c :: r) = true := by simpa using h
        simp [lazyNum, h']
  | cons x mid ih =>
    have hx := hm x (by simp)
    simp only [List.cons_append]
    rw [lazyNum, tail1_false _ x _ hx.1 hx.2]
    simp only [Bool.false_eq_true, if_false]
    rw [ih (fun c hc => hm c (by simp [hc]))]; simp

end Ccp.Ios
