/-!
Core Lean has no `DecidableEq (Except ε α)`.  The examples that evaluate a model function returning `Except`
by `decide` need one.
-/
deriving instance DecidableEq for Except
