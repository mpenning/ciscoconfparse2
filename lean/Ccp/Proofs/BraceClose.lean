import Ccp.Proofs.Brace
/-!
A missing closing brace (C08).  `bal` is the brace depth of a text and `safe` says that no token of it
starts with a quote character, so that `quoted_string` never hides a brace.  A group parse that succeeds
on a `safe` text has consumed a balanced text and its closing brace; renderings are balanced and `safe`;
tab expansion and the deletion of a closing brace keep `safe`, and the deletion leaves the group that the
wrapper opened without its end.
-/
namespace Ccp.Brace
open Ccp.Py

/-- brace depth after reading the text from depth `n`; `none` when a closing brace
arrives at depth 0 -/
def bal : Nat → Str → Option Nat
  | n, [] => some n
  | n, c :: cs =>
    if c = '{' then bal (n + 1) cs
    else if c = '}' then (match n with | 0 => none | m + 1 => bal m cs)
    else bal n cs

theorem bal_append (x y : Str) (n : Nat) : bal n (x ++ y) = (bal n x).bind (fun m => bal m y) := by
  fun_induction bal n x <;> simp_all [bal]

theorem bal_nobrace {x : Str} (hx : NoBrace x) (n : Nat) : bal n x = some n := by
  induction x with
  | nil => rfl
  | cons c x ih =>
    simp only [bal, (hx c (by simp)).1, (hx c (by simp)).2, if_false]
    exact ih (fun z hz => hx z (by simp [hz]))

theorem bal_skip {x : Str} (hx : NoBrace x) (n : Nat) (y : Str) : bal n (x ++ y) = bal n y := by
  rw [bal_append, bal_nobrace hx]; rfl

theorem bal_shift (s : Str) (n m : Nat) (h : bal n s = some m) : bal (n + 1) s = some (m + 1) := by
  fun_induction bal n s <;> simp_all [bal]

theorem bal_delete {a b : Str} (h : bal 0 (a ++ '}' :: b) = some 0) : bal 0 (a ++ b) = some 1 := by
  rw [bal_append] at h ⊢
  cases ha : bal 0 a with
  | none => rw [ha] at h; cases h
  | some m =>
    simp only [ha, Option.bind_some, bal, show ¬ '}' = '{' by decide, if_false, if_true] at h ⊢
    cases m with
    | zero => cases h
    | succ m => exact bal_shift b m 0 h

theorem bal_expand : ∀ (s : Str) (n col : Nat), bal n (expandTabsFrom col s) = bal n s
  | [], _, _ => rfl
  | c :: cs, n, col => by
    unfold expandTabsFrom
    split
    · subst c
      rw [bal_skip (fun z hz => by rw [List.eq_of_mem_replicate hz]; decide), bal_expand cs]
      simp [bal]
    · split <;> simp only [bal, bal_expand cs]

def isQuote (c : Char) : Bool := c == '"' || c == '\''

/-- scanning the text the way the tokenizer does (`inRun` = inside a content run, which
blanks do not end), no quote character is met outside a run — so `quoted_string` never
gets a chance and every brace is structural -/
def safe : Bool → Str → Bool
  | _, [] => true
  | inRun, c :: cs =>
    if isRunChar c then
      if c = ' ' then safe inRun cs
      else if !inRun && isQuote c then false else safe true cs
    else safe false cs

/-- `safe` as an automaton: the state after `c` -/
def safeNext (st : Bool) (c : Char) : Bool := isRunChar c && (st || c != ' ')

/-- `safe` as an automaton: `c` does not start a token with a quote -/
def safeOk (st : Bool) (c : Char) : Bool := st || !(isRunChar c && c != ' ' && isQuote c)

theorem safe_cons (st : Bool) (c : Char) (cs : Str) :
    safe st (c :: cs) = (safeOk st c && safe (safeNext st c) cs) := by
  by_cases hb : c = ' '
  · subst hb; cases st <;> rfl
  · rw [safe, safeNext, safeOk]
    have hb' : (c != ' ') = true := by simpa using hb
    cases hr : isRunChar c <;> cases st <;> cases hq : isQuote c <;> simp [hb, hb']

theorem safe_nonrun {st : Bool} {c : Char} (hc : isRunChar c = false) (r : Str) :
    safe st (c :: r) = safe false r := by
  simp [safe_cons, safeOk, safeNext, hc]

theorem safe_any {st : Bool} : ∀ {s : Str}, safe false s = true → safe st s = true
  | [], _ => rfl
  | c :: cs, h => by
    rw [safe_cons, Bool.and_eq_true] at h ⊢
    refine ⟨by simp only [safeOk, Bool.false_or] at h; simp [safeOk, h.1], ?_⟩
    cases hn : safeNext false c with
    | false => rw [hn] at h; exact safe_any h.2
    | true =>
      have : safeNext st c = true := by simp_all [safeNext]
      rw [hn] at h; rw [this]; exact h.2

theorem safe_idle (st : Bool) : ∀ (x : Str), (∀ c ∈ x, safeOk st c = true ∧ safeNext st c = st) →
    ∀ y, safe st (x ++ y) = safe st y
  | [], _, _ => rfl
  | c :: x, h, y => by
    rw [List.cons_append, safe_cons, (h c (by simp)).1, (h c (by simp)).2,
      safe_idle st x (fun z hz => h z (by simp [hz])) y]
    rfl

/-- what is skipped is a blank, or ends a content run -/
theorem safe_skip (x : Str) (h : ∀ c ∈ x, isSkip c = true) (y : Str) : safe false (x ++ y) = safe false y := by
  refine safe_idle false x (fun c hc => ?_) y
  have := h c hc
  simp only [isSkip, Bool.or_eq_true, beq_iff_eq] at this
  rcases this with ((rfl | rfl) | rfl) | rfl <;> exact ⟨rfl, rfl⟩

theorem safe_true_run (x : Str) (h : ∀ c ∈ x, isRunChar c = true) (y : Str) : safe true (x ++ y) = safe true y :=
  safe_idle true x (fun c hc => by simp [safeOk, safeNext, h c hc]) y

theorem safe_true_stop (r : Str) (h : ∀ x, r.head? = some x → isRunChar x = false) :
    safe true r = safe false r := by
  cases r with
  | nil => rfl
  | cons c r => rw [safe_nonrun (h c rfl), safe_nonrun (h c rfl)]

theorem safe_blanks (st : Bool) (n : Nat) (y : Str) : safe st (List.replicate n ' ' ++ y) = safe st y :=
  safe_idle st _ (fun c hc => by rw [List.eq_of_mem_replicate hc]; cases st <;> exact ⟨rfl, rfl⟩) y

/-- tab expansion turns tabs into blanks, which can only keep a content run going -/
theorem safe_expand : ∀ (s : Str) (st : Bool) (col : Nat), safe st s = true →
    safe st (expandTabsFrom col s) = true
  | [], _, _, _ => rfl
  | c :: cs, st, col, h => by
    unfold expandTabsFrom
    split
    · subst c
      rw [safe_nonrun rfl] at h
      rw [safe_blanks]
      exact safe_any (safe_expand cs false _ h)
    · rw [safe_cons, Bool.and_eq_true] at h
      split <;> (rw [safe_cons, Bool.and_eq_true]; exact ⟨h.1, safe_expand cs _ _ h.2⟩)

theorem safe_delete : ∀ (a b : Str) (st : Bool), safe st (a ++ '}' :: b) = true → safe st (a ++ b) = true
  | [], b, st, h => by
    rw [List.nil_append, safe_nonrun rfl] at h
    exact safe_any h
  | c :: a, b, st, h => by
    rw [List.cons_append, safe_cons, Bool.and_eq_true] at h ⊢
    exact ⟨h.1, safe_delete a b _ h.2⟩

theorem mem_takeWhile (p : Char → Bool) (l : Str) : ∀ c ∈ l.takeWhile p, p c = true :=
  List.all_eq_true.mp List.all_takeWhile

theorem dropWhile_head_not (p : Char → Bool) (l : Str) : ∀ x, (l.dropWhile p).head? = some x → p x = false :=
  fun x hx => by simpa [hx] using List.head?_dropWhile_not p l

theorem lexHead_noquote {c : Char} (hq : c ≠ '"' ∧ c ≠ '\'') (cs : Str) :
    lexHead (c :: cs) = if c = '{' then .opn cs else if c = '}' then .close cs
      else if isRunChar c then .text ((c :: cs).takeWhile isRunChar) ((c :: cs).dropWhile isRunChar)
      else .bad := by
  simp [lexHead, hq.1, hq.2]

theorem nextTok_split_safe {s : Str} (hq : safe false s = true) :
    match nextTok s with
    | .bad => True
    | .close r => ∃ sk, s = sk ++ '}' :: r ∧ NoBrace sk ∧ safe false r = true
    | .opn r => ∃ sk, s = sk ++ '{' :: r ∧ NoBrace sk ∧ safe false r = true
    | .text t r => ∃ sk, s = sk ++ (t ++ r) ∧ NoBrace sk ∧ NoBrace t ∧ safe false r = true := by
  have hs : s = s.takeWhile isSkip ++ s.dropWhile isSkip := List.takeWhile_append_dropWhile.symm
  have hsk : NoBrace (s.takeWhile isSkip) := fun c hc => isSkip_nobrace (mem_takeWhile _ _ c hc)
  rw [hs, safe_skip _ (mem_takeWhile isSkip s)] at hq
  unfold nextTok
  generalize s.dropWhile isSkip = u at hs hq
  cases u with
  | nil => trivial
  | cons c cs =>
    have hnq : c ≠ '"' ∧ c ≠ '\'' := by
      rw [safe_cons, Bool.and_eq_true] at hq
      constructor <;> (rintro rfl; exact absurd hq.1 (by decide))
    rw [lexHead_noquote hnq]
    by_cases h1 : c = '{'
    · subst c; exact ⟨_, hs, hsk, by rwa [safe_nonrun rfl] at hq⟩
    by_cases h2 : c = '}'
    · subst c; exact ⟨_, hs, hsk, by rwa [safe_nonrun rfl] at hq⟩
    rw [if_neg h1, if_neg h2]
    by_cases h3 : isRunChar c = true
    · rw [if_pos h3]
      refine ⟨_, by rwa [List.takeWhile_append_dropWhile], hsk,
        fun x hx => isRunChar_nobrace (mem_takeWhile _ _ x hx), ?_⟩
      have h4 := safe_any (st := true) hq
      rwa [← List.takeWhile_append_dropWhile (p := isRunChar) (l := c :: cs),
        safe_true_run _ (mem_takeWhile _ _), safe_true_stop _ (dropWhile_head_not _ _)] at h4
    · rw [if_neg h3]; trivial

theorem parseItems_balanced_safe (f : Nat) (s : Str) (items : List Item) (r : Str) (hq : safe false s = true)
    (h : parseItems f s = .ok (items, r)) : ∃ c, s = c ++ '}' :: r ∧ bal 0 c = some 0 ∧ safe false r = true := by
  -- the branches of `parseItems` that succeed: 3 closing brace, 4 token, 6 group
  fun_induction parseItems f s generalizing items r with
  | case1 | case2 | case5 | case7 | case8 => cases h
  | case3 fuel s r0 ht =>
    cases h
    obtain ⟨sk, hs, hsk, hq0⟩ := ht ▸ nextTok_split_safe hq
    exact ⟨sk, hs, bal_nobrace hsk 0, hq0⟩
  | case4 fuel s t r0 ht its r1 h1 ih =>
    cases h
    obtain ⟨sk, hs, hsk, htk, hq0⟩ := ht ▸ nextTok_split_safe hq
    obtain ⟨c1, hc1, hb1, hq1⟩ := ih its r1 hq0 h1
    exact ⟨sk ++ (t ++ c1), by rw [hs, hc1]; simp, by rwa [bal_skip hsk, bal_skip htk], hq1⟩
  | case6 fuel s r0 ht g r1 h1 its r2 h2 ih1 ih2 =>
    cases h
    obtain ⟨sk, hs, hsk, hq0⟩ := ht ▸ nextTok_split_safe hq
    obtain ⟨c1, hc1, hb1, hq1⟩ := ih1 g r1 hq0 h1
    obtain ⟨c2, hc2, hb2, hq2⟩ := ih2 its r2 hq1 h2
    refine ⟨sk ++ '{' :: (c1 ++ '}' :: c2), by rw [hs, hc1, hc2]; simp, ?_, hq2⟩
    rw [bal_skip hsk, bal, if_pos rfl, bal_append, bal_shift c1 0 0 hb1]
    simpa [bal] using hb2

theorem parseItems_err (f : Nat) (s : Str) (e : Err) (h : parseItems f s = .error e) : e = .parseException := by
  fun_induction parseItems f s <;> simp_all

mutual
theorem renderStmt_bal (L : Layout) (hL : LayoutOk L) : ∀ (s : Stmt) (p : List Nat) (more : Bool),
    StmtOk s → ∀ (n : Nat) (k : Str), bal n (renderStmt L p more s ++ k) = bal n k
  | .node ws cs, p, more, hs => by
    obtain ⟨hpre, hpost, hclose, hafter⟩ := hL p
    have hsemi : NoBrace (if (L p).semi then [';'] else []) := fun c hc => by rw [mem_opt hc]; decide
    intro n k
    unfold renderStmt
    simp only [List.append_assoc]
    rw [bal_skip (allWs_noBrace hpre), bal_skip (words_textOk hs.1).nobrace, bal_skip hsemi,
      bal_skip (allWs_noBrace hpost)]
    split
    · simp only [List.cons_append, List.append_assoc, bal, if_true, renderList_bal L hL cs p 0 hs.2,
        bal_skip (allWs_noBrace hclose), show ¬ '}' = '{' by decide, if_false]
      exact bal_skip (allWs_noBrace hafter) n k
    · split
      · exact bal_skip (x := ['\n']) (by simp [NoBrace]) n k
      · rfl
theorem renderList_bal (L : Layout) (hL : LayoutOk L) : ∀ (ss : List Stmt) (p : List Nat) (i : Nat),
    ListOk ss → ∀ (n : Nat) (k : Str), bal n (renderList L p i ss ++ k) = bal n k
  | [], _, _, _ => fun _ _ => rfl
  | s :: ss, p, i, hs => by
    intro n k
    rw [renderList, List.append_assoc, renderStmt_bal L hL s _ _ hs.1, renderList_bal L hL ss p (i + 1) hs.2]
end

/-- a statement text opens a content run, which further content characters keep going -/
theorem safe_text {t : Str} (ht : TextOk t) (u : Str) (hu : ∀ x ∈ u, isRunChar x = true) (y : Str) :
    safe false (t ++ u ++ y) = safe true y := by
  obtain ⟨c, t', rfl, hc, hq, hb⟩ := ht.head
  have h1 : safeOk false c = true ∧ safeNext false c = true := by
    have : c ≠ ' ' := by rintro rfl; revert hc; decide
    simp [safeOk, safeNext, isQuote, hq.1, hq.2, printable_run ⟨hc, hb⟩, this]
  rw [List.cons_append, List.cons_append, safe_cons, h1.1, h1.2, Bool.true_and,
    safe_true_run _ (fun x hx => (List.mem_append.mp hx).elim (fun h => ht.run x (by simp [h])) (hu x))]

mutual
theorem renderStmt_safe (L : Layout) (hL : LayoutOk L) : ∀ (s : Stmt) (p : List Nat) (more : Bool),
    StmtOk s → ∀ (k : Str), safe false k = true → safe false (renderStmt L p more s ++ k) = true
  | .node ws cs, p, more, hs => by
    obtain ⟨hpre, hpost, hclose, hafter⟩ := hL p
    have hsemi : ∀ x ∈ (if (L p).semi then [';'] else []), isRunChar x = true :=
      fun x hx => by rw [mem_opt hx]; rfl
    intro k hk
    unfold renderStmt
    simp only [List.append_assoc]
    rw [safe_skip _ (allWs_isSkip hpre), ← List.append_assoc,
      safe_text (words_textOk hs.1) _ hsemi]
    apply safe_any
    rw [safe_skip _ (allWs_isSkip hpost)]
    split
    · rw [List.cons_append, safe_nonrun rfl, List.append_assoc]
      apply renderList_safe L hL cs p 0 hs.2
      rwa [List.append_assoc, safe_skip _ (allWs_isSkip hclose), List.cons_append, safe_nonrun rfl,
        safe_skip _ (allWs_isSkip hafter)]
    · split
      · rwa [List.cons_append, safe_nonrun rfl]
      · exact hk
theorem renderList_safe (L : Layout) (hL : LayoutOk L) : ∀ (ss : List Stmt) (p : List Nat) (i : Nat),
    ListOk ss → ∀ (k : Str), safe false k = true → safe false (renderList L p i ss ++ k) = true
  | [], _, _, _ => fun _ hk => hk
  | s :: ss, p, i, hs => by
    intro k hk
    rw [renderList, List.append_assoc]
    exact renderStmt_safe L hL s _ _ hs.1 _ (renderList_safe L hL ss p (i + 1) hs.2 k hk)
end

/-- the group opened by the wrapper never closes -/
theorem braceText_missing_close (stop : Nat) (a b : Str) (hbal : bal 0 (a ++ '}' :: b) = some 0)
    (hsafe : safe false (a ++ '}' :: (b ++ ['}'])) = true)
    (hhead : ∀ x ∈ (a ++ b).head?, x ≠ '{' ∧ x ≠ '}') :
    braceText stop (a ++ b) = .error .parseException := by
  rw [braceText_of_head stop _ hhead, expand_append, expand_close]
  have hsf : safe false (expandTabsFrom 1 (a ++ b) ++ ['}']) = true := by
    have := safe_expand _ false 1 (safe_delete a (b ++ ['}']) false hsafe)
    rwa [← List.append_assoc, expand_append, expand_close] at this
  have h1 : bal 0 (expandTabsFrom 1 (a ++ b)) = some 1 := by rw [bal_expand]; exact bal_delete hbal
  generalize expandTabsFrom 1 (a ++ b) = x at hsf h1
  split
  · -- a successful parse stops at a brace met at depth 0, where `bal` gives up; `x ++ ['}']` ends at depth 0
    rename_i items r hp
    obtain ⟨c, hc, hb, -⟩ := parseItems_balanced_safe _ _ items r hsf hp
    have h2 : bal 0 (x ++ ['}']) = some 0 := by rw [bal_append, h1]; rfl
    rw [hc, bal_append, hb] at h2
    simp [bal] at h2
  · rename_i e hp
    rw [parseItems_err _ _ e hp]

theorem render_missing_close (stop : Nat) (L : Layout) (hL : LayoutOk L) (T : List Stmt) (hT : ListOk T)
    (a b : Str) (hab : render L T = a ++ '}' :: b) : braceText stop (a ++ b) = .error .parseException := by
  refine braceText_missing_close stop a b ?_ ?_ ?_
  · rw [← hab, ← List.append_nil (render L T)]
    exact renderList_bal L hL T [] 0 hT 0 []
  · have := renderList_safe L hL T [] 0 hT ['}'] rfl
    rwa [← render, hab, List.append_assoc, List.cons_append] at this
  · have h0 := render_head L hL T hT
    rw [hab] at h0
    cases a with
    | nil => exact absurd rfl (h0 '}' rfl).2
    | cons x a' => exact h0

end Ccp.Brace
