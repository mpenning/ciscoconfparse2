import Ccp.Model.EditForms
import Ccp.Proofs.Edit
import Ccp.Proofs.EditLinks
import Ccp.Proofs.EditFrame
/-!
The part of C06 about the other input forms of the editing API (`Ccp.Model.EditForms`): list-level
inserts of a blank line under `ignore_blank_lines`, equality of a stale handle with the elements
of the list.
-/
namespace Ccp.Edit
open Ccp.Py Ccp.Tree

theorem auto_listIns_blank_noop (s : S) (after : Bool) (row : List Bool) (txt : Str) (h : PlainCommitted s)
    (hi : s.cfg.ignoreBlank = true) (hbl : isBlank txt = true)
    (hb : isBannerStart txt = false) (hm : s.cfg.ios = true → isMacroStart txt = false) :
    (listInsCore after s row txt).1.texts = s.texts ∧ (listInsCore after s row txt).1.tree = s.tree := by
  have hnb := fresh_nonblank s h.clean h.fresh h.plain hi
  have hmap : (insertAtMatches after (fresh txt) s.items row).map Item.text
      = insertAtMatches after txt s.texts row := by
    rw [insertAtMatches_map]; rfl
  have hmem : ∀ P : Str → Prop, P txt → (∀ x ∈ s.texts, P x) → ∀ x ∈ insertAtMatches after txt s.texts row, P x :=
    fun P ht hl x hx => (mem_insertAtMatches after txt s.texts row x hx).elim (· ▸ ht) (hl x)
  -- the commit parses the new texts; their non-blank lines are the old texts, which parse to the old tree
  have hparse : parse s.cfg (insertAtMatches after txt s.texts row) = s.tree := by
    rw [parse_ignore_plain s.cfg _ hi ⟨hmem _ hb h.plain.1, fun hios => hmem _ (hm hios) (h.plain.2 hios)⟩,
      insertAtMatches_filter_out nonBlank after txt s.texts row (by rw [nonBlank_eq, hbl]; rfl),
      List.filter_eq_self.mpr hnb, (h.fresh h.clean).1, parse_noIg s.cfg s.texts h.plain (fun _ => hnb)]
  constructor
  · show (autoCommit _).texts = _
    rw [edited_on s _ s.stale h.auto, commit_texts]
    show (bootstrap s.cfg ((insertAtMatches after (fresh txt) s.items row).map Item.text)).texts = _
    rw [hmap, ← parse_eq_bootstrap, hparse, (h.fresh h.clean).1, parse_texts' s.cfg s.texts h.plain (fun _ => hnb)]
  · show (autoCommit _).tree = _
    rw [auto_tree_after s h.auto, hmap, hparse]

theorem presentEq_committed (t : T) (i : Nat) (txt : Str) :
    presentEq (committedItems t) i txt = (t.texts[i]? == some txt) := by
  rw [Bool.eq_iff_iff, presentEq, List.any_eq_true, beq_iff_eq]
  constructor
  · rintro ⟨it, hm, hit⟩
    obtain ⟨k, hk⟩ := List.getElem?_of_mem hm
    rw [committedItems_getElem?, Option.map_eq_some_iff] at hk
    obtain ⟨x, hx, rfl⟩ := hk
    obtain ⟨rfl, rfl⟩ : k = i ∧ x = txt := by simpa using hit
    exact hx
  · intro h
    exact ⟨⟨txt, some i⟩, List.mem_of_getElem? (by rw [committedItems_getElem?, h]; rfl), by simp⟩

theorem presentEq_eraseAll_committed (t : T) (dead : List Nat) (i : Nat) (txt : Str) (hi : i ∈ dead) :
    presentEq (eraseAll (committedItems t) dead) i txt = false := by
  rw [Bool.eq_false_iff, Ne, presentEq, List.any_eq_true]
  rintro ⟨it, hm, hit⟩
  obtain ⟨k, hk, he⟩ := mem_eraseAll.1 hm
  rw [committedItems_getElem?, Option.map_eq_some_iff] at he
  obtain ⟨x, _, rfl⟩ := he
  obtain ⟨rfl, _⟩ : k = i ∧ x = txt := by simpa using hit
  exact hk hi

end Ccp.Edit
