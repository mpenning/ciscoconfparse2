import Ccp.Proofs.TreePasses
/-!
The `ignore_blank_lines` part of C01: which lines carry `blank_line_keep` after passes 1–3
(pointwise, from the closed form of the passes in `Proofs/TreePasses`), the blank-line filter on
such flags as one forward scan with a countdown, idempotence of that scan (so one round of the
restart loop is enough), and the position-by-position reading `keepSpec`.
-/
namespace Ccp.Tree
open Ccp.Py

theorem bannerBodyLen_le (d : Char) (body : List Str) : bannerBodyLen d body ≤ body.length := by
  rw [bannerBodyLen_eq_runLen]; exact runLen_le _ (Nat.zero_le 1) _

theorem macroBodyLen_le (body : List Str) : macroBodyLen body ≤ body.length := by
  rw [macroBodyLen_eq_runLen]; exact runLen_le _ (Nat.le_refl 1) _

theorem protB_le (x : Str) (rest : List Str) : protB x rest ≤ 1 + rest.length := by
  unfold protB
  split
  · split
    · split
      · omega
      · have := bannerBodyLen_le ‹_› rest; omega
    · omega
  · omega

theorem protM_le (x : Str) (rest : List Str) : protM x rest ≤ 1 + rest.length := by
  unfold protM
  split
  · have := macroBodyLen_le rest; omega
  · omega

/-- line `j` is protected by some start at a position in `[i, j]` -/
def CovFrom (prot : Str → List Str → Nat) (ls : List Str) (i j : Nat) : Prop :=
  ∃ q, i ≤ q ∧ q ≤ j ∧ ∃ x, ls[q]? = some x ∧ j - q < prot x (ls.drop (q + 1))

theorem covFrom_split (prot : Str → List Str → Nat) (ls : List Str) (i j : Nat) (x : Str)
    (hx : ls[i]? = some x) :
    CovFrom prot ls i j ↔ (i ≤ j ∧ j - i < prot x (ls.drop (i + 1))) ∨ CovFrom prot ls (i + 1) j := by
  constructor
  · rintro ⟨q, h1, h2, y, hy, h3⟩
    by_cases hq : q = i
    · subst hq; rw [hx] at hy; cases hy; exact Or.inl ⟨h2, h3⟩
    · exact Or.inr ⟨q, by omega, h2, y, hy, h3⟩
  · rintro (⟨h1, h2⟩ | ⟨q, h1, h2, y, hy, h3⟩)
    · exact ⟨i, Nat.le_refl _, h1, x, hx, h2⟩
    · exact ⟨q, by omega, h2, y, hy, h3⟩

theorem covFrom_end (prot : Str → List Str → Nat) (ls : List Str) (i j : Nat) (h : ls.drop i = []) :
    ¬ CovFrom prot ls i j := by
  rintro ⟨q, h1, _, y, hy, _⟩
  have : ls.length ≤ i := by simpa using h
  have := (List.getElem?_eq_some_iff.mp hy).1
  omega

theorem covFrom_cons_zero (prot : Str → List Str → Nat) (x : Str) (rest : List Str) :
    CovFrom prot (x :: rest) 0 0 ↔ 0 < prot x rest := by
  constructor
  · rintro ⟨q, _, hq, y, hy, h3⟩
    obtain rfl : q = 0 := Nat.le_zero.mp hq
    cases hy; exact h3
  · exact fun h => ⟨0, Nat.le_refl 0, Nat.le_refl 0, x, rfl, h⟩

theorem covFrom_cons_succ (prot : Str → List Str → Nat) (x : Str) (rest : List Str) (j : Nat) :
    CovFrom prot (x :: rest) 0 (j + 1) ↔ j + 1 < prot x rest ∨ CovFrom prot rest 0 j := by
  constructor
  · rintro ⟨q, _, hq, y, hy, h3⟩
    cases q with
    | zero => cases hy; exact .inl h3
    | succ q => exact .inr ⟨q, Nat.zero_le q, by omega, y, hy, by rwa [Nat.add_sub_add_right] at h3⟩
  · rintro (h | ⟨q, _, hq, y, hy, h3⟩)
    · exact ⟨0, Nat.le_refl 0, Nat.zero_le _, x, rfl, h⟩
    · exact ⟨q + 1, Nat.zero_le _, by omega, y, hy, by rwa [← Nat.add_sub_add_right j 1 q] at h3⟩

theorem lt_prot (cfg : Cfg) (x : Str) (rest : List Str) (n : Nat) :
    n < prot cfg x rest ↔ n < protB x rest ∨ (cfg.ios = true ∧ n < protM x rest) := by
  unfold prot
  cases cfg.ios with
  | false => simp
  | true => simp only [if_true, true_and]; omega

theorem covFrom_prot (cfg : Cfg) (ls : List Str) (i j : Nat) :
    CovFrom (prot cfg) ls i j ↔ CovFrom protB ls i j ∨ (cfg.ios = true ∧ CovFrom protM ls i j) := by
  constructor
  · rintro ⟨q, h1, h2, x, hx, h3⟩
    rcases (lt_prot cfg _ _ _).mp h3 with h | ⟨hi, h⟩
    · exact .inl ⟨q, h1, h2, x, hx, h⟩
    · exact .inr ⟨hi, q, h1, h2, x, hx, h⟩
  · rintro (⟨q, h1, h2, x, hx, h3⟩ | ⟨hi, q, h1, h2, x, hx, h3⟩)
    · exact ⟨q, h1, h2, x, hx, (lt_prot cfg _ _ _).mpr (.inl h3)⟩
    · exact ⟨q, h1, h2, x, hx, (lt_prot cfg _ _ _).mpr (.inr ⟨hi, h3⟩)⟩

/-- `blank_line_keep` of line `j` -/
def flag (k : List Bool) (j : Nat) : Bool := k.getD j false

theorem flag_stamp (cov prot : Str → List Str → Nat) (hprot : ∀ x rest, prot x rest ≤ 1 + rest.length)
    (t : T) (hwf : t.WF) (i : Nat) (hi : i < t.texts.length) (x : Str) (j : Nat) :
    flag (stamp cov prot t i x).keep j = true ↔
      flag t.keep j = true ∨ (i ≤ j ∧ j - i < prot x (t.texts.drop (i + 1))) := by
  have hn := hprot x (t.texts.drop (i + 1))
  have hk := hwf.2
  rw [List.length_drop] at hn
  simp only [flag, stamp, getD_fill]
  split
  · simp only [true_iff]; right; omega
  · have : ¬ (i ≤ j ∧ j - i < prot x (t.texts.drop (i + 1))) := by omega
    simp only [this, or_false]

theorem stampFrom_flag (cov prot : Str → List Str → Nat) (hprot : ∀ x rest, prot x rest ≤ 1 + rest.length)
    (suffix : List Str) : ∀ (i : Nat) (t : T), t.WF → t.texts.drop i = suffix → ∀ j,
      (flag (stampFrom cov prot i suffix t).keep j = true ↔
        flag t.keep j = true ∨ CovFrom prot t.texts i j) := by
  induction suffix with
  | nil =>
    intro i t _ hd j
    simp [stampFrom, covFrom_end prot t.texts i j hd]
  | cons x rest ih =>
    intro i t hwf hd j
    obtain ⟨hx, hrest, hi⟩ := drop_cons_getElem? _ _ _ _ hd
    rw [stampFrom, ih (i + 1) (stamp cov prot t i x) (stamp_wf cov prot t i x hwf) hrest j,
      flag_stamp cov prot hprot t hwf i hi x j, covFrom_split prot t.texts i j x hx, or_assoc]
    rfl

theorem flag_allFalse (ls : List Str) (j : Nat) : flag (ls.map (fun _ => false)) j = false := by
  unfold flag
  simp only [List.getD_eq_getElem?_getD, List.getElem?_map]
  cases ls[j]? <;> rfl

theorem link_flag (cfg : Cfg) (ls : List Str) (j : Nat) :
    flag (link cfg ls).keep j = true ↔ CovFrom (prot cfg) ls 0 j := by
  have hB := stampFrom_flag coverB protB protB_le ls 0 _ (pass1_wf cfg ls) rfl
  rw [link_eq_stamps, covFrom_prot]
  cases cfg.ios with
  | false => simp [hB, flag_allFalse]
  | true =>
    simp only [if_true]
    rw [stampFrom_flag coverM protM protM_le ls 0 _ (stampFrom_wf _ _ _ _ _ (pass1_wf cfg ls))
      (by rw [stampFrom_texts]; rfl) j, hB, stampFrom_texts]
    simp [flag_allFalse]

def keptAux : List Str → List Bool → List Str
  | [], _ => []
  | _, [] => []
  | s :: ss, k :: ks => if nonBlank s || k then s :: keptAux ss ks else keptAux ss ks

theorem keptTexts_eq (t : T) : keptTexts t = keptAux t.texts t.keep := by
  unfold keptTexts
  generalize t.texts = ss
  generalize t.keep = ks
  induction ss generalizing ks with
  | nil => simp [keptAux]
  | cons s ss ih =>
    cases ks with
    | nil => simp [keptAux]
    | cons k ks =>
      simp only [List.zip_cons_cons, List.filterMap_cons, keptAux, nonBlank, ih]
      by_cases h : (!(strip s).isEmpty || k) = true <;> simp [h]

theorem keptAux_sublist : ∀ (ss : List Str) (ks : List Bool), (keptAux ss ks).Sublist ss
  | [], _ => by simp [keptAux]
  | _ :: _, [] => by simp [keptAux]
  | s :: ss, k :: ks => by
    unfold keptAux
    split
    · exact (keptAux_sublist ss ks).cons_cons _
    · exact (keptAux_sublist ss ks).cons _

theorem keptAux_nonBlank : ∀ (ss : List Str) (ks : List Bool), ks.length = ss.length →
    (keptAux ss ks).filter nonBlank = ss.filter nonBlank
  | [], _, _ => by simp [keptAux]
  | _ :: _, [], h => by simp at h
  | s :: ss, k :: ks, h => by
    have ih := keptAux_nonBlank ss ks (by simpa using h)
    unfold keptAux
    by_cases hs : nonBlank s = true
    · simp [hs, ih]
    · cases k <;> simp [hs, ih]

theorem keptTexts_sublist (t : T) : (keptTexts t).Sublist t.texts := by
  rw [keptTexts_eq]; exact keptAux_sublist _ _

theorem keptTexts_nonBlank (t : T) (h : t.WF) : (keptTexts t).filter nonBlank = t.texts.filter nonBlank := by
  rw [keptTexts_eq]; exact keptAux_nonBlank _ _ h.2

/-- `c` = how many of the coming lines are still protected by an earlier start -/
def keptScan (cfg : Cfg) : Nat → List Str → List Str
  | _, [] => []
  | c, x :: rest =>
    if nonBlank x || decide (0 < max c (prot cfg x rest)) then x :: keptScan cfg (max c (prot cfg x rest) - 1) rest
    else keptScan cfg (max c (prot cfg x rest) - 1) rest

theorem keptAux_eq_scan (cfg : Cfg) (ls : List Str) : ∀ (c : Nat) (ks : List Bool), ks.length = ls.length →
    (∀ j, j < ls.length → (flag ks j = true ↔ j < c ∨ CovFrom (prot cfg) ls 0 j)) →
    keptAux ls ks = keptScan cfg c ls := by
  induction ls with
  | nil => intro c ks _ _; cases ks <;> rfl
  | cons x rest ih =>
    intro c ks hl h
    cases ks with
    | nil => cases hl
    | cons k ks =>
      have hk : k = decide (0 < max c (prot cfg x rest)) := by
        have h0 := h 0 (Nat.zero_lt_succ _)
        rw [covFrom_cons_zero] at h0
        rw [Bool.eq_iff_iff, decide_eq_true_iff]
        exact h0.trans (by omega)
      rw [keptAux, keptScan, hk, ih (max c (prot cfg x rest) - 1) ks (Nat.succ.inj hl)]
      intro j hj
      have := h (j + 1) (Nat.succ_lt_succ hj)
      rw [covFrom_cons_succ, ← or_assoc] at this
      exact this.trans (or_congr (by omega) Iff.rfl)

theorem keptTexts_link_eq_scan (cfg : Cfg) (ls : List Str) : keptTexts (link cfg ls) = keptScan cfg 0 ls := by
  rw [keptTexts_eq, link_texts_ll]
  refine keptAux_eq_scan cfg ls 0 _ (by rw [(link_wf cfg ls).2, link_texts_ll]) (fun j _ => ?_)
  rw [link_flag]; simp

theorem nonBlank_of_contains (y : Str) (d : Char) (h : (strip y).contains d = true) : nonBlank y = true := by
  unfold nonBlank
  cases hs : strip y with
  | nil => rw [hs] at h; simp at h
  | cons a b => rfl

theorem keptScan_cons_pos (cfg : Cfg) (c : Nat) (x : Str) (rest : List Str)
    (h : (nonBlank x || decide (0 < max c (prot cfg x rest))) = true) :
    keptScan cfg c (x :: rest) = x :: keptScan cfg (max c (prot cfg x rest) - 1) rest := by
  rw [keptScan, if_pos h]

theorem keptScan_cons_neg (cfg : Cfg) (c : Nat) (x : Str) (rest : List Str)
    (h : ¬ (nonBlank x || decide (0 < max c (prot cfg x rest))) = true) :
    keptScan cfg c (x :: rest) = keptScan cfg (max c (prot cfg x rest) - 1) rest := by
  rw [keptScan, if_neg h]

/-- the scan keeps a stretch it was told to protect: the lines before the closing line are
counted down, the closing line is counted too (`last = 1`) or is not blank -/
theorem runLen_kept (cfg : Cfg) (stop : Str → Bool) {last : Nat}
    (hstop : ∀ y, stop y = true → last = 0 → nonBlank y = true) (rest : List Str) :
    ∀ k, runLen stop last rest ≤ k → runLen stop last (keptScan cfg k rest) = runLen stop last rest := by
  induction rest with
  | nil => intro k _; rfl
  | cons y rest ih =>
    intro k hk
    rw [runLen] at hk ⊢
    have hkeep : (nonBlank y || decide (0 < max k (prot cfg y rest))) = true := by
      cases hs : stop y with
      | false => rw [hs] at hk; simp at hk ⊢; omega
      | true =>
        rw [hs] at hk
        by_cases h0 : last = 0
        · simp [hstop y hs h0]
        · simp at hk ⊢; omega
    rw [keptScan_cons_pos cfg k y rest hkeep, runLen]
    split
    · rfl
    · rename_i hs
      rw [if_neg hs] at hk
      rw [ih _ (by omega)]

theorem protB_kept (cfg : Cfg) (x : Str) (rest : List Str) (k : Nat) (h : protB x rest ≤ k + 1) :
    protB x (keptScan cfg k rest) = protB x rest := by
  unfold protB at h ⊢
  split
  · rw [if_pos ‹_›] at h
    cases hd : bannerDelim x with
    | none => rfl
    | some d =>
      simp only [hd] at h ⊢
      split
      · rfl
      · rw [if_neg ‹_›, bannerBodyLen_eq_runLen] at h
        rw [bannerBodyLen_eq_runLen, bannerBodyLen_eq_runLen,
          runLen_kept cfg _ (fun y hy _ => nonBlank_of_contains y d hy) rest k (by omega)]
  · rfl

theorem protM_kept (cfg : Cfg) (x : Str) (rest : List Str) (k : Nat) (h : protM x rest ≤ k + 1) :
    protM x (keptScan cfg k rest) = protM x rest := by
  unfold protM at h ⊢
  split
  · rw [if_pos ‹_›, macroBodyLen_eq_runLen] at h
    rw [macroBodyLen_eq_runLen, macroBodyLen_eq_runLen,
      runLen_kept cfg _ (fun _ _ h0 => by cases h0) rest k (by omega)]
  · rfl

theorem prot_kept (cfg : Cfg) (x : Str) (rest : List Str) (k : Nat) (h : prot cfg x rest ≤ k + 1) :
    prot cfg x (keptScan cfg k rest) = prot cfg x rest := by
  unfold prot at h ⊢
  rw [protB_kept cfg x rest k (by omega)]
  split
  · rw [if_pos ‹_›] at h; rw [protM_kept cfg x rest k (by omega)]
  · rfl

theorem keptScan_idem (cfg : Cfg) (ls : List Str) :
    ∀ c, keptScan cfg c (keptScan cfg c ls) = keptScan cfg c ls := by
  induction ls with
  | nil => intro c; rfl
  | cons x rest ih =>
    intro c
    by_cases hk : (nonBlank x || decide (0 < max c (prot cfg x rest))) = true
    · rw [keptScan_cons_pos cfg c x rest hk]
      have hp : prot cfg x (keptScan cfg (max c (prot cfg x rest) - 1) rest) = prot cfg x rest :=
        prot_kept cfg x rest _ (by omega)
      rw [keptScan_cons_pos cfg c x _ (by rw [hp]; exact hk), hp, ih]
    · rw [keptScan_cons_neg cfg c x rest hk]
      have h0 : max c (prot cfg x rest) = 0 := by
        simp at hk; omega
      have hc : c = 0 := by omega
      rw [h0, hc]
      exact ih 0

theorem keptTexts_link_idem (cfg : Cfg) (ls : List Str) :
    keptTexts (link cfg (keptTexts (link cfg ls))) = keptTexts (link cfg ls) := by
  rw [keptTexts_link_eq_scan, keptTexts_link_eq_scan, keptScan_idem]

theorem keptScan_plain (cfg : Cfg) (ls : List Str)
    (hb : ∀ x ∈ ls, isBannerStart x = false)
    (hm : cfg.ios = true → ∀ x ∈ ls, isMacroStart x = false) :
    keptScan cfg 0 ls = ls.filter nonBlank := by
  induction ls with
  | nil => rfl
  | cons x rest ih =>
    have hp : prot cfg x rest = 0 := by
      unfold prot protB protM
      rw [hb x (List.mem_cons_self ..)]
      cases hi : cfg.ios with
      | false => simp
      | true => simp [hm hi x (List.mem_cons_self ..)]
    have ih' := ih (fun y hy => hb y (List.mem_cons_of_mem _ hy))
      (fun hi y hy => hm hi y (List.mem_cons_of_mem _ hy))
    by_cases hn : nonBlank x = true
    · rw [keptScan_cons_pos cfg 0 x rest (by simp [hn]), hp]
      simp [hn, ih']
    · rw [keptScan_cons_neg cfg 0 x rest (by simp [hn, hp]), hp]
      simp [hn, ih']

theorem inBody_iff (cfg : Cfg) (ls : List Str) (j : Nat) (hj : j < ls.length) :
    inBody cfg ls j = true ↔ CovFrom (prot cfg) ls 0 j := by
  unfold inBody CovFrom
  simp only [List.any_eq_true, List.mem_range, decide_eq_true_eq]
  constructor
  · rintro ⟨q, hq, h⟩
    have hq' : q < ls.length := by omega
    refine ⟨q, Nat.zero_le _, by omega, ls[q], List.getElem?_eq_getElem hq', ?_⟩
    simpa [List.getD_eq_getElem?_getD, List.getElem?_eq_getElem hq'] using h
  · rintro ⟨q, _, hq, x, hx, h⟩
    refine ⟨q, by omega, ?_⟩
    simpa [List.getD_eq_getElem?_getD, hx] using h

theorem keptAux_zipIdx (f : Nat → Bool) (ls : List Str) : ∀ n,
    keptAux ls ((List.range' n ls.length).map f) =
      ((ls.zipIdx n).filter (fun xj => nonBlank xj.1 || f xj.2)).map Prod.fst := by
  induction ls with
  | nil => intro n; rfl
  | cons x rest ih =>
    intro n
    simp only [List.length_cons, List.range'_succ, List.map_cons, keptAux, List.zipIdx_cons, List.filter_cons]
    rw [ih (n + 1)]
    split <;> simp

theorem keptScan_eq_filter (cfg : Cfg) (ls : List Str) :
    keptScan cfg 0 ls = (ls.zipIdx.filter (fun xj => keepSpec cfg ls xj.2)).map Prod.fst := by
  rw [← keptAux_eq_scan cfg ls 0 ((List.range' 0 ls.length).map (inBody cfg ls)) (by simp) (fun j hj => by
    rw [← inBody_iff cfg ls j hj]; simp [flag, List.getD_eq_getElem?_getD, hj]), keptAux_zipIdx]
  congr 1
  apply List.filter_congr
  rintro ⟨x, j⟩ hm
  have := List.mem_zipIdx hm
  simp only [keepSpec]
  have hx : ls.getD j [] = x := by
    obtain ⟨_, h2, h3⟩ := this
    simp at h2 h3
    simp [List.getD_eq_getElem?_getD, List.getElem?_eq_getElem h2, h3]
  rw [hx]

end Ccp.Tree
