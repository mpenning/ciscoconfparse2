import Ccp.Proofs.TreePasses
/-!
For C02: the parent cache of the bootstrap loop is sound, and pass 1
(`linkByIndent`) computes `specParent`.
-/
namespace Ccp.Tree
open Ccp.Py

def lastBelow (p : Nat → Bool) : Nat → Option Nat
  | 0 => none
  | n + 1 => if p n then some n else lastBelow p n

theorem lastBelow_eq_some (p : Nat → Bool) (n j : Nat) :
    lastBelow p n = some j ↔ j < n ∧ p j = true ∧ ∀ m, j < m → m < n → p m = false := by
  induction n with
  | zero => simp [lastBelow]
  | succ n ih =>
    rw [lastBelow]
    cases hp : p n with
    | true =>
      simp only [if_true, Option.some.injEq]
      constructor
      · rintro rfl; exact ⟨Nat.lt_succ_self _, hp, fun m h1 h2 => by omega⟩
      · rintro ⟨h1, _, h3⟩
        apply Classical.byContradiction
        intro hne
        have := h3 n (by omega) (Nat.lt_succ_self _)
        rw [hp] at this; cases this
    | false =>
      simp only [Bool.false_eq_true, if_false, ih]
      constructor
      · rintro ⟨h1, h2, h3⟩
        refine ⟨by omega, h2, fun m hm1 hm2 => ?_⟩
        by_cases hm : m = n
        · rw [hm, hp]
        · exact h3 m hm1 (by omega)
      · rintro ⟨h1, h2, h3⟩
        have : j ≠ n := by rintro rfl; rw [hp] at h2; cases h2
        exact ⟨by omega, h2, fun m hm1 hm2 => h3 m hm1 (by omega)⟩

theorem lastBelow_eq_none (p : Nat → Bool) (n : Nat) :
    lastBelow p n = none ↔ ∀ m, m < n → p m = false := by
  induction n with
  | zero => simp [lastBelow]
  | succ n ih =>
    rw [lastBelow]
    cases hp : p n with
    | true =>
      simp only [if_true, reduceCtorEq, false_iff]
      intro h; have := h n (Nat.lt_succ_self _); rw [hp] at this; cases this
    | false =>
      simp only [Bool.false_eq_true, if_false, ih]
      constructor
      · intro h m hm
        by_cases hmn : m = n
        · rw [hmn, hp]
        · exact h m (by omega)
      · intro h m hm; exact h m (by omega)

theorem nearestShallower_eq_lastBelow (infos : List Info) (k n : Nat) :
    nearestShallower infos k n =
      lastBelow (fun j => infos[j]?.any (fun l => l.isCfg && decide (l.indent < k))) n := by
  induction n with
  | zero => rfl
  | succ n ih =>
    rw [nearestShallower, lastBelow, ih]
    cases infos[n]? with
    | none => rfl
    | some l => by_cases h : l.isCfg = true ∧ l.indent < k <;> simp [h]

theorem nearestShallower_eq_some (infos : List Info) (k n j : Nat) :
    nearestShallower infos k n = some j ↔
      j < n ∧ (∃ l, infos[j]? = some l ∧ l.isCfg = true ∧ l.indent < k) ∧
      ∀ m l, j < m → m < n → infos[m]? = some l → ¬ (l.isCfg = true ∧ l.indent < k) := by
  simp only [nearestShallower_eq_lastBelow, lastBelow_eq_some, Option.any_eq_true, Option.any_eq_false,
    Bool.and_eq_true, decide_eq_true_eq, Bool.and_eq_false_imp, decide_eq_false_iff_not]
  exact ⟨fun ⟨a, b, c⟩ => ⟨a, b, fun m l h1 h2 h3 h4 => c m h1 h2 l h3 h4.1 h4.2⟩,
    fun ⟨a, b, c⟩ => ⟨a, b, fun m h1 h2 l h3 h4 h5 => c m l h1 h2 h3 ⟨h4, h5⟩⟩⟩

theorem nearestShallower_eq_none (infos : List Info) (k n : Nat) :
    nearestShallower infos k n = none ↔
      ∀ m l, m < n → infos[m]? = some l → ¬ (l.isCfg = true ∧ l.indent < k) := by
  simp only [nearestShallower_eq_lastBelow, lastBelow_eq_none, Option.any_eq_false, Bool.and_eq_false_imp,
    decide_eq_false_iff_not]
  exact ⟨fun c m l h1 h2 h3 => c m h1 l h2 h3.1 h3.2, fun c m h1 l h2 h3 h4 => c m l h1 h2 ⟨h3, h4⟩⟩

theorem specParent_le_self (infos : List Info) (i : Nat) : specParent infos i ≤ i := by
  unfold specParent
  split
  · exact Nat.le_refl i
  · split
    · exact Nat.le_refl i
    · cases h : nearestShallower infos _ i with
      | none => exact Nat.le_refl i
      | some j => exact Nat.le_of_lt ((nearestShallower_eq_some infos _ i j).mp h).1

theorem lookup_filter (c : Cache) (j k : Nat) :
    lookup (c.filter (fun kp => kp.1 < j)) k = if k < j then lookup c k else none := by
  induction c with
  | nil => simp [lookup]
  | cons a r ih =>
    obtain ⟨k', p⟩ := a
    by_cases h : k' < j <;> by_cases h2 : k' = k
    · subst h2; simp [List.filter, h, lookup]
    · simp [List.filter, h, lookup, ih, h2]
    · subst h2; simp [List.filter, h, ih]
    · simp [List.filter, h, lookup, ih, h2]

/-- the parent candidate the loop should settle on before the comment exception -/
def candSpec (revPre : List (Nat × Info)) (l : Info) : Option Nat :=
  if l.indent = 0 then none else walkBack revPre l.indent

/-- the cache invariant: every cached entry `k ↦ p` is the walk-back answer for indent `k`
over the processed lines, and its key lies in `(0, max_indent]` -/
def CacheInv (cache : Cache) (mx : Nat) (revPre : List (Nat × Info)) : Prop :=
  ∀ k p, lookup cache k = some p → walkBack revPre k = some p ∧ 0 < k ∧ k ≤ mx

/-- the invariant for the cache *seen as a cache for the prefix extended by line `i`* -/
def CacheInvNext (cache : Cache) (mx : Nat) (revPre : List (Nat × Info)) (i : Nat) (l : Info) : Prop :=
  ∀ k p, lookup cache k = some p →
    walkBack ((i, l) :: revPre) k = some p ∧ 0 < k ∧ k ≤ newMax mx l

theorem cacheInv_init : CacheInv St.init.cache St.init.mx St.init.revPre := by
  intro k p h; cases h

theorem maintain_parent (c : Cache) (mx : Nat) (rp : List (Nat × Info)) (l : Info)
    (h : CacheInv c mx rp) :
    ∀ p, (maintain c mx l).2 = some p → walkBack rp l.indent = some p := by
  intro p hp
  unfold maintain at hp
  split at hp
  · cases hp
  · exact (h _ _ hp).1

/-- a cached entry survives `maintain` only if the new line does not answer its walk-back
question: the cache is cut back to keys below the line's indent when the line dedents, and
otherwise a configuration line is indented at least `max_indent` -/
theorem maintain_next (c : Cache) (mx : Nat) (rp : List (Nat × Info)) (i : Nat) (l : Info)
    (h : CacheInv c mx rp) : CacheInvNext (maintain c mx l).1 mx rp i l := by
  intro k p hk
  have key : lookup c k = some p ∧ ¬ (l.indent < k ∧ l.isCfg = true) := by
    unfold maintain at hk
    split at hk
    · rw [lookup_filter] at hk
      split at hk
      · exact ⟨hk, by omega⟩
      · cases hk
    · rename_i hpr
      have := (h _ _ hk).2.2
      exact ⟨hk, fun hh => hpr (by simp [hh.2]; omega)⟩
  obtain ⟨h1, h2, h3⟩ := h _ _ key.1
  refine ⟨?_, h2, ?_⟩
  · show (if l.indent < k && l.isCfg then some i else walkBack rp k) = some p
    rw [if_neg (by simpa using key.2)]; exact h1
  · unfold newMax
    split
    · rename_i h0
      simp only [Bool.and_eq_true, decide_eq_true_eq] at h0
      exact absurd ⟨by omega, h0.2⟩ key.2
    · omega

theorem build_parent (rp : List (Nat × Info)) (cp : Cache × Option Nat) (l : Info)
    (hp : ∀ p, cp.2 = some p → walkBack rp l.indent = some p) :
    (build rp cp l).2 = candSpec rp l := by
  unfold build candSpec
  split
  · rfl
  · cases h2 : cp.2 with
    | some p => simp [hp p h2]
    | none => cases hw : walkBack rp l.indent <;> simp

theorem build_next (rp : List (Nat × Info)) (cp : Cache × Option Nat) (mx i : Nat) (l : Info)
    (h : CacheInvNext cp.1 mx rp i l) : CacheInvNext (build rp cp l).1 mx rp i l := by
  unfold build
  split
  · exact h
  · rename_i hpos
    cases h2 : cp.2 with
    | some p => exact h
    | none =>
      cases hw : walkBack rp l.indent with
      | none => exact h
      | some q =>
        intro k p hk
        simp only [lookup] at hk
        split at hk
        · rename_i heq
          cases hk; subst heq
          show (if l.indent < l.indent && l.isCfg then some i else walkBack rp l.indent) = some q ∧ _
          unfold newMax
          simp [hw, hpos]; omega
        · exact h _ _ hk

theorem step_correct (st : St) (i : Nat) (l : Info) (h : CacheInv st.cache st.mx st.revPre) :
    (step st i l).2 = attach st.revPre i l (candSpec st.revPre l) ∧
    CacheInv (step st i l).1.cache (step st i l).1.mx (step st i l).1.revPre := by
  constructor
  · show attach _ _ _ (build _ _ _).2 = _
    rw [build_parent _ _ _ (maintain_parent _ _ _ _ h)]
  · exact build_next _ _ _ _ _ (maintain_next _ _ _ _ _ h)

theorem walkBack_lt {rp : List (Nat × Info)} {k p i : Nat} (hr : ∀ x ∈ rp, x.1 < i)
    (h : walkBack rp k = some p) : p < i := by
  induction rp with
  | nil => simp [walkBack] at h
  | cons a r ih =>
    obtain ⟨j, l⟩ := a
    simp only [walkBack] at h
    split at h
    · cases h; exact hr (p, l) (by simp)
    · exact ih (fun x hx => hr x (by simp [hx])) h

theorem cand_lt {st : St} {i : Nat} (l : Info) (h : CacheInv st.cache st.mx st.revPre)
    (hr : ∀ x ∈ st.revPre, x.1 < i) :
    ∀ p, (build st.revPre (maintain st.cache st.mx l) l).2 = some p → p < i := by
  intro p hp
  rw [build_parent _ _ _ (maintain_parent _ _ _ _ h), candSpec] at hp
  split at hp
  · cases hp
  · exact walkBack_lt hr hp

/-- the processed lines `0 … n-1` of `infos`, newest first, with their indices -/
def revPreOf (infos : List Info) : Nat → List (Nat × Info)
  | 0 => []
  | n + 1 =>
    match infos[n]? with
    | some l => (n, l) :: revPreOf infos n
    | none => revPreOf infos n

theorem walkBack_revPreOf (infos : List Info) (k n : Nat) :
    walkBack (revPreOf infos n) k = nearestShallower infos k n := by
  induction n with
  | zero => rfl
  | succ n ih =>
    unfold revPreOf nearestShallower
    cases h : infos[n]? with
    | none => simpa using ih
    | some l =>
      simp only [walkBack, ih]
      by_cases h1 : l.isCfg = true <;> by_cases h2 : l.indent < k <;> simp [h1, h2]

theorem attach_spec (infos : List Info) (i : Nat) (l : Info) (hl : infos[i]? = some l) :
    attach (revPreOf infos i) i l (candSpec (revPreOf infos i) l) = specParent infos i := by
  unfold specParent candSpec
  rw [hl, walkBack_revPreOf]
  cases i with
  | zero =>
    simp [nearestShallower, attach, commentUnderDeeper]
  | succ j =>
    have hj : j < infos.length := by
      have := (List.getElem?_eq_some_iff.mp hl).1; omega
    have hprev : infos[j]? = some infos[j] := List.getElem?_eq_getElem hj
    simp only [revPreOf, hprev, commentUnderDeeper, hl]
    by_cases h0 : l.indent = 0
    · simp [h0, attach]
    · cases hn : nearestShallower infos l.indent (j + 1) with
      | none => simp [h0, attach]
      | some p =>
        by_cases hc : l.isCmt = true <;> by_cases hd : infos[j].indent > l.indent <;>
          simp [h0, attach, hc, hd]

theorem linkLoop_eq_spec (infos : List Info) :
    ∀ (ls : List Info) (i : Nat) (st : St), infos.drop i = ls → st.revPre = revPreOf infos i →
      CacheInv st.cache st.mx st.revPre →
      linkLoop st i ls = (List.range' i ls.length).map (specParent infos) := by
  intro ls
  induction ls with
  | nil => intros; rfl
  | cons l rest ih =>
    intro i st hdrop hrev hinv
    obtain ⟨hl, hrest, _⟩ := drop_cons_getElem? _ _ _ _ hdrop
    obtain ⟨hpar, hinv'⟩ := step_correct st i l hinv
    have hrev' : (step st i l).1.revPre = revPreOf infos (i + 1) := by
      show (i, l) :: st.revPre = _
      rw [hrev]; simp [revPreOf, hl]
    show (step st i l).2 :: linkLoop (step st i l).1 (i + 1) rest = _
    rw [ih (i + 1) _ hrest hrev' hinv', hpar, hrev, attach_spec infos i l hl]
    simp [List.range'_succ]

theorem linkByIndent_eq_map (cfg : Cfg) (ls : List Str) :
    linkByIndent cfg ls = (List.range ls.length).map (specParent (ls.map (info cfg))) := by
  unfold linkByIndent
  rw [linkLoop_eq_spec (ls.map (info cfg)) _ 0 St.init (by simp) rfl cacheInv_init]
  simp [List.range_eq_range']

theorem info_delims (cfg cfg' : Cfg) (h : cfg.delims = cfg'.delims) : info cfg = info cfg' := by
  funext t
  simp [info, isConfigLine, isComment, h]

end Ccp.Tree
