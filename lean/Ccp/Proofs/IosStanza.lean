import Ccp.Proofs.IosModels
import Ccp.Props.C02
import Ccp.Props.C03
import Ccp.Proofs.TreeForest
namespace Ccp.Ios
open Ccp.Py Ccp.Tree

/-!
The tree `Ccp.Tree.parse` builds from a rendered stanza: the header line gets exactly the rendered children, none
of which has children, so the family the accessors read is `flatFam` (`stanza_family`).  First the links and the
family for any line infos of that shape, an unindented configuration line followed by lines of indent one; then
the rendered lines have that shape.
-/

def FlatInfos (infos : List Info) : Prop :=
  ∃ h ks, infos = h :: ks ∧ h.indent = 0 ∧ h.isCfg = true ∧ ∀ k ∈ ks, k.indent = 1

theorem nearest_flat (h : Info) (ks : List Info) (h0 : h.indent = 0) (hc : h.isCfg = true)
    (hk : ∀ k ∈ ks, k.indent = 1) (j : Nat) (hj : j ≤ ks.length) :
    nearestShallower (h :: ks) 1 (j + 1) = some 0 := by
  induction j with
  | zero => simp [nearestShallower, hc, h0]
  | succ j ih =>
    have hlt : j < ks.length := by omega
    have : (h :: ks)[j + 1]? = some ks[j] := by simp [hlt]
    rw [nearestShallower, this]
    have := hk ks[j] (List.getElem_mem hlt)
    simp [this, ih (by omega)]

theorem specParent_flat (h : Info) (ks : List Info) (h0 : h.indent = 0) (hc : h.isCfg = true)
    (hk : ∀ k ∈ ks, k.indent = 1) (i : Nat) (hi : i ≤ ks.length) : specParent (h :: ks) i = 0 := by
  cases i with
  | zero => simp [specParent, h0]
  | succ j =>
    have hlt : j < ks.length := by omega
    have hget : (h :: ks)[j + 1]? = some ks[j] := by simp [hlt]
    have h1 := hk ks[j] (List.getElem_mem hlt)
    have hprev : ∀ p, (h :: ks)[j]? = some p → ¬ p.indent > 1 := by
      intro p hp
      cases j with
      | zero => simp at hp; subst hp; omega
      | succ j' =>
        have hl' : j' < ks.length := by omega
        simp [hl'] at hp; subst hp
        have := hk ks[j'] (List.getElem_mem hl'); omega
    have hcud : commentUnderDeeper (h :: ks) (j + 1) = false := by
      unfold commentUnderDeeper
      rw [hget]; simp only
      cases hp : (h :: ks)[j]? with
      | none => simp
      | some p => simp [h1, hprev p hp]
    unfold specParent
    rw [hget]; simp only [h1, hcud]
    simp [nearest_flat h ks h0 hc hk j (by omega)]

theorem range_succ_filter (n : Nat) (p : Nat → Bool) (h0 : p 0 = false) (hs : ∀ i, i < n → p (i + 1) = true) :
    (List.range (n + 1)).filter p = (List.range n).map (· + 1) := by
  rw [List.range_succ_eq_map, List.filter_cons, h0]
  simp only [Bool.false_eq_true, if_false, List.filter_map]
  congr 1
  apply List.filter_eq_self.mpr
  intro i hi
  exact hs i (List.mem_range.mp hi)

theorem specChildren_flat (h : Info) (ks : List Info) (h0 : h.indent = 0) (hc : h.isCfg = true)
    (hk : ∀ k ∈ ks, k.indent = 1) :
    specChildren (h :: ks) 0 = (List.range ks.length).map (· + 1) ∧
    ∀ p, 0 < p → specChildren (h :: ks) p = [] := by
  constructor
  · unfold specChildren
    rw [List.length_cons]
    apply range_succ_filter
    · simp
    · intro i hi
      simp [specParent_flat h ks h0 hc hk (i + 1) (by omega)]
  · intro p hp
    unfold specChildren
    apply List.filter_eq_nil_iff.mpr
    intro i hi
    have hi' : i ≤ ks.length := by have := List.mem_range.mp hi; simp at this; omega
    simp [specParent_flat h ks h0 hc hk i hi']
    omega

theorem flatMap_single {α : Type} (l : List α) (f : α → List α) (h : ∀ c ∈ l, f c = [c]) : l.flatMap f = l := by
  induction l with
  | nil => rfl
  | cons x xs ih => simp [List.flatMap_cons, h x (by simp), ih (fun c hc => h c (by simp [hc]))]

theorem map_getD_tail (x : Str) (xs : List Str) :
    ((List.range xs.length).map (· + 1)).map (fun j => (x :: xs).getD j []) = xs := by
  apply List.ext_getElem
  · simp
  · intro i h1 h2
    simp at h1
    simp [h1]

theorem famOf_flat (t : T) (hdr : Str) (ks : List Str) (ht : t.texts = hdr :: ks)
    (hp0 : parentOf t 0 = 0)
    (hc0 : children t 0 = (List.range ks.length).map (· + 1))
    (hcs : ∀ p, 0 < p → children t p = []) :
    famOf t 0 = { self := hdr, kids := ks, order := hdr :: ks, secFams := ks.map (fun k => [k]) } := by
  have hsize : t.size = ks.length + 1 := by simp [T.size, ht]
  have hall : allChildren t 0 = (List.range ks.length).map (· + 1) := by
    unfold allChildren
    rw [hsize, allChildrenFuel, hc0]
    have hz : ∀ c ∈ (List.range ks.length).map (· + 1), allChildrenFuel t ks.length c = [] := by
      intro c hc
      obtain ⟨i, _, rfl⟩ := List.mem_map.mp hc
      cases ks.length with
      | zero => rfl
      | succ m => simp [allChildrenFuel, hcs (i + 1) (by omega)]
    have : ((List.range ks.length).map (· + 1)).flatMap (fun c => c :: allChildrenFuel t ks.length c)
        = (List.range ks.length).map (· + 1) :=
      flatMap_single _ _ (fun c hc => by rw [hz c hc])
    rw [this]
    apply sortKeep_id
    rw [List.pairwise_map]
    exact (List.pairwise_lt_range).imp (fun h => by omega)
  have htext : ∀ j, Typed.text t j = (hdr :: ks).getD j [] := fun j => by simp [Typed.text, ht]
  have hkids : ((List.range ks.length).map (· + 1)).map (Typed.text t) = ks := by
    rw [show Typed.text t = fun j => (hdr :: ks).getD j [] from funext htext]
    exact map_getD_tail hdr ks
  have hself : Typed.text t 0 = hdr := by simp [htext]
  unfold famOf
  simp only [Typed.order, if_true, hp0, hall, hc0, List.map_cons, hself, hkids]
  congr 1
  have hk2 : ks.map (fun k => [k]) = (((List.range ks.length).map (· + 1)).map (Typed.text t)).map (fun k => [k]) := by
    rw [hkids]
  rw [hk2, List.map_map, List.map_map, List.map_map]
  apply List.map_congr_left
  intro j hj
  simp [Function.comp, allChildren_nil_of_children_nil (hcs (j + 1) (by omega))]

theorem info_unindented (cfg : Cfg) (c : Char) (r : Str) (hc : isSpace c = false)
    (hd : cfg.delims.contains c = false) :
    (info cfg (c :: r)).indent = 0 ∧ (info cfg (c :: r)).isCfg = true := by
  have hl : lstrip (c :: r) = c :: r := lstrip_of_head _ fun _ hx => Option.some.inj hx ▸ hc
  simpa [info, indent, isConfigLine, isComment, hl] using hd

theorem info_indent1 (cfg : Cfg) (c : Char) (r : Str) (hc : isSpace c = false) :
    (info cfg (' ' :: c :: r)).indent = 1 :=
  indent_replicate 1 (c :: r) fun _ hx => Option.some.inj hx ▸ hc

theorem render_shape (it : Item) (h : it.Valid) : ∃ c r, it.render = ' ' :: c :: r ∧ isSpace c = false := by
  obtain ⟨w, ws, hw⟩ := List.exists_cons_of_ne_nil (it.words_ne_nil h)
  obtain ⟨hne, hsp⟩ := it.words_valid h w (by simp [hw])
  obtain ⟨c, w', rfl⟩ := List.exists_cons_of_ne_nil hne
  refine ⟨c, (join [' '] ((c :: w') :: ws)).tail, ?_, hsp c (by simp)⟩
  rw [Item.render, hw]
  cases ws <;> rfl

theorem hdr_shape (nm : List Str) : ∃ r, line [] (kInterface :: nm) = 'i' :: r := by
  cases nm <;> exact ⟨_, rfl⟩

theorem isMacroStart_of_head (c : Char) (r : Str) (hc : c ≠ 'm') : isMacroStart (c :: r) = false := by
  simp [isMacroStart, List.take, hc]

/-- The tree builder puts exactly the rendered children under the interface line.  `hd`: `i` is no comment
delimiter, so the header is a configuration line.  `hb`: no line is a banner start (`banner <kw>` cannot occur,
children are indented, but the unanchored `aaa authentication fail-message` could, inside a description). -/
theorem stanza_family (cfg : Cfg) (nm : List Str) (kids : List Item) (hv : ∀ it ∈ kids, it.Valid)
    (hd : cfg.delims.contains 'i' = false) (hi : cfg.ignoreBlank = false)
    (hb : ∀ x ∈ line [] (kInterface :: nm) :: kids.map Item.render, isBannerStart x = false) :
    famOf (parse cfg (line [] (kInterface :: nm) :: kids.map Item.render)) 0 =
      flatFam (line [] (kInterface :: nm)) kids := by
  obtain ⟨hr, hhdr⟩ := hdr_shape nm
  have hm : cfg.ios = true → ∀ x ∈ line [] (kInterface :: nm) :: kids.map Item.render, isMacroStart x = false := by
    intro _ x hx
    rcases List.mem_cons.mp hx with rfl | hx
    · rw [hhdr]; exact isMacroStart_of_head _ _ (by decide)
    · obtain ⟨it, hit, rfl⟩ := List.mem_map.mp hx
      obtain ⟨c, r, hs, _⟩ := render_shape it (hv it hit)
      rw [hs]; exact isMacroStart_of_head _ _ (by decide)
  obtain ⟨htexts, _, hch⟩ := C02.parse_links_eq_spec cfg _ hb hm hi
  have hinfo0 := info_unindented cfg 'i' hr (by decide) hd
  rw [← hhdr] at hinfo0
  have hk : ∀ k ∈ (kids.map Item.render).map (info cfg), k.indent = 1 := by
    intro k hk
    obtain ⟨s, hs, rfl⟩ := List.mem_map.mp hk
    obtain ⟨it, hit, rfl⟩ := List.mem_map.mp hs
    obtain ⟨c, r, hsh, hc⟩ := render_shape it (hv it hit)
    rw [hsh]; exact info_indent1 cfg c r hc
  have hsc := specChildren_flat (info cfg (line [] (kInterface :: nm))) ((kids.map Item.render).map (info cfg))
    hinfo0.1 hinfo0.2 hk
  simp only [List.map_cons] at hch
  have hlen : ((kids.map Item.render).map (info cfg)).length = (kids.map Item.render).length := by simp
  rw [hlen] at hsc
  have hpar0 : parentOf (parse cfg (line [] (kInterface :: nm) :: kids.map Item.render)) 0 = 0 := by
    have := C03.parse_forest cfg (line [] (kInterface :: nm) :: kids.map Item.render)
    exact Nat.le_zero.mp (this.2 0 (by simp [T.size, htexts]))
  have := famOf_flat _ _ _ htexts hpar0 (by rw [hch 0]; exact hsc.1) (fun p hp => by rw [hch p]; exact hsc.2 p hp)
  rw [this]
  simp [flatFam, List.map_map, Function.comp]

end Ccp.Ios
