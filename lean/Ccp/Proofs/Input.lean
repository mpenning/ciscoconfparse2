import Ccp.Model.Input
import Ccp.Proofs.TreeLossless
import Ccp.Proofs.Py
/-!
C09 (`Ccp.Model.Input`), the save/load cycle.  A file written by `save_as` reads back as `norm M` (the lines
and one final empty line); saving the object loaded from it is a fixed point for any text function that is
`Stable`.  `Stable (texts cfg)` comes from what `Ccp.Proofs.TreeLossless` says about `bootstrap`, and from
`ext_link`: one more line at the end leaves the keep flags of the other lines alone.
-/
namespace Ccp.Py

theorem splitOn_cons_ne {sep c : Char} (h : c ≠ sep) (cs : Str) :
    splitOn sep (c :: cs) = pushHead c (splitOn sep cs) := by
  simp only [splitOn]
  cases hs : splitOn sep cs with
  | nil => exact absurd hs (splitOn_ne_nil _ _)
  | cons w ws => simp [h, pushHead]

end Ccp.Py

namespace Ccp.Input
open Ccp.Py

/-- no character at which `str.splitlines()` breaks -/
def BreakFree (l : Str) : Prop := ∀ c ∈ l, isBreak c = false
def Clean (l : Str) : Prop := ∀ c ∈ l, c ≠ '\n' ∧ c ≠ '\r'

theorem BreakFree.clean {l : Str} (h : BreakFree l) : Clean l := by
  intro c hc
  constructor <;> (rintro rfl; exact absurd (h _ hc) (by decide))

theorem forall_chars_snoc_nil {P : Char → Prop} {ls : List Str} (h : ∀ l ∈ ls, ∀ c ∈ l, P c) :
    ∀ l ∈ ls ++ [[]], ∀ c ∈ l, P c := by
  intro l hl
  rcases List.mem_append.mp hl with hl | hl
  · exact h l hl
  · rw [List.mem_singleton.mp hl]; intro c hc; cases hc

/-- `os.linesep` values covered: POSIX and Windows -/
def IsLinesep (sep : Str) : Prop := sep = ['\n'] ∨ sep = ['\r', '\n']

/-- the list without one final empty line -/
def dropLastEmpty : List Str → List Str
  | [] => []
  | l :: r =>
    match r with
    | [] => if l = [] then [] else [l]
    | _ :: _ => l :: dropLastEmpty r

theorem dropLastEmpty_snoc (ls : List Str) : dropLastEmpty (ls ++ [[]]) = ls := by
  induction ls with
  | nil => rfl
  | cons l r ih =>
    cases r with
    | nil => rfl
    | cons l2 r => exact congrArg (l :: ·) ih

theorem dropLastEmpty_id (ls : List Str) (h : ls.getLast? ≠ some []) : dropLastEmpty ls = ls := by
  induction ls with
  | nil => rfl
  | cons l r ih =>
    cases r with
    | nil =>
      have : l ≠ [] := by rintro rfl; simp at h
      simp [dropLastEmpty, this]
    | cons l2 r => exact congrArg (l :: ·) (ih (by simpa [List.getLast?_cons_cons] using h))

theorem isBreak_lf : isBreak '\n' = true := by decide
theorem isBreak_cr : isBreak '\r' = true := by decide

theorem splitlines_cons_plain {c : Char} (hc : isBreak c = false) (cs : Str) :
    splitlines (c :: cs) = pushHead c (splitlines cs) := by
  have h1 : c ≠ '\r' := by rintro rfl; simp [isBreak_cr] at hc
  simp [splitlines, h1, hc]

theorem splitlines_breakFree (w : Str) (hw : BreakFree w) :
    splitlines w = if w = [] then [] else [w] := by
  induction w with
  | nil => rfl
  | cons c w ih =>
    obtain ⟨hc, hw'⟩ := List.forall_mem_cons.mp hw
    rw [splitlines_cons_plain hc, ih hw']
    by_cases h : w = [] <;> simp [h, pushHead]

theorem splitlines_linesep {sep : Str} (hs : IsLinesep sep) (rest : Str) :
    splitlines (sep ++ rest) = [] :: splitlines rest := by
  rcases hs with rfl | rfl <;> simp [splitlines, isBreak_lf]

theorem splitlines_append_sep {sep : Str} (hs : IsLinesep sep) (w : Str) (hw : BreakFree w) (rest : Str) :
    splitlines (w ++ (sep ++ rest)) = w :: splitlines rest := by
  induction w with
  | nil => exact splitlines_linesep hs rest
  | cons c w ih =>
    obtain ⟨hc, hw'⟩ := List.forall_mem_cons.mp hw
    rw [List.cons_append, splitlines_cons_plain hc, ih hw']; rfl

theorem splitlines_join_sep {sep : Str} (hs : IsLinesep sep) (ls : List Str) (h : ∀ l ∈ ls, BreakFree l) :
    splitlines (join sep ls) = dropLastEmpty ls := by
  induction ls with
  | nil => rfl
  | cons l r ih =>
    obtain ⟨hl, hr⟩ := List.forall_mem_cons.mp h
    cases r with
    | nil => simp [join, dropLastEmpty, splitlines_breakFree l hl]
    | cons l2 r =>
      rw [join_cons_cons, List.append_assoc, splitlines_append_sep hs l hl, ih hr]; rfl

theorem splitlines_join_final {sep : Str} (hs : IsLinesep sep) (ls : List Str) (h : ∀ l ∈ ls, BreakFree l)
    (hne : ls ≠ []) : splitlines (join sep ls ++ sep) = ls := by
  rw [join_final hne, splitlines_join_sep hs _ (forall_chars_snoc_nil h), dropLastEmpty_snoc]

theorem splitlines_join_exact {sep : Str} (hs : IsLinesep sep) (ls : List Str) (h : ∀ l ∈ ls, BreakFree l)
    (hl : ls.getLast? ≠ some []) : splitlines (join sep ls) = ls := by
  rw [splitlines_join_sep hs ls h, dropLastEmpty_id ls hl]

theorem initLines_str_lines (fs : Path → Option Text) {s : Str} (h : 2 ≤ (splitlines s).length) :
    initLines fs (.str s) = .ok (splitlines s) := by
  have h1 : ¬ (splitlines s).length = 1 := by omega
  have h2 : (splitlines s).length > 1 := h
  simp only [initLines, readConfig, readStr, h1, h2, if_false, if_true]; rfl

def NoCR (t : Str) : Prop := ∀ c ∈ t, c ≠ '\r'
def NoLF (t : Str) : Prop := ∀ c ∈ t, c ≠ '\n'

theorem NoLF.not_mem {t : Str} (h : NoLF t) : '\n' ∉ t := fun hm => h _ hm rfl

theorem universalNewlines_noCR (t : Text) : NoCR (universalNewlines t) := by
  induction t with
  | nil => intro c hc; cases hc
  | cons c cs ih =>
    unfold universalNewlines
    split
    · split
      · exact ih
      · exact List.forall_mem_cons.mpr ⟨by decide, ih⟩
    · rename_i hc
      exact List.forall_mem_cons.mpr ⟨hc, ih⟩

theorem universalNewlines_id (t : Text) (h : NoCR t) : universalNewlines t = t := by
  induction t with
  | nil => rfl
  | cons c cs ih =>
    obtain ⟨hc, hcs⟩ := List.forall_mem_cons.mp h
    simp only [universalNewlines, hc, if_false, ih hcs]

theorem splitRegexCRLF_noCR (t : Text) (h : NoCR t) : splitRegexCRLF t = splitOn '\n' t := by
  induction t with
  | nil => rfl
  | cons c cs ih =>
    obtain ⟨hc, hcs⟩ := List.forall_mem_cons.mp h
    by_cases hn : c = '\n'
    · subst hn; simp [splitRegexCRLF, splitOn_cons_sep, ih hcs]
    · simp [splitRegexCRLF, splitOn_cons_ne hn, hn, hc, ih hcs]

theorem universal_write_lf (t : Text) : writeNewlines ['\n'] t = t := by
  induction t with
  | nil => rfl
  | cons c cs ih => by_cases h : c = '\n' <;> simp [writeNewlines, h, ih]

theorem universal_write (sep : Str) (hs : IsLinesep sep) (t : Text) (h : NoCR t) :
    universalNewlines (writeNewlines sep t) = t := by
  rcases hs with rfl | rfl
  · rw [universal_write_lf, universalNewlines_id t h]
  · induction t with
    | nil => rfl
    | cons c cs ih =>
      obtain ⟨hc, hcs⟩ := List.forall_mem_cons.mp h
      by_cases hn : c = '\n'
      · subst hn; simp [writeNewlines, universalNewlines, ih hcs]
      · simp [writeNewlines, universalNewlines, hn, hc, ih hcs]

def CleanLines (ls : List Str) : Prop := ∀ l ∈ ls, Clean l

/-- what a saved file holds: the lines, plus a final empty line unless there is one already -/
def norm (M : List Str) : List Str :=
  if M = [] then [[], []] else if M.getLast? = some [] ∧ 2 ≤ M.length then M else M ++ [[]]

theorem CleanLines.noLF {M : List Str} (h : CleanLines M) : ∀ l ∈ M, NoLF l :=
  fun l hl c hc => (h l hl c hc).1

theorem cleanLines_sub {L M : List Str} (h : M.Sublist L) (hL : CleanLines L) : CleanLines M :=
  fun l hl => hL l (h.subset hl)

theorem noCR_join (N : List Str) (h : CleanLines N) : NoCR (join ['\n'] N) :=
  join_chars _ N (· ≠ '\r') (by decide) (fun l hl c hc => (h l hl c hc).2)

theorem mem_norm {M : List Str} {l : Str} (h : l ∈ norm M) : l ∈ M ∨ l = [] := by
  unfold norm at h
  split at h
  · exact Or.inr (by simpa using h)
  · split at h
    · exact Or.inl h
    · simpa using h

theorem cleanLines_norm {M : List Str} (h : CleanLines M) : CleanLines (norm M) := by
  intro l hl
  rcases mem_norm hl with hl | rfl
  · exact h l hl
  · intro c hc; cases hc

theorem norm_ne_nil (M : List Str) : norm M ≠ [] := by
  unfold norm
  split
  · simp
  · split
    · assumption
    · simp

theorem norm_snoc_nil {M : List Str} (h : M ≠ []) : norm (M ++ [[]]) = M ++ [[]] := by simp [norm, h]

theorem saveText_eq (M : List Str) (h : ∀ l ∈ M, NoLF l) : saveText M = join ['\n'] (norm M) := by
  rcases List.eq_nil_or_concat M with rfl | ⟨M', x, rfl⟩
  · rfl
  · -- the joined text ends with `\n` exactly when the last line `x` is empty and not the only one
    rw [List.concat_eq_append] at h ⊢
    have hx : x.getLast? ≠ some '\n' := fun e => (h x (by simp)).not_mem (List.mem_of_getLast? e)
    by_cases hM' : M' = []
    · subst hM'; simp [saveText, norm, join, hx]
    · have hj := join_snoc ['\n'] M' hM' x
      by_cases hxe : x = []
      · subst hxe
        simp [saveText, norm_snoc_nil hM', hj]
      · have hl : (join ['\n'] (M' ++ [x])).getLast? = x.getLast? := by
          rw [hj, List.getLast?_append]
          cases hxl : x.getLast? with
          | none => exact absurd (List.getLast?_eq_none_iff.mp hxl) hxe
          | some c => rfl
        have hn : norm (M' ++ [x]) = M' ++ [x] ++ [[]] := by simp [norm, hxe]
        rw [hn, join_snoc _ _ (by simp)]
        simp [saveText, hl, hx]

theorem fileLines_write {sep : Str} (hs : IsLinesep sep) (t : Text) (h : NoCR t) :
    fileLines (writeNewlines sep t) = fileLines t := by
  unfold fileLines
  rw [universal_write sep hs t h, universalNewlines_id t h]

theorem fileLines_join (N : List Str) (hN : N ≠ []) (h : CleanLines N) : fileLines (join ['\n'] N) = N := by
  have hcr := noCR_join N h
  unfold fileLines
  rw [universalNewlines_id _ hcr, splitRegexCRLF_noCR _ hcr,
    splitOn_join _ _ hN (fun l hl => (h.noLF l hl).not_mem)]

theorem fileLines_saveAs (sep : Str) (hs : IsLinesep sep) (M : List Str) (h : CleanLines M) :
    fileLines (saveAs sep M) = norm M := by
  have hn := cleanLines_norm h
  unfold saveAs
  rw [saveText_eq M h.noLF, fileLines_write hs _ (noCR_join _ hn), fileLines_join _ (norm_ne_nil M) hn]

theorem fileLines_clean (raw : Text) : CleanLines (fileLines raw) ∧ fileLines raw ≠ [] := by
  unfold fileLines
  have hcr := universalNewlines_noCR raw
  rw [splitRegexCRLF_noCR _ hcr]
  refine ⟨fun l hl c hc => ⟨?_, ?_⟩, splitOn_ne_nil _ _⟩
  · rintro rfl; exact (join_splitOn '\n' _).2 l hl hc
  · -- a character of a piece is a character of the text
    have := mem_join_of_mem ['\n'] hl hc
    rw [(join_splitOn '\n' _).1] at this
    exact hcr c this

/-- the three facts about "texts of the object built from these lines" that the save/load
argument uses -/
structure Stable (g : List Str → List Str) : Prop where
  sub : ∀ ls, (g ls).Sublist ls
  idem : ∀ ls, g (g ls) = g ls
  snoc : ∀ ls, g (g ls ++ [[]]) = g ls ∨ g (g ls ++ [[]]) = g ls ++ [[]]

/-- key step: the object loaded from a saved file is saved with the same lines.  No hypothesis on the
lines: `norm` only looks at whether the list ends with an empty line. -/
theorem norm_reload {g : List Str → List Str} (hg : Stable g) (L : List Str) :
    norm (g (norm (g L))) = norm (g L) := by
  by_cases h0 : g L = []
  · -- no line is kept: the file read back is two empty lines, and whatever `g` keeps of them is saved as these two
    have hs : (g [[], []]).Sublist [[], []] := hg.sub _
    have hall : ∀ x ∈ g [[], []], x = [] := fun x hx => by simpa using hs.subset hx
    have hlen := hs.length_le
    rw [h0]
    show norm (g [[], []]) = [[], []]
    match g [[], []], hall, hlen with
    | [], _, _ => rfl
    | [a], ha, _ => rw [ha a (by simp)]; rfl
    | [a, b], ha, _ => rw [ha a (by simp), ha b (by simp)]; rfl
    | _ :: _ :: _ :: _, _, hl => simp at hl
  · by_cases h1 : (g L).getLast? = some [] ∧ 2 ≤ (g L).length
    · have : norm (g L) = g L := by simp [norm, h0, h1]
      rw [this, hg.idem, this]
    · have hn : norm (g L) = g L ++ [[]] := by simp [norm, h0, h1]
      rw [hn]
      rcases hg.snoc L with e | e <;> rw [e]
      · exact hn
      · exact norm_snoc_nil h0

theorem saveAs_reload {g : List Str → List Str} (hg : Stable g) (sep : Str) (hs : IsLinesep sep) (raw : Text) :
    saveAs sep (g (fileLines (saveAs sep (g (fileLines raw))))) = saveAs sep (g (fileLines raw)) := by
  have hM : CleanLines (g (fileLines raw)) := cleanLines_sub (hg.sub _) (fileLines_clean raw).1
  have hM' := cleanLines_sub (hg.sub _) (cleanLines_norm hM)
  rw [fileLines_saveAs sep hs _ hM]
  unfold saveAs
  rw [saveText_eq _ hM'.noLF, saveText_eq _ hM.noLF, norm_reload hg]

theorem iter_fixed {α : Type} {f : α → α} {a : α} (h : f a = a) : ∀ n, iter f n a = a
  | 0 => rfl
  | n + 1 => by rw [iter, h]; exact iter_fixed h n

open Ccp.Tree

/-- `t'` is `t` with one more line `x` at the end: same keep flags on the common part -/
structure Ext (x : Str) (n : Nat) (t t' : T) : Prop where
  texts : t'.texts = t.texts ++ [x]
  len : t.texts.length = n
  klen : t.keep.length = n
  keep : ∃ b, t'.keep = t.keep ++ [b]

theorem Ext.setKeep_lt {x : Str} {n : Nat} {t t' : T} (h : Ext x n t t') {i : Nat} (hi : i < n) :
    Ext x n (setKeep t i) (setKeep t' i) := by
  obtain ⟨b, hb⟩ := h.keep
  refine ⟨h.texts, h.len, by simp [setKeep, h.klen], b, ?_⟩
  simp only [setKeep, hb]
  rw [List.set_append_left _ _ (by rw [h.klen]; exact hi)]

/-- marking the new line itself, in `t'` only -/
theorem Ext.setKeep_last {x : Str} {n : Nat} {t t' : T} (h : Ext x n t t') :
    Ext x n t (setKeep t' n) := by
  obtain ⟨b, hb⟩ := h.keep
  refine ⟨h.texts, h.len, h.klen, true, ?_⟩
  simp only [setKeep, hb]
  rw [List.set_append_right _ _ (by rw [h.klen]; exact Nat.le_refl _)]
  simp [h.klen]

theorem Ext.reparent {x : Str} {n : Nat} {t t' : T} (h : Ext x n t t') (p c p' c' : Nat) :
    Ext x n (reparent t p c) (reparent t' p' c') := ⟨h.texts, h.len, h.klen, h.keep⟩

theorem Ext.reparent_right {x : Str} {n : Nat} {t t' : T} (h : Ext x n t t') (p' c' : Nat) :
    Ext x n t (Tree.reparent t' p' c') := ⟨h.texts, h.len, h.klen, h.keep⟩

theorem ext_drop_lt {x : Str} {n : Nat} {t t' : T} (h : Ext x n t t') {p : Nat} (hp : p < n) :
    t'.texts.drop (p + 1) = t.texts.drop (p + 1) ++ [x] ∧ p + 1 + (t.texts.drop (p + 1)).length = n := by
  rw [h.texts, List.drop_append_of_le_length (by rw [h.len]; omega), List.length_drop, h.len]
  exact ⟨rfl, by omega⟩

theorem ext_drop_last {x : Str} {n : Nat} {t t' : T} (h : Ext x n t t') : t'.texts.drop (n + 1) = [] := by
  rw [h.texts]; apply List.drop_of_length_le; simp [h.len]

theorem bannerWalk_nil (d : Char) (p idx : Nat) (t : T) : bannerWalk d p idx [] t = t := rfl

theorem ext_bannerWalk {x : Str} {n : Nat} (d : Char) (p : Nat) (rest : List Str) :
    ∀ {idx : Nat} {t t' : T}, Ext x n t t' → idx + rest.length = n →
      Ext x n (bannerWalk d p idx rest t) (bannerWalk d p idx (rest ++ [x]) t') := by
  induction rest with
  | nil =>
    intro idx t t' h hn
    obtain rfl : idx = n := hn
    simp only [List.nil_append, bannerWalk]
    split
    · exact h.reparent_right _ _
    · exact (h.reparent_right _ _).setKeep_last
  | cons txt rest ih =>
    intro idx t t' h hn
    rw [List.length_cons] at hn
    simp only [List.cons_append, bannerWalk]
    split
    · exact h.reparent _ _ _ _
    · exact ih ((h.reparent _ _ _ _).setKeep_lt (by omega)) (by omega)

theorem ext_markBanner {x : Str} {n : Nat} {t t' : T} (h : Ext x n t t') {p : Nat} (hp : p < n) (txt : Str) :
    Ext x n (markBanner t p txt) (markBanner t' p txt) := by
  unfold markBanner
  have hk := h.setKeep_lt hp
  split
  · exact hk
  · split
    · exact hk
    · obtain ⟨hd, hl⟩ := ext_drop_lt hk hp
      simp only []
      rw [hd]
      exact ext_bannerWalk _ _ _ hk hl

theorem ext_markBanner_last {x : Str} {n : Nat} {t t' : T} (h : Ext x n t t') (txt : Str) :
    Ext x n t (markBanner t' n txt) := by
  unfold markBanner
  have hk := h.setKeep_last
  split
  · exact hk
  · split
    · exact hk
    · simp only []
      rw [ext_drop_last hk]; exact hk

theorem ext_markBannersFrom {x : Str} {n : Nat} (l : List Str) :
    ∀ {i : Nat} {t t' : T}, Ext x n t t' → i + l.length = n →
      Ext x n (markBannersFrom i l t) (markBannersFrom i (l ++ [x]) t') := by
  induction l with
  | nil =>
    intro i t t' h hn
    obtain rfl : i = n := hn
    simp only [List.nil_append, markBannersFrom]
    split
    · exact ext_markBanner_last h _
    · exact h
  | cons txt rest ih =>
    intro i t t' h hn
    rw [List.length_cons] at hn
    simp only [List.cons_append, markBannersFrom]
    refine ih ?_ (by omega)
    split
    · exact ext_markBanner h (by omega) _
    · exact h

theorem ext_macroWalk {x : Str} {n : Nat} (p : Nat) (rest : List Str) :
    ∀ {idx : Nat} {t t' : T}, Ext x n t t' → idx + rest.length = n →
      Ext x n (macroWalk p idx rest t) (macroWalk p idx (rest ++ [x]) t') := by
  induction rest with
  | nil =>
    intro idx t t' h hn
    obtain rfl : idx = n := hn
    simp only [List.nil_append, macroWalk]
    split <;> exact h.setKeep_last.reparent_right _ _
  | cons txt rest ih =>
    intro idx t t' h hn
    rw [List.length_cons] at hn
    simp only [List.cons_append, macroWalk]
    have hk := (h.setKeep_lt (i := idx) (by omega)).reparent p idx p idx
    split
    · exact hk
    · exact ih hk (by omega)

theorem ext_markMacrosFrom {x : Str} {n : Nat} (l : List Str) :
    ∀ {i : Nat} {t t' : T}, Ext x n t t' → i + l.length = n →
      Ext x n (markMacrosFrom i l t) (markMacrosFrom i (l ++ [x]) t') := by
  induction l with
  | nil =>
    intro i t t' h hn
    obtain rfl : i = n := hn
    simp only [List.nil_append, markMacrosFrom]
    split
    · rw [ext_drop_last h]; exact h.setKeep_last
    · exact h
  | cons txt rest ih =>
    intro i t t' h hn
    rw [List.length_cons] at hn
    simp only [List.cons_append, markMacrosFrom]
    refine ih ?_ (by omega)
    split
    · obtain ⟨hd, hl⟩ := ext_drop_lt h (p := i) (by omega)
      rw [hd]
      exact ext_macroWalk _ _ (h.setKeep_lt (by omega)) hl
    · exact h

theorem ext_link (cfg : Cfg) (M : List Str) (x : Str) : Ext x M.length (link cfg M) (link cfg (M ++ [x])) := by
  unfold link markMacros markBanners
  have h0 : Ext x M.length
      { texts := M, parents := linkByIndent cfg M, keep := M.map (fun _ => false) }
      { texts := M ++ [x], parents := linkByIndent cfg (M ++ [x]), keep := (M ++ [x]).map (fun _ => false) } :=
    ⟨rfl, rfl, by simp, false, by simp⟩
  have h1 := ext_markBannersFrom M (i := 0) h0 (by simp)
  split
  · have ht := h1.texts
    have hl := h1.len
    simp only [] at ht hl ⊢
    rw [ht]
    refine ext_markMacrosFrom _ (i := 0) h1 ?_
    simpa using hl
  · exact h1

theorem keptTexts_ext {n : Nat} {t t' : T} (h : Ext [] n t t') :
    ∃ b : Bool, keptTexts t' = keptTexts t ++ (if b then [[]] else []) := by
  obtain ⟨b, hb⟩ := h.keep
  refine ⟨b, ?_⟩
  unfold keptTexts
  rw [h.texts, hb, List.zip_append (by rw [h.len, h.klen]), List.filterMap_append]
  congr 1
  cases b <;> simp [strip, lstrip, rstrip]

theorem keptTexts_link_sublist (cfg : Cfg) (ls : List Str) : (keptTexts (link cfg ls)).Sublist ls := by
  have := keptTexts_sublist (link cfg ls); rwa [link_texts_ll] at this

/-- the second bootstrap (`commit()`) reproduces the first, which ends on the lines the blank-line filter keeps -/
theorem texts_eq (cfg : Cfg) (ls : List Str) :
    texts cfg ls = if cfg.ignoreBlank then keptTexts (link cfg ls) else ls := by
  show (parse cfg ls).texts = _
  rw [parse_eq_bootstrap, bootstrap_texts_eq]

theorem texts_noIgnore (cfg : Cfg) (h : cfg.ignoreBlank = false) (ls : List Str) : texts cfg ls = ls := by
  rw [texts_eq, h]; rfl

theorem texts_ignore (cfg : Cfg) (h : cfg.ignoreBlank = true) (ls : List Str) :
    texts cfg ls = keptTexts (link cfg ls) := by
  rw [texts_eq, h]; rfl

theorem texts_sublist (cfg : Cfg) (ls : List Str) : (texts cfg ls).Sublist ls := by
  rw [texts_eq]
  split
  · exact keptTexts_link_sublist cfg ls
  · exact List.Sublist.refl ls

theorem texts_idem (cfg : Cfg) (ls : List Str) : texts cfg (texts cfg ls) = texts cfg ls := by
  cases hi : cfg.ignoreBlank with
  | false => exact texts_noIgnore cfg hi _
  | true =>
    rw [texts_ignore cfg hi ls, texts_ignore cfg hi]
    exact keptTexts_link_idem cfg ls

theorem texts_snoc (cfg : Cfg) (ls : List Str) :
    texts cfg (texts cfg ls ++ [[]]) = texts cfg ls ∨ texts cfg (texts cfg ls ++ [[]]) = texts cfg ls ++ [[]] := by
  cases hi : cfg.ignoreBlank with
  | false => exact Or.inr (texts_noIgnore cfg hi _)
  | true =>
    rw [texts_ignore cfg hi ls, texts_ignore cfg hi]
    -- the kept lines keep their flags when one more line follows, and filtering them again drops none
    obtain ⟨b, hb⟩ := keptTexts_ext (ext_link cfg (keptTexts (link cfg ls)) [])
    rw [keptTexts_link_idem] at hb
    rw [hb]
    cases b
    · exact Or.inl (List.append_nil _)
    · exact Or.inr rfl

theorem stable_texts (cfg : Cfg) : Stable (texts cfg) :=
  ⟨texts_sublist cfg, texts_idem cfg, texts_snoc cfg⟩

theorem stable_noIgnore (cfg : Cfg) (h : cfg.ignoreBlank = false) : Stable (texts cfg) := stable_texts cfg

end Ccp.Input
