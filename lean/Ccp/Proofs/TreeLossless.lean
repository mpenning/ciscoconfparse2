import Ccp.Proofs.TreeKeep
/-!
For C01 (and the "no banner, no macro" part of C02): the banner / macro passes keep the line
texts and change nothing when no line is a start; the whole bootstrap with `ignore_blank_lines`
is passes 1–3 of the lines the blank-line filter keeps, because that filter is idempotent
(`Proofs/TreeKeep`).
-/
namespace Ccp.Tree
open Ccp.Py

theorem reparent_texts_ll (t : T) (p c : Nat) : (reparent t p c).texts = t.texts := rfl
theorem setKeep_texts_ll (t : T) (i : Nat) : (setKeep t i).texts = t.texts := rfl

theorem macroWalk_texts (p : Nat) (body : List Str) :
    ∀ (idx : Nat) (t : T), (macroWalk p idx body t).texts = t.texts := by
  intros; rw [macroWalk_eq]

theorem markBanner_texts (t : T) (p : Nat) (txt : Str) : (markBanner t p txt).texts = t.texts := by
  unfold markBanner
  split
  · rfl
  · split
    · rfl
    · rw [bannerWalk_eq]; rfl

theorem markBannersFrom_texts (ls : List Str) :
    ∀ (i : Nat) (t : T), (markBannersFrom i ls t).texts = t.texts := by
  intros; rw [markBannersFrom_eq, stampFrom_texts]

theorem stampFrom_id (cov prot : Str → List Str → Nat) (l : List Str)
    (h : ∀ x ∈ l, ∀ r, cov x r = 0 ∧ prot x r = 0) : ∀ (i : Nat) (t : T), stampFrom cov prot i l t = t := by
  induction l with
  | nil => intros; rfl
  | cons x rest ih =>
    intro i t
    rw [stampFrom, stamp, (h x List.mem_cons_self _).1, (h x List.mem_cons_self _).2]
    exact ih (fun y hy => h y (List.mem_cons_of_mem _ hy)) _ _

theorem link_plain (cfg : Cfg) (ls : List Str)
    (hb : ∀ x ∈ ls, isBannerStart x = false)
    (hm : cfg.ios = true → ∀ x ∈ ls, isMacroStart x = false) :
    link cfg ls = { texts := ls, parents := linkByIndent cfg ls, keep := ls.map (fun _ => false) } := by
  rw [link_eq_stamps, stampFrom_id coverB protB ls (fun x hx r => by simp [coverB, protB, hb x hx])]
  split
  · exact stampFrom_id coverM protM ls (fun x hx r => by simp [coverM, protM, hm ‹_› x hx]) _ _
  · rfl

theorem bootstrapFuel_noIgnore (cfg : Cfg) (h : cfg.ignoreBlank = false) (fuel : Nat) (ls : List Str) :
    bootstrapFuel cfg fuel ls = link cfg ls := by
  cases fuel <;> simp [bootstrapFuel, h]

theorem bootstrapFuel_of_fixed (cfg : Cfg) (fuel : Nat) (ls : List Str) (h : keptTexts (link cfg ls) = ls) :
    bootstrapFuel cfg fuel ls = link cfg ls := by
  cases fuel <;> simp [bootstrapFuel, h]

/-- the restart loop never needs a second filtering round: the filter is idempotent
(`keptTexts_link_idem`), so whichever branch the loop takes, and however much fuel is left, it
ends at passes 1–3 of the kept lines -/
theorem bootstrap_ignore (cfg : Cfg) (hi : cfg.ignoreBlank = true) (ls : List Str) :
    bootstrap cfg ls = link cfg (keptTexts (link cfg ls)) := by
  have hs := keptTexts_sublist (link cfg ls)
  rw [link_texts_ll] at hs
  cases ls with
  | nil => rw [List.sublist_nil.mp hs]; rfl
  | cons x rest =>
    show bootstrapFuel cfg (rest.length + 1) (x :: rest) = _
    generalize x :: rest = ls at hs ⊢
    rw [bootstrapFuel]
    simp only [hi, if_true]
    split
    · exact bootstrapFuel_of_fixed cfg _ _ (keptTexts_link_idem cfg ls)
    · rename_i h
      rw [hs.eq_of_length (by simpa using h)]

theorem bootstrap_texts_eq (cfg : Cfg) (ls : List Str) :
    (bootstrap cfg ls).texts = if cfg.ignoreBlank then keptTexts (link cfg ls) else ls := by
  cases hi : cfg.ignoreBlank with
  | false => rw [bootstrap, bootstrapFuel_noIgnore cfg hi, link_texts_ll]; rfl
  | true => rw [bootstrap_ignore cfg hi, link_texts_ll]; rfl

theorem bootstrap_texts_eq_scan (cfg : Cfg) (hi : cfg.ignoreBlank = true) (ls : List Str) :
    (bootstrap cfg ls).texts = keptScan cfg 0 ls := by
  rw [bootstrap_texts_eq, hi, if_pos rfl, keptTexts_link_eq_scan]

theorem bootstrap_is_link (cfg : Cfg) (ls : List Str) : bootstrap cfg ls = link cfg (bootstrap cfg ls).texts :=
  bootstrapFuel_is_link cfg _ ls

/-- the second bootstrap (`commit()`) reproduces the first -/
theorem parse_eq_bootstrap (cfg : Cfg) (ls : List Str) : parse cfg ls = bootstrap cfg ls := by
  unfold parse
  cases hi : cfg.ignoreBlank with
  | false => rw [bootstrap_texts_eq, hi, if_neg (by simp)]
  | true =>
    rw [bootstrap_texts_eq, hi, if_pos rfl, bootstrap_ignore cfg hi, bootstrap_ignore cfg hi, keptTexts_link_idem]

theorem parse_texts_noIgnore (cfg : Cfg) (ls : List Str) (hi : cfg.ignoreBlank = false) :
    (parse cfg ls).texts = ls := by
  rw [parse_eq_bootstrap, bootstrap, bootstrapFuel_noIgnore cfg hi, link_texts_ll]

theorem parse_texts_keepSpec (cfg : Cfg) (ls : List Str) (hi : cfg.ignoreBlank = true) :
    (parse cfg ls).texts = (ls.zipIdx.filter (fun xj => keepSpec cfg ls xj.2)).map Prod.fst := by
  rw [parse_eq_bootstrap, bootstrap_texts_eq_scan cfg hi, keptScan_eq_filter]

end Ccp.Tree
