import Ccp.Model.AsaX
/-! For the further entry points behind C20 (`Ccp.Model.AsaX`): ascending port lists with the same members are equal
(`L4Object.__eq__`), and the line numbers of the group objects of a configuration increase (group `==`). -/
namespace Ccp.AsaX
open Ccp.Py Ccp.Asa

theorem asc_ext (l1 l2 : List Nat) (h1 : l1.Pairwise (· < ·)) (h2 : l2.Pairwise (· < ·))
    (h : ∀ k, k ∈ l1 ↔ k ∈ l2) : l1 = l2 :=
  ((List.perm_ext_iff_of_nodup (h1.imp Nat.ne_of_lt) (h2.imp Nat.ne_of_lt)).mpr h).eq_of_pairwise
    (fun _ _ _ _ hab hba => absurd hab (Nat.lt_asymm hba)) h1 h2

theorem groupObjs_increasing (i : Nat) (ls : List Str) :
    (∀ t ∈ groupObjs i ls, i ≤ t.1) ∧ (groupObjs i ls).Pairwise (fun s t => s.1 < t.1) := by
  induction ls generalizing i with
  | nil => simp [groupObjs]
  | cons l ls ih =>
    obtain ⟨hge, hinc⟩ := ih (i + 1)
    unfold groupObjs
    split
    · refine ⟨fun t ht => ?_, List.pairwise_cons.mpr ⟨fun t ht => hge t ht, hinc⟩⟩
      rcases List.mem_cons.mp ht with rfl | ht
      · exact Nat.le_refl _
      · exact Nat.le_of_succ_le (hge t ht)
    · exact ⟨fun t ht => Nat.le_of_succ_le (hge t ht), hinc⟩

end Ccp.AsaX
