import Ccp.Proofs.Diff
import Ccp.Model.DiffCli
/-! `ccp diff` (`Ccp.Model.DiffCli`), for C10 -/
namespace Ccp.Diff
open Ccp.Py

theorem parseMethod_diff : parseMethod (some "diff".toList) = some .diff := by decide +kernel
theorem parseMethod_rollback : parseMethod (some "rollback".toList) = some .rollback := by decide +kernel
theorem parseSyntax_ios : parseSyntax (some "ios".toList) = some "ios".toList := by decide +kernel

/-- with accepted options and both files present, `ccp diff` is `Diff(a, b, syntax)` followed by the method -/
theorem cliDiff_ok {fs : Str → Option Str} {f0 f1 a b : Str} (h0 : fs f0 = some a) (h1 : fs f1 = some b)
    {meth syn : Option Str} {m : Method} {s : Str} (hm : parseMethod meth = some m)
    (hs : parseSyntax syn = some s) :
    cliDiff fs f0 f1 meth syn = ((init fs (.str a) (.str b) s).map
      (match m with | .diff => getDiff | .rollback => getRollback)).mapError .diff := by
  simp only [cliDiff, hm, hs, h0, h1]
  cases init fs (.str a) (.str b) s <;> cases m <;> rfl

theorem normalise_str_ok (fs : Str → Option Str) (s : Str) : ∃ t, normalise fs (.str s) = .ok t := by
  simp only [normalise]
  split
  · cases fs s <;> exact ⟨_, rfl⟩
  · exact ⟨_, rfl⟩

theorem init_str_swap (fs : Str → Option Str) (a b syn : Str) :
    (init fs (.str b) (.str a) syn) = (init fs (.str a) (.str b) syn).map (fun c => (c.2, c.1)) := by
  obtain ⟨ta, ha⟩ := normalise_str_ok fs a
  obtain ⟨tb, hb⟩ := normalise_str_ok fs b
  simp only [init, ha, hb, bind, Except.bind]
  split <;> rfl

/-- `-m rollback OLD NEW` is `-m diff NEW OLD`, also where it fails -/
theorem cliDiff_mirror {fs : Str → Option Str} {f0 f1 : Str} {m m' syn : Option Str}
    (h : parseMethod m = some .rollback) (h' : parseMethod m' = some .diff) :
    cliDiff fs f0 f1 m syn = cliDiff fs f1 f0 m' syn := by
  unfold cliDiff
  rw [h, h']
  cases parseSyntax syn with
  | none => rfl
  | some s =>
    cases h0 : fs f0 with
    | none => cases h1 : fs f1 <;> rfl
    | some a =>
      cases h1 : fs f1 with
      | none => rfl
      | some b =>
        simp only [init_str_swap fs a b s]
        cases init fs (.str a) (.str b) s <;> rfl

end Ccp.Diff
