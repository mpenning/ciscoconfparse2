import Ccp.Proofs.Range
import Ccp.Proofs.Py
/-!
C14 at the string level: a text written without blanks is read back as its parts (`parse_renderParts`);
the index loop of `as_compressed_str`, characterised by a structural recursion (`emit`) and one invariant
(`render_emit`), writes the maximal runs of consecutive values (`runs`), which are canonical (`runs_spec`)
and, as a list of parts, are read back (`parse_renderRuns`).
-/
namespace Ccp.Range
open Ccp.Py

theorem mapM_of_left_inverse {α β ε} (f : α → Except ε β) (g : β → α) (h : ∀ y, f (g y) = .ok y)
    (l : List β) : (l.map g).mapM f = .ok l := by
  induction l with
  | nil => rfl
  | cons y ys ih => simp [List.mapM_cons, h, ih]; rfl

theorem pyNat_toDec (n : Nat) : pyNat (toDec n) = some n := by
  unfold pyNat; rw [pyInt_toDec]

theorem hasDoubleComma_tail (s : Str) (h : hasDoubleComma s = true) :
    [] ∈ (splitOn ',' s).tail := by
  fun_induction hasDoubleComma s with
  | case1 t => simp [splitOn_cons_sep]
  | case2 c cs hn ih => exact tail_splitOn_cons _ _ _ _ (ih h)
  | case3 => simp at h

theorem hasDoubleComma_false (s : Str) (h : ∀ w ∈ splitOn ',' s, w ≠ []) :
    hasDoubleComma s = false := by
  cases hd : hasDoubleComma s with
  | false => rfl
  | true => exact absurd rfl (h [] (List.mem_of_mem_tail (hasDoubleComma_tail s hd)))

def renderPart : Nat × Option Nat → Str
  | (lo, none) => toDec lo
  | (lo, some hi) => toDec lo ++ '-' :: toDec hi

theorem parsePart_renderPart (p : Nat × Option Nat) : parsePart (renderPart p) = .ok p := by
  obtain ⟨lo, _ | hi⟩ := p <;> unfold parsePart renderPart
  · simp [dash_not_mem_toDec, pyNat_toDec]
  · have : (toDec lo ++ '-' :: toDec hi).contains '-' = true := by simp
    simp only [this, if_true, splitOn_append _ _ _ (dash_not_mem_toDec lo),
      splitOn_not_mem _ _ (dash_not_mem_toDec hi), strip_digits _ (toDec_digits _), pyNat_toDec,
      List.filter_eq_self.mpr (toDec_digits _), ofDigits_toDec]

theorem renderPart_ne_nil (p : Nat × Option Nat) : renderPart p ≠ [] := by
  obtain ⟨lo, _ | hi⟩ := p
  · exact toDec_ne_nil lo
  · simp [renderPart]

theorem comma_not_mem_renderPart (p : Nat × Option Nat) : ',' ∉ renderPart p := by
  obtain ⟨lo, _ | hi⟩ := p
  · exact comma_not_mem_toDec lo
  · simp [renderPart, comma_not_mem_toDec]

def renderParts (ps : List (Nat × Option Nat)) : Str := join [','] (ps.map renderPart)

theorem splitOn_renderParts (ps : List (Nat × Option Nat)) (hne : ps ≠ []) :
    splitOn ',' (renderParts ps) = ps.map renderPart :=
  splitOn_join ',' _ (by simpa using hne)
    (by intro w hw; obtain ⟨p, _, rfl⟩ := List.mem_map.mp hw; exact comma_not_mem_renderPart p)

theorem parse_renderParts (ps : List (Nat × Option Nat)) (hne : ps ≠ []) :
    parse (renderParts ps) = .ok (sortedSet (ps.flatMap expandPart)) := by
  have hmem : ∀ w ∈ ps.map renderPart, w ≠ [] := by
    intro w hw; obtain ⟨p, _, rfl⟩ := List.mem_map.mp hw; exact renderPart_ne_nil p
  have h1 : renderParts ps ≠ [] := join_ne_nil _ _ (by simpa using hne) hmem
  have h2 : hasDoubleComma (renderParts ps) = false :=
    hasDoubleComma_false _ (by rw [splitOn_renderParts ps hne]; exact hmem)
  have h3 : parseParts (renderParts ps) = .ok ps := by
    rw [parseParts, splitOn_renderParts ps hne]
    exact mapM_of_left_inverse _ _ parsePart_renderPart ps
  unfold parse
  simp [h1, h2, h3]

/-- maximal runs `(first, last)` of consecutive values of a strictly ascending list -/
def runs : List Nat → List (Nat × Nat)
  | [] => []
  | x :: xs =>
    match runs xs with
    | (a, b) :: rs => if x + 1 = a then (x, b) :: rs else (x, x) :: (a, b) :: rs
    | [] => [(x, x)]

def renderRun : Nat × Nat → Str
  | (a, b) => if a = b then toDec a else if a + 1 = b then toDec a ++ ',' :: toDec b
              else toDec a ++ '-' :: toDec b

def renderRuns (rs : List (Nat × Nat)) : Str := join [','] (rs.map renderRun)

theorem runs_cons_head (x : Nat) (xs : List Nat) :
    ∃ b rs, runs (x :: xs) = (x, b) :: rs ∧ x ≤ b ∧ (xs.head? = some (x + 1) → x + 1 ≤ b) := by
  induction xs generalizing x with
  | nil => exact ⟨x, [], rfl, Nat.le_refl _, nofun⟩
  | cons y ys ih =>
    obtain ⟨b, rs, e, hb, _⟩ := ih y
    by_cases h : x + 1 = y
    · exact ⟨b, rs, by rw [runs, e]; simp [h], by omega, fun _ => by omega⟩
    · exact ⟨x, (y, b) :: rs, by rw [runs, e]; simp [h], Nat.le_refl _, fun e => absurd (Option.some.inj e).symm h⟩

theorem runs_ne_nil (s : List Nat) (h : s ≠ []) : runs s ≠ [] := by
  cases s with
  | nil => exact absurd rfl h
  | cons x xs => obtain ⟨b, rs, e, _⟩ := runs_cons_head x xs; simp [e]

theorem runs_cons_adj (x y : Nat) (rest : List Nat) (b : Nat) (rs : List (Nat × Nat))
    (e : runs (y :: rest) = (y, b) :: rs) (h : x + 1 = y) :
    runs (x :: y :: rest) = (x, b) :: rs := by
  rw [runs, e]; simp [h]

theorem runs_cons_gap (x y : Nat) (rest : List Nat) (h : x + 1 ≠ y) :
    runs (x :: y :: rest) = (x, x) :: runs (y :: rest) := by
  obtain ⟨b, rs, e, _⟩ := runs_cons_head y rest
  rw [runs, e]; simp [h]

theorem runs_cons_last (x : Nat) (xs : List Nat) (h : xs.head? ≠ some (x + 1)) :
    runs (x :: xs) = (x, x) :: runs xs := by
  cases xs with
  | nil => rfl
  | cons y rest => exact runs_cons_gap x y rest (fun e => h (by rw [e]; rfl))

def moreRuns (rs : List (Nat × Nat)) : Str := rs.flatMap (fun r => ',' :: renderRun r)

theorem renderRuns_cons (r : Nat × Nat) (rs : List (Nat × Nat)) :
    renderRuns (r :: rs) = renderRun r ++ moreRuns rs := by
  induction rs generalizing r with
  | nil => simp [renderRuns, moreRuns, join]
  | cons s rs ih =>
    have := ih s
    unfold renderRuns at this ⊢
    rw [List.map_cons, List.map_cons, join_cons_cons, ← List.map_cons, this]
    simp [moreRuns]

/-- the tokens `windowLoop` appends and the final number, in order; `d` = the last token so far is a
dash.  The window test is written without truncated subtraction. -/
def emit : Bool → Nat → List Nat → List Tok
  | d, prev, x :: xs =>
    if prev + 1 = x ∧ xs.head? = some (x + 1) then
      (if d then emit true x xs else Tok.dash :: emit true x xs)
    else Tok.num x :: emit false x xs
  | _, _, [] => []

theorem windowLoop_eq (prev : Nat) (l : List Nat) (hl : l ≠ []) (acc : List Tok) :
    Tok.num (l.getLast?.getD 0) :: windowLoop prev l acc =
      (emit (decide (acc.head? = some Tok.dash)) prev l).reverse ++ acc := by
  have step : ∀ a b : Nat, (b - a = 1 ∧ a < b) ↔ a + 1 = b := by omega
  have hw : ∀ prev x y : Nat, (x - prev = 1 ∧ prev < x ∧ y - x = 1 ∧ x < y) ↔ (prev + 1 = x ∧ y = x + 1) :=
    fun prev x y => by rw [← and_assoc, step, step, eq_comm (a := y)]
  induction l generalizing prev acc with
  | nil => exact absurd rfl hl
  | cons x xs ih =>
    cases xs with
    | nil => simp [windowLoop, emit]
    | cons y rest =>
      rw [List.getLast?_cons_cons, windowLoop, emit, ih _ (by simp)]
      simp only [hw, List.head?_cons, Option.some.injEq]
      by_cases hm : prev + 1 = x ∧ y = x + 1
      · by_cases hd : acc.head? = some Tok.dash <;> simp [hm, hd]
      · simp [hm]

theorem compressToks_eq (a b : Nat) (rest : List Nat) :
    compressToks (a :: b :: rest) = Tok.num a :: emit false a (b :: rest) := by
  cases h : (b :: rest).getLast? with
  | none => simp at h
  | some v =>
    have := congrArg List.reverse (windowLoop_eq a (b :: rest) (by simp) [Tok.num a])
    simpa [compressToks, h] using this

/-- What is still to be written of a run that ends at `b` when the loop stands at `prev`, a member of
that run: after a dash only `b`; otherwise nothing, `,b` or `-b` as the run has one, two or more
members from `prev` on. -/
def closing (d : Bool) (prev b : Nat) : Str :=
  if d then toDec b else if prev = b then [] else if prev + 1 = b then ',' :: toDec b else '-' :: toDec b

theorem closing_dash (prev b : Nat) : closing true prev b = toDec b := rfl
theorem closing_self (prev : Nat) : closing false prev prev = [] := by simp [closing]
theorem closing_next (prev : Nat) : closing false prev (prev + 1) = ',' :: toDec (prev + 1) := by simp [closing]
theorem closing_far (prev b : Nat) (h : prev + 1 + 1 ≤ b) : closing false prev b = '-' :: toDec b := by
  have h1 : prev ≠ b := by omega
  have h2 : prev + 1 ≠ b := by omega
  simp [closing, h1, h2]

theorem renderRun_eq (a b : Nat) : renderRun (a, b) = toDec a ++ closing false a b := by
  simp only [renderRun, closing, Bool.false_eq_true, if_false]
  split
  · simp
  · split <;> rfl

theorem renderFrom_num (d : Bool) (p n : Nat) (ts : List Tok) :
    renderFrom (if d then Tok.dash else Tok.num p) (Tok.num n :: ts) =
      (if d then toDec n else ',' :: toDec n) ++ renderFrom (Tok.num n) ts := by
  cases d <;> simp [renderFrom, sameKind, renderTok]

/-- The loop invariant: standing at `prev` (state `d`: the last token is a dash, and then `prev + 1`
comes next), the rendering of what the loop still emits closes the run of `prev` and writes the
remaining runs.  No order is assumed of the list. -/
theorem render_emit (l : List Nat) : ∀ (d : Bool) (prev b : Nat) (rs : List (Nat × Nat)),
    (d = true → l.head? = some (prev + 1)) → runs (prev :: l) = (prev, b) :: rs →
    renderFrom (if d then Tok.dash else Tok.num prev) (emit d prev l) = closing d prev b ++ moreRuns rs := by
  induction l with
  | nil =>
    intro d prev b rs hd hr
    cases hr
    cases d
    · simp [emit, renderFrom, closing_self, moreRuns]
    · exact absurd (hd rfl) nofun
  | cons x xs ih =>
    intro d prev b rs hd hr
    have hdx : d = true → prev + 1 = x := fun h => (Option.some.inj (hd h)).symm
    obtain ⟨b', rs', e', _, hb'⟩ := runs_cons_head x xs
    have ihT := ih true x b' rs'
    have ihF := ih false x b' rs' nofun e'
    clear ih
    simp only [if_true, Bool.false_eq_true, if_false] at ihT ihF
    rw [emit]
    by_cases hm : prev + 1 = x ∧ xs.head? = some (x + 1)
    · -- `x` is inside a run: a dash, unless there is one already
      obtain ⟨rfl, hx⟩ := hm
      rw [runs_cons_adj prev _ _ b' rs' e' rfl] at hr; cases hr
      have ihT := ihT (fun _ => hx) e'
      rw [if_pos (And.intro rfl hx)]
      cases d
      · rw [closing_far prev b (hb' hx)]
        simp [renderFrom, sameKind, renderTok, ihT, closing_dash]
      · rw [if_pos rfl]; exact ihT
    · -- `x` ends or starts a run: its number is written
      rw [if_neg hm, renderFrom_num, ihF]
      clear ihT ihF
      by_cases h1 : prev + 1 = x
      · subst h1
        have e'' := runs_cons_last _ xs (fun h => hm ⟨rfl, h⟩)
        rw [e''] at e'; cases e'
        rw [runs_cons_adj prev _ xs _ _ e'' rfl] at hr; cases hr
        cases d <;> simp [closing_dash, closing_next, closing_self]
      · rw [runs_cons_gap prev x xs h1, e'] at hr; cases hr
        cases d
        · simp [closing_self, moreRuns, renderRun_eq]
        · exact absurd (hdx rfl) h1

theorem renderToks_compressToks (s : List Nat) : renderToks (compressToks s) = renderRuns (runs s) := by
  match s with
  | [] => rfl
  | [a] => simp [compressToks, renderToks, renderFrom, renderTok, runs, renderRuns, join, renderRun]
  | a :: b :: rest =>
    obtain ⟨b', rs', e', _⟩ := runs_cons_head a (b :: rest)
    rw [compressToks_eq, renderToks, renderTok, e', renderRuns_cons, renderRun_eq, List.append_assoc]
    exact congrArg _ (render_emit (b :: rest) false a b' rs' nofun e')

/-- `as_compressed_str` writes the maximal runs of the sorted members -/
theorem compress_eq_runs (l : List Nat) : compress l = renderRuns (runs (sortedSet l)) :=
  renderToks_compressToks _

theorem compress_eq (s : List Nat) (h : s.Pairwise (· < ·)) : compress s = renderRuns (runs s) := by
  rw [compress_eq_runs, sortedSet_of_sorted s h]

theorem runs_spec (s : List Nat) :
    (∀ r ∈ runs s, r.1 ≤ r.2) ∧ (runs s).flatMap (fun r => upto r.1 r.2) = s ∧
    (s.Pairwise (· < ·) → (runs s).Pairwise (fun r t => r.2 + 2 ≤ t.1)) := by
  induction s with
  | nil => simp [runs]
  | cons x xs ih =>
    cases xs with
    | nil => simp [runs, upto_self]
    | cons y rest =>
      obtain ⟨b, rs, e, hb, _⟩ := runs_cons_head y rest
      rw [e] at ih
      by_cases h : x + 1 = y
      · rw [runs_cons_adj x y rest b rs e h]
        simp only [List.forall_mem_cons, List.pairwise_cons, List.flatMap_cons] at ih ⊢
        obtain ⟨hle, hcov, hsep⟩ := ih
        exact ⟨⟨by omega, hle.2⟩, by rw [upto_cons x b (by omega), h, List.cons_append, hcov],
          fun hs => hsep hs.2⟩
      · rw [runs_cons_gap x y rest h, e]
        simp only [List.forall_mem_cons, List.pairwise_cons, List.flatMap_cons] at ih ⊢
        obtain ⟨hle, hcov, hsep⟩ := ih
        refine ⟨⟨Nat.le_refl _, hle⟩, by rw [upto_self, hcov]; rfl, fun hs => ⟨⟨?_, fun t ht => ?_⟩, hsep hs.2⟩⟩
        · have := hs.1.1; omega
        · have := (hsep hs.2).1 t ht; omega

def partsOfRun : Nat × Nat → List (Nat × Option Nat)
  | (a, b) => if a = b then [(a, none)] else if a + 1 = b then [(a, none), (b, none)]
              else [(a, some b)]

theorem partsOfRun_ne_nil (r : Nat × Nat) : partsOfRun r ≠ [] := by
  obtain ⟨a, b⟩ := r
  simp only [partsOfRun]; split
  · simp
  · split <;> simp

theorem renderParts_partsOfRun (r : Nat × Nat) : renderParts (partsOfRun r) = renderRun r := by
  obtain ⟨a, b⟩ := r
  simp only [partsOfRun, renderRun, renderParts]; split
  · simp [join, renderPart]
  · split <;> simp [join, renderPart]

theorem renderRuns_eq_renderParts (rs : List (Nat × Nat)) :
    renderRuns rs = renderParts (rs.flatMap partsOfRun) := by
  induction rs with
  | nil => rfl
  | cons r rs ih =>
    cases rs with
    | nil => simp [renderRuns, join, renderParts_partsOfRun]
    | cons r2 rs =>
      rw [renderRuns_cons, List.flatMap_cons]
      unfold renderParts at ih ⊢
      rw [List.map_append, join_append _ _ _ (by simpa using partsOfRun_ne_nil r)
        (by simp [partsOfRun_ne_nil]), ← ih]
      have := renderParts_partsOfRun r
      unfold renderParts at this
      rw [this, renderRuns_cons]
      simp [moreRuns]

theorem expand_partsOfRun (r : Nat × Nat) (h : r.1 ≤ r.2) :
    (partsOfRun r).flatMap expandPart = upto r.1 r.2 := by
  obtain ⟨a, b⟩ := r
  simp only at h
  simp only [partsOfRun]; split
  · rename_i e; subst e; simp [expandPart, upto_self]
  · split
    · rename_i e; subst e
      rw [upto_cons a (a + 1) (by omega), upto_self]; simp [expandPart]
    · simp [expandPart]

theorem expand_parts_runs (s : List Nat) :
    ((runs s).flatMap partsOfRun).flatMap expandPart = s := by
  rw [List.flatMap_assoc, List.flatMap_def,
    List.map_congr_left (fun r hr => expand_partsOfRun r ((runs_spec s).1 r hr)), ← List.flatMap_def]
  exact (runs_spec s).2.1

theorem parse_renderRuns (s : List Nat) (h : s.Pairwise (· < ·)) :
    parse (renderRuns (runs s)) = .ok s := by
  cases s with
  | nil => rfl
  | cons x xs =>
    rw [renderRuns_eq_renderParts, parse_renderParts, expand_parts_runs, sortedSet_of_sorted _ h]
    intro hnil
    obtain ⟨r, hr⟩ := List.exists_mem_of_ne_nil _ (runs_ne_nil (x :: xs) (List.cons_ne_nil x xs))
    exact partsOfRun_ne_nil r (List.flatMap_eq_nil_iff.mp hnil r hr)

theorem ne_of_isDigit (c d : Char) (h : isDigit c = true) (hd : isDigit d = false) : c ≠ d :=
  Py.ne_of_isDigit c d h hd

end Ccp.Range
