import Ccp.Proofs.EditFrame
import Ccp.Proofs.TreeBanner
/-!
Prefix locality of the parent links (C06, banner / macro configs included): the parents of the
first `n` lines after passes 1–3 depend on the first `n` lines only.  Read off the closed form of
the final parents (`specParentFull`, `link_parentOf`): whether the stretch of a start reaches a line
is decided by the lines up to that line.  Hence an edit never changes the parent of a line above
the edited position, in any config.
-/
namespace Ccp.Tree
open Ccp.Py

/-- `hspec` has the form of `bannerLinkLen_spec` and `macroBodyLen_spec` -/
theorem stretch_local {len : List Str → Nat} {P : Str → Bool}
    (hspec : ∀ rest k, k + 1 ≤ len rest ↔ k < rest.length ∧ ∀ m y, m < k → rest[m]? = some y → P y = false)
    (r B : List Str) (k : Nat) (hk : k ≤ r.length) : k ≤ len (r ++ B) ↔ k ≤ len r := by
  cases k with
  | zero => simp
  | succ k =>
    rw [hspec, hspec, List.length_append]
    refine and_congr (by omega) (forall_congr' fun m => forall_congr' fun y => imp_congr_right fun hm => ?_)
    rw [List.getElem?_append_left (by omega)]

theorem covers_prefix (cov : Str → List Str → Nat)
    (hloc : ∀ x r B k, k ≤ r.length → (k ≤ cov x (r ++ B) ↔ k ≤ cov x r))
    (A B : List Str) (q j : Nat) (hj : j < A.length) : covers cov (A ++ B) q j = covers cov A q j := by
  unfold covers
  by_cases hq : q < j
  · have h1 : (A ++ B).getD q [] = A.getD q [] := by
      simp only [List.getD_eq_getElem?_getD, List.getElem?_append_left (show q < A.length by omega)]
    rw [h1, List.drop_append_of_le_length (by omega), decide_eq_decide]
    exact and_congr_right fun _ => hloc _ _ _ _ (by simp; omega)
  · simp [hq]

theorem coverB_local (x : Str) (r B : List Str) (k : Nat) (hk : k ≤ r.length) :
    k ≤ coverB x (r ++ B) ↔ k ≤ coverB x r := by
  unfold coverB
  split
  · split
    · split
      · rfl
      · exact stretch_local (bannerLinkLen_spec _) r B k hk
    · rfl
  · rfl

theorem coverM_local (x : Str) (r B : List Str) (k : Nat) (hk : k ≤ r.length) :
    k ≤ coverM x (r ++ B) ↔ k ≤ coverM x r := by
  unfold coverM
  split
  · exact stretch_local macroBodyLen_spec r B k hk
  · rfl

theorem lastCover_congr (cov : Str → List Str → Nat) (ls ls' : List Str) (j n : Nat)
    (h : ∀ q, q < n → covers cov ls q j = covers cov ls' q j) : lastCover cov ls j n = lastCover cov ls' j n := by
  induction n with
  | zero => rfl
  | succ n ih => simp only [lastCover, h n (Nat.lt_succ_self n), ih fun q hq => h q (by omega)]

theorem specParentFull_prefix (cfg : Cfg) (A B : List Str) (j : Nat) (hj : j < A.length) :
    specParentFull cfg (A ++ B) j = specParentFull cfg A j := by
  simp only [specParentFull, macroOwner, bannerOwner,
    lastCover_congr coverM _ _ j j fun q _ => covers_prefix coverM coverM_local A B q j hj,
    lastCover_congr coverB _ _ j j fun q _ => covers_prefix coverB coverB_local A B q j hj,
    specParent_congr ((A ++ B).map (info cfg)) (A.map (info cfg)) j fun m hm => by
      rw [List.map_append, List.getElem?_append_left (by simp; omega)]]

theorem link_prefix (cfg : Cfg) (A B : List Str) :
    (link cfg (A ++ B)).parents.take A.length = (link cfg A).parents.take A.length := by
  rw [link_parents_eq_spec, link_parents_eq_spec, ← List.map_take, ← List.map_take, List.take_range, List.take_range,
    List.length_append, Nat.min_eq_left (Nat.le_add_right _ _), Nat.min_self]
  exact List.map_congr_left fun j hj => specParentFull_prefix cfg A B j (List.mem_range.mp hj)

theorem link_parent_prefix (cfg : Cfg) (A B B' : List Str) (j : Nat) (hj : j < A.length) :
    parentOf (link cfg (A ++ B)) j = parentOf (link cfg (A ++ B')) j := by
  rw [link_parentOf cfg _ j (by simp; omega), link_parentOf cfg _ j (by simp; omega),
    specParentFull_prefix cfg A B j hj, specParentFull_prefix cfg A B' j hj]

theorem parse_parent_prefix (cfg : Cfg) (hi : cfg.ignoreBlank = false) (ls ls' : List Str) (n : Nat)
    (hn : n ≤ ls.length) (h : ls'.take n = ls.take n) (j : Nat) (hj : j < n) :
    parentOf (parse cfg ls') j = parentOf (parse cfg ls) j := by
  rw [Ccp.Edit.parse_eq_bootstrap, Ccp.Edit.parse_eq_bootstrap, Ccp.Edit.bootstrap_noignore cfg _ hi,
    Ccp.Edit.bootstrap_noignore cfg _ hi, ← List.take_append_drop n ls', ← List.take_append_drop n ls, h]
  exact link_parent_prefix cfg (ls.take n) _ _ j (by simp; omega)

end Ccp.Tree

namespace Ccp.Edit
open Ccp.Py Ccp.Tree

theorem step_tree_parse (s : S) (op : Op) (hd : s.dirty = false) (hinv : FreshInv s) (ha : s.auto = true) :
    (step s op).1.tree = parse s.cfg (step s op).1.texts := by
  have hinv' := step_fresh s op hinv
  have hcfg := (step_frame s op).1
  have hd' : (step s op).1.dirty = false := by
    rcases step_cases s op with e | e | ⟨its, st, e, _⟩ <;> rw [e]
    · exact hd
    · rfl
    · rw [autoCommit_on _ (show ({ s with items := its, stale := st, dirty := true } : S).auto = true from ha)]; rfl
  rw [← hcfg]
  exact (hinv' hd').1

end Ccp.Edit
