import Ccp.Model.TreeStored
import Ccp.Proofs.TreeForest
/-!
The stored child lists of `Ccp.Model.TreeStored` are the derived `Ccp.Tree.children`.

The invariant `Ok` — every stored child list is strictly ascending and holds exactly the other
lines whose parent index is that line — is established by `newLine` and kept by `addChild` and
`reparent`.  Every pass is followed step by step (`Tracks`): the state keeps `Ok` and, its child
lists forgotten, is the state of the same pass of `Ccp.Tree`.
-/
namespace Ccp.TreeStored
open Ccp.Py Ccp.Tree

theorem getD_modify (l : List (List Nat)) (i q : Nat) (g : List Nat → List Nat) :
    (l.modify i g).getD q [] = if i = q ∧ q < l.length then g (l.getD q []) else l.getD q [] := by
  simp only [List.getD_eq_getElem?_getD, List.getElem?_modify]
  by_cases hl : q < l.length
  · rw [List.getElem?_eq_getElem hl]; by_cases h : i = q <;> simp [h, hl]
  · rw [List.getElem?_eq_none (Nat.le_of_not_lt hl), if_neg (fun e => hl e.2)]; rfl

theorem getD_append_length (ps : List Nat) (j : Nat) : (ps ++ [ps.length]).getD j j = ps.getD j j := by
  simp only [List.getD_eq_getElem?_getD, List.getElem?_append]
  split
  · rfl
  · rename_i h
    rw [List.getElem?_eq_none (Nat.le_of_not_lt h)]
    cases hj : j - ps.length with
    | zero => simp; omega
    | succ n => simp

theorem getD_append_nil (ch : List (List Nat)) (q : Nat) : (ch ++ [[]]).getD q [] = ch.getD q [] := by
  simp only [List.getD_eq_getElem?_getD, List.getElem?_append]
  split
  · rfl
  · rename_i h
    rw [List.getElem?_eq_none (Nat.le_of_not_lt h)]
    cases q - ch.length <;> rfl

theorem reparent_toT (s : S) (p c : Nat) : (TreeStored.reparent s p c).toT = Tree.reparent s.toT p c := rfl
theorem setKeep_toT (s : S) (i : Nat) : (TreeStored.setKeep s i).toT = Tree.setKeep s.toT i := rfl

/-- the comment exception of `_add_child_to_parent` -/
theorem attach_some (rp : List (Nat × Info)) (i : Nat) (l : Info) (p : Nat) :
    attach rp i l (some p) = if l.isCmt && aboveIndent rp > l.indent then i else p := by
  cases rp with
  | nil => simp [attach, aboveIndent]
  | cons a r => rfl

theorem addChild_newLine_toT (rp : List (Nat × Info)) (s : S) (l : Info) (cand : Option Nat) :
    (addChild rp (newLine s s.parents.length) s.parents.length l cand).toT =
      { s.toT with parents := s.parents ++ [attach rp s.parents.length l cand] } := by
  cases cand with
  | none => rfl
  | some p =>
    rw [attach_some, addChild]
    split
    · rfl
    · rw [if_pos (by simp [parentOf, newLine])]
      simp [newLine]

/-- `k` objects exist; every parent index is ≤ the line's own index; the stored child list
of every line is strictly ascending and holds exactly the other lines naming it as parent -/
def Ok (k : Nat) (ps : List Nat) (ch : List (List Nat)) : Prop :=
  ps.length = k ∧ ch.length = k ∧ Below ps 0 ∧
  ∀ q, q < k → (ch.getD q []).Pairwise (· < ·) ∧
    ∀ j, j ∈ ch.getD q [] ↔ j < k ∧ ps.getD j j = q ∧ j ≠ q

theorem ok_nil : Ok 0 [] [] := ⟨rfl, rfl, fun k hk => by simp at hk, fun q hq => by omega⟩

theorem ok_getD_le {k : Nat} {ps : List Nat} {ch : List (List Nat)} (h : Ok k ps ch) (j : Nat) :
    ps.getD j j ≤ j := by
  by_cases hj : j < ps.length
  · have := h.2.2.1 j hj
    simp only [List.getD_eq_getElem?_getD, List.getElem?_eq_getElem hj, Option.getD_some]
    omega
  · simp [List.getD_eq_getElem?_getD, List.getElem?_eq_none (Nat.le_of_not_lt hj)]

/-- the effect of "make `c` a child of `p`" on the membership of every list determines `Ok` -/
theorem ok_move {k : Nat} {ps : List Nat} {ch ch' : List (List Nat)} (h : Ok k ps ch) {p c : Nat}
    (hc : c < k) (hpc : p < c) (hlen : ch'.length = k)
    (hch : ∀ q, q < k → (ch'.getD q []).Pairwise (· < ·) ∧
      ∀ j, j ∈ ch'.getD q [] ↔ (j ∈ ch.getD q [] ∧ j ≠ c) ∨ (j = c ∧ q = p)) :
    Ok k (ps.set c p) ch' := by
  obtain ⟨h1, h2, h3, h4⟩ := h
  refine ⟨by simp [h1], hlen, ?_, ?_⟩
  · intro i hi
    simp only [List.getElem_set]
    split
    · omega
    · exact h3 i (by simpa using hi)
  · intro q hq
    refine ⟨(hch q hq).1, fun j => ?_⟩
    rw [(hch q hq).2, (h4 q hq).2]
    rw [getD_set]
    by_cases hj : j = c
    · subst hj
      rw [if_pos ⟨rfl, by omega⟩]
      constructor
      · rintro (⟨_, h⟩ | ⟨_, h⟩)
        · exact absurd rfl h
        · exact ⟨hc, h.symm, by omega⟩
      · rintro ⟨_, h, _⟩; exact .inr ⟨rfl, h.symm⟩
    · rw [if_neg (fun e => hj e.1.symm)]
      constructor
      · rintro (⟨h, _⟩ | ⟨h, _⟩)
        · exact h
        · exact absurd h hj
      · intro h; exact .inl ⟨h, hj⟩

theorem ok_newLine {k : Nat} {ps : List Nat} {ch : List (List Nat)} (h : Ok k ps ch) :
    Ok (k + 1) (ps ++ [k]) (ch ++ [[]]) := by
  have hle := ok_getD_le h
  obtain ⟨rfl, h2, h3, h4⟩ := h
  refine ⟨by simp, by simp [h2], ?_, fun q hq => ?_⟩
  · intro i hi
    rw [List.getElem_append]
    split
    · exact h3 i _
    · simp at hi ⊢; omega
  · rw [getD_append_nil]
    simp only [getD_append_length]
    by_cases hqk : q < ps.length
    · refine ⟨(h4 q hqk).1, fun j => ?_⟩
      rw [(h4 q hqk).2]
      refine ⟨fun ⟨a, b, c⟩ => ⟨by omega, b, c⟩, fun ⟨_, b, c⟩ => ⟨?_, b, c⟩⟩
      apply Classical.byContradiction
      intro hj
      rw [getD_of_length_le (Nat.le_of_not_lt hj)] at b
      exact c b
    · rw [getD_of_length_le (by omega)]
      refine ⟨List.Pairwise.nil, fun j => ⟨(fun hj => nomatch hj), ?_⟩⟩
      rintro ⟨a, b, c⟩
      have := hle j; omega

/-- `_add_child_to_parent` for a fresh object `k` (the last one) and a parent before it -/
theorem ok_append {k : Nat} {ps : List Nat} {ch : List (List Nat)} (h : Ok (k + 1) ps ch) {p : Nat}
    (hp : p < k) (hroot : ps.getD k k = k) :
    Ok (k + 1) (ps.set k p) (ch.modify p (fun c => c ++ [k])) := by
  apply ok_move h (by omega) hp (by simp [h.2.1])
  intro q hq
  have hlt : ∀ {j}, j ∈ ch.getD q [] → j < k := fun {j} hm => by
    have hj := ((h.2.2.2 q hq).2 j).mp hm
    have : j ≠ k := by rintro rfl; exact hj.2.2 (hroot.symm.trans hj.2.1)
    omega
  rw [getD_modify]
  split
  · rename_i hpq
    refine ⟨List.pairwise_append.mpr ⟨(h.2.2.2 q hq).1, List.pairwise_singleton _ _, fun a ha b hb => ?_⟩,
      fun j => ?_⟩
    · rw [List.mem_singleton.mp hb]; exact hlt ha
    · rw [List.mem_append, List.mem_singleton]
      exact ⟨fun hj => hj.elim (fun hj => .inl ⟨hj, Nat.ne_of_lt (hlt hj)⟩) (fun e => .inr ⟨e, hpq.1.symm⟩),
        fun hj => hj.elim (fun a => .inl a.1) (fun a => .inr a.1)⟩
  · rename_i hn
    exact ⟨(h.2.2.2 q hq).1, fun j => ⟨fun hj => .inl ⟨hj, Nat.ne_of_lt (hlt hj)⟩,
      fun hj => hj.elim (fun a => a.1) (fun a => absurd ⟨a.2.symm, by rw [h.2.1]; exact hq⟩ hn)⟩⟩

/-- first half of `_reparent_child`: remove `c` from the list of its former parent `f` -/
def detach (ch : List (List Nat)) (f c p : Nat) : List (List Nat) :=
  if f != c && f != p then ch.modify f (fun l => l.filter (fun j => j != c)) else ch

/-- second half: append `c` to the list of `p` unless it is there, and sort that list -/
def adopt (ch : List (List Nat)) (p c : Nat) : List (List Nat) :=
  if (ch.getD p []).contains c then ch else ch.modify p (fun l => sortKeep (l ++ [c]))

theorem reparent_children (s : S) (p c : Nat) :
    (TreeStored.reparent s p c).children = adopt (detach s.children (parentOf s.toT c) c p) p c := by
  unfold TreeStored.reparent adopt detach; rfl

theorem reparent_parents (s : S) (p c : Nat) : (TreeStored.reparent s p c).parents = s.parents.set c p := rfl

theorem detach_length (ch : List (List Nat)) (f c p : Nat) : (detach ch f c p).length = ch.length := by
  unfold detach; split <;> simp

theorem adopt_length (ch : List (List Nat)) (p c : Nat) : (adopt ch p c).length = ch.length := by
  unfold adopt; split <;> simp

theorem mem_detach_of_ne (ch : List (List Nat)) (f c p q : Nat) {j : Nat} (hj : j ≠ c) :
    j ∈ (detach ch f c p).getD q [] ↔ j ∈ ch.getD q [] := by
  unfold detach
  split
  · rw [getD_modify]
    split
    · simp [List.mem_filter, hj]
    · rfl
  · rfl

theorem mem_adopt_of_ne (ch : List (List Nat)) (p c q : Nat) {j : Nat} (hj : j ≠ c) :
    j ∈ (adopt ch p c).getD q [] ↔ j ∈ ch.getD q [] := by
  unfold adopt
  split
  · rfl
  · rw [getD_modify]
    split
    · simp [mem_sortKeep, hj]
    · rfl

theorem mem_detach_self {k : Nat} {ps : List Nat} {ch : List (List Nat)} (h : Ok k ps ch) {p c q : Nat}
    (hq : q < k) : c ∈ (detach ch (ps.getD c c) c p).getD q [] → q = p := by
  have hF : c ∈ ch.getD q [] → ps.getD c c = q ∧ c ≠ q := fun hm => (((h.2.2.2 q hq).2 c).mp hm).2
  unfold detach
  split
  · rename_i hcond
    rw [getD_modify]
    split
    · intro hm; simp [List.mem_filter] at hm
    · rename_i hn
      intro hm
      exact absurd ⟨(hF hm).1, by rw [h.2.1]; exact hq⟩ hn
  · rename_i hcond
    simp only [Bool.and_eq_true, bne_iff_ne, not_and, Classical.not_not] at hcond
    intro hm
    obtain ⟨a, b⟩ := hF hm
    exact a.symm.trans (hcond (fun e => b (e.symm.trans a)))

theorem mem_adopt_self {k : Nat} {ch1 : List (List Nat)} {p c q : Nat} (hlen : ch1.length = k) (hp : p < k)
    (h1 : c ∈ ch1.getD q [] → q = p) : c ∈ (adopt ch1 p c).getD q [] ↔ q = p := by
  unfold adopt
  split
  · rename_i hin
    exact ⟨h1, fun e => e ▸ (by simpa using hin)⟩
  · rw [getD_modify]
    split
    · rename_i hpq
      exact ⟨fun _ => hpq.1.symm, fun _ => mem_sortKeep.mpr (by simp)⟩
    · rename_i hn
      exact ⟨h1, fun e => absurd ⟨e.symm, by omega⟩ hn⟩

theorem detach_sorted {ch : List (List Nat)} {q : Nat} (h : (ch.getD q []).Pairwise (· < ·)) (f c p : Nat) :
    ((detach ch f c p).getD q []).Pairwise (· < ·) := by
  unfold detach
  split
  · rw [getD_modify]
    split
    · exact List.Pairwise.filter _ h
    · exact h
  · exact h

theorem adopt_sorted {ch : List (List Nat)} {q : Nat} (h : (ch.getD q []).Pairwise (· < ·)) (p c : Nat) :
    ((adopt ch p c).getD q []).Pairwise (· < ·) := by
  unfold adopt
  split
  · exact h
  · rename_i hin
    rw [getD_modify]
    split
    · rename_i hpq
      refine sortKeep_strict (List.nodup_append.mpr
        ⟨nodup_of_sorted h, List.nodup_cons.mpr ⟨nofun, List.nodup_nil⟩, ?_⟩)
      intro a ha b hb e
      rw [List.mem_singleton.mp hb] at e
      exact hin (by simpa [hpq.1] using e ▸ ha)
    · exact h

theorem ok_reparent {k : Nat} {s : S} (h : Ok k s.parents s.children) {p c : Nat} (hc : c < k) (hpc : p < c) :
    Ok k (TreeStored.reparent s p c).parents (TreeStored.reparent s p c).children := by
  rw [reparent_parents, reparent_children]
  apply ok_move h hc hpc
  · rw [adopt_length, detach_length, h.2.1]
  · intro q hq
    refine ⟨adopt_sorted (detach_sorted (h.2.2.2 q hq).1 _ _ _) _ _, fun j => ?_⟩
    by_cases hj : j = c
    · subst hj
      exact (mem_adopt_self (by rw [detach_length, h.2.1]) (by omega) (mem_detach_self h hq)).trans (by simp)
    · rw [mem_adopt_of_ne _ _ _ _ hj, mem_detach_of_ne _ _ _ _ _ hj]
      simp [hj]

theorem ok_addChild {k : Nat} {s : S} (rp : List (Nat × Info)) (l : Info) {cand : Option Nat}
    (h : Ok k s.parents s.children) (hcand : ∀ p, cand = some p → p < k) :
    Ok (k + 1) (addChild rp (newLine s k) k l cand).parents (addChild rp (newLine s k) k l cand).children := by
  have h1 : Ok (k + 1) (newLine s k).parents (newLine s k).children := ok_newLine h
  unfold addChild
  cases cand with
  | none => exact h1
  | some p =>
    simp only []
    split
    · exact h1
    · split
      · rename_i hroot
        exact ok_append h1 (hcand p rfl) (beq_iff_eq.mp hroot)
      · exact h1

theorem linkLoop_spec {st : St} {s : S} {i : Nat} (ls : List Info) (hst : CacheInv st.cache st.mx st.revPre)
    (hr : ∀ x ∈ st.revPre, x.1 < i) (h : Ok i s.parents s.children) :
    Ok (i + ls.length) (TreeStored.linkLoop st s i ls).parents (TreeStored.linkLoop st s i ls).children ∧
    (TreeStored.linkLoop st s i ls).toT = { s.toT with parents := s.parents ++ Tree.linkLoop st i ls } := by
  induction ls generalizing st s i with
  | nil => exact ⟨h, by simp [TreeStored.linkLoop, Tree.linkLoop]⟩
  | cons l ls ih =>
    have h1 : Ok (i + 1) (TreeStored.step st s i l).2.parents (TreeStored.step st s i l).2.children :=
      ok_addChild st.revPre l h (cand_lt l hst hr)
    have ht : (TreeStored.step st s i l).2.toT = { s.toT with parents := s.parents ++ [(Tree.step st i l).2] } := by
      have := addChild_newLine_toT st.revPre s l (build st.revPre (maintain st.cache st.mx l) l).2
      rwa [h.1] at this
    have hr' : ∀ x ∈ (TreeStored.step st s i l).1.revPre, x.1 < i + 1 := by
      intro x hx
      rcases List.mem_cons.mp hx with rfl | hx
      · exact Nat.lt_succ_self i
      · exact Nat.lt_succ_of_lt (hr x hx)
    obtain ⟨a, b⟩ := ih (step_correct st i l hst).2 hr' h1
    refine ⟨by rw [List.length_cons, show i + (ls.length + 1) = i + 1 + ls.length by omega]; exact a, ?_⟩
    show (TreeStored.linkLoop (Tree.step st i l).1 (TreeStored.step st s i l).2 (i + 1) ls).toT = _
    rw [b, ht]
    simp [Tree.linkLoop]

def Good (k : Nat) (s : S) : Prop := s.texts.length = k ∧ Ok k s.parents s.children

theorem good_reparent {k : Nat} {s : S} (h : Good k s) {p c : Nat} (hc : c < k) (hpc : p < c) :
    Good k (TreeStored.reparent s p c) := ⟨h.1, ok_reparent h.2 hc hpc⟩

def Tracks (k : Nat) (s : S) (t : T) : Prop := Good k s ∧ s.toT = t

theorem tracks_setKeep {k : Nat} {s : S} {t : T} (h : Tracks k s t) (i : Nat) :
    Tracks k (TreeStored.setKeep s i) (Tree.setKeep t i) := ⟨h.1, h.2 ▸ rfl⟩

theorem tracks_reparent {k : Nat} {s : S} {t : T} (h : Tracks k s t) {p c : Nat} (hc : c < k) (hpc : p < c) :
    Tracks k (TreeStored.reparent s p c) (Tree.reparent t p c) := ⟨good_reparent h.1 hc hpc, h.2 ▸ rfl⟩

theorem walk_bound {k p : Nat} {texts : List Str} (hl : texts.length = k) (hne : texts.drop (p + 1) ≠ []) :
    p + 1 + (texts.drop (p + 1)).length ≤ k := by
  have hpos : 0 < (texts.drop (p + 1)).length := List.length_pos_iff.mpr hne
  rw [List.length_drop] at hpos ⊢
  omega

theorem tracks_bannerWalk {k : Nat} (d : Char) (p : Nat) (idx : Nat) (rest : List Str) {s : S} {t : T}
    (h : Tracks k s t) (hp : p < idx) (hidx : rest ≠ [] → idx + rest.length ≤ k) :
    Tracks k (TreeStored.bannerWalk d p idx rest s) (Tree.bannerWalk d p idx rest t) := by
  induction rest generalizing idx s t with
  | nil => exact h
  | cons txt rest ih =>
    have hlt : idx + (rest.length + 1) ≤ k := hidx (List.cons_ne_nil _ _)
    simp only [TreeStored.bannerWalk, Tree.bannerWalk]
    split
    · exact tracks_reparent h (by omega) hp
    · exact ih (idx + 1) (tracks_setKeep (tracks_reparent h (by omega) hp) idx) (by omega) (fun _ => by omega)

theorem tracks_markBanner {k : Nat} {s : S} {t : T} (h : Tracks k s t) (p : Nat) (txt : Str) :
    Tracks k (TreeStored.markBanner s p txt) (Tree.markBanner t p txt) := by
  obtain ⟨hg, rfl⟩ := h
  unfold TreeStored.markBanner Tree.markBanner
  cases bannerDelim txt with
  | none => exact tracks_setKeep ⟨hg, rfl⟩ p
  | some d =>
    simp only []
    split
    · exact tracks_setKeep ⟨hg, rfl⟩ p
    · exact tracks_bannerWalk d p (p + 1) _ (tracks_setKeep ⟨hg, rfl⟩ p) (Nat.lt_succ_self p) (walk_bound hg.1)

theorem tracks_markBannersFrom {k : Nat} (i : Nat) (l : List Str) {s : S} {t : T} (h : Tracks k s t) :
    Tracks k (TreeStored.markBannersFrom i l s) (Tree.markBannersFrom i l t) := by
  induction l generalizing i s t with
  | nil => exact h
  | cons txt rest ih =>
    simp only [TreeStored.markBannersFrom, Tree.markBannersFrom]
    apply ih
    split
    · exact tracks_markBanner h i txt
    · exact h

theorem tracks_macroWalk {k : Nat} (p : Nat) (idx : Nat) (rest : List Str) {s : S} {t : T}
    (h : Tracks k s t) (hp : p < idx) (hidx : rest ≠ [] → idx + rest.length ≤ k) :
    Tracks k (TreeStored.macroWalk p idx rest s) (Tree.macroWalk p idx rest t) := by
  induction rest generalizing idx s t with
  | nil => exact h
  | cons txt rest ih =>
    have hlt : idx + (rest.length + 1) ≤ k := hidx (List.cons_ne_nil _ _)
    simp only [TreeStored.macroWalk, Tree.macroWalk]
    have h1 := tracks_reparent (tracks_setKeep h idx) (p := p) (c := idx) (by omega) hp
    split
    · exact h1
    · exact ih (idx + 1) h1 (by omega) (fun _ => by omega)

theorem tracks_markMacrosFrom {k : Nat} (i : Nat) (l : List Str) {s : S} {t : T} (h : Tracks k s t) :
    Tracks k (TreeStored.markMacrosFrom i l s) (Tree.markMacrosFrom i l t) := by
  induction l generalizing i s t with
  | nil => exact h
  | cons txt rest ih =>
    simp only [TreeStored.markMacrosFrom, Tree.markMacrosFrom]
    apply ih
    split
    · obtain ⟨hg, rfl⟩ := h
      exact tracks_macroWalk i (i + 1) _ (tracks_setKeep ⟨hg, rfl⟩ i) (Nat.lt_succ_self i) (walk_bound hg.1)
    · exact h

theorem tracks_linkByIndent (cfg : Cfg) (ls : List Str) :
    Tracks ls.length (TreeStored.linkByIndent cfg ls) (pass1 cfg ls) := by
  have := linkLoop_spec (st := St.init)
    (s := { texts := ls, parents := [], keep := ls.map (fun _ => false), children := [] }) (i := 0)
    (ls.map (info cfg)) cacheInv_init (fun x hx => nomatch hx) ok_nil
  have ht : (TreeStored.linkByIndent cfg ls).toT = pass1 cfg ls := by
    simpa [TreeStored.linkByIndent, Tree.linkByIndent, pass1] using this.2
  exact ⟨⟨congrArg (fun t => t.texts.length) ht, by simpa [TreeStored.linkByIndent] using this.1⟩, ht⟩

theorem tracks_link (cfg : Cfg) (ls : List Str) : Tracks ls.length (TreeStored.link cfg ls) (Tree.link cfg ls) := by
  unfold TreeStored.link Tree.link TreeStored.markMacros Tree.markMacros TreeStored.markBanners Tree.markBanners
  have h0 := tracks_linkByIndent cfg ls
  rw [show (TreeStored.linkByIndent cfg ls).texts = ls from congrArg T.texts h0.2]
  have h1 := tracks_markBannersFrom 0 ls h0
  split
  · rw [show (TreeStored.markBannersFrom 0 ls (TreeStored.linkByIndent cfg ls)).texts = _ from congrArg T.texts h1.2]
    exact tracks_markMacrosFrom 0 _ h1
  · exact h1

theorem link_toT (cfg : Cfg) (ls : List Str) : (TreeStored.link cfg ls).toT = Tree.link cfg ls :=
  (tracks_link cfg ls).2

theorem good_link (cfg : Cfg) (ls : List Str) : Good ls.length (TreeStored.link cfg ls) :=
  (tracks_link cfg ls).1

def GoodS (s : S) : Prop := Good s.texts.length s

theorem goodS_link (cfg : Cfg) (ls : List Str) : GoodS (TreeStored.link cfg ls) := by
  have h := good_link cfg ls
  unfold GoodS; rw [h.1]; exact h

theorem bootstrapFuel_spec (cfg : Cfg) (fuel : Nat) (ls : List Str) :
    GoodS (TreeStored.bootstrapFuel cfg fuel ls) ∧
    (TreeStored.bootstrapFuel cfg fuel ls).toT = Tree.bootstrapFuel cfg fuel ls := by
  induction fuel generalizing ls with
  | zero => exact ⟨goodS_link cfg ls, link_toT cfg ls⟩
  | succ fuel ih =>
    simp only [TreeStored.bootstrapFuel, Tree.bootstrapFuel, link_toT]
    split
    · split
      · exact ih _
      · exact ⟨goodS_link cfg ls, link_toT cfg ls⟩
    · exact ⟨goodS_link cfg ls, link_toT cfg ls⟩

theorem bootstrap_toT (cfg : Cfg) (ls : List Str) : (TreeStored.bootstrap cfg ls).toT = Tree.bootstrap cfg ls :=
  (bootstrapFuel_spec cfg _ ls).2

theorem goodS_bootstrap (cfg : Cfg) (ls : List Str) : GoodS (TreeStored.bootstrap cfg ls) :=
  (bootstrapFuel_spec cfg _ ls).1

theorem parse_toT (cfg : Cfg) (ls : List Str) : (TreeStored.parse cfg ls).toT = Tree.parse cfg ls := by
  unfold TreeStored.parse Tree.parse
  rw [bootstrap_toT, show (TreeStored.bootstrap cfg ls).texts = (Tree.bootstrap cfg ls).texts from
    congrArg T.texts (bootstrap_toT cfg ls)]

theorem goodS_parse (cfg : Cfg) (ls : List Str) : GoodS (TreeStored.parse cfg ls) :=
  goodS_bootstrap cfg _

theorem stored_eq_children {s : S} (h : GoodS s) (q : Nat) : s.stored q = Tree.children s.toT q := by
  obtain ⟨_, h1, h2, h3, h4⟩ := h
  by_cases hq : q < s.texts.length
  · apply sorted_ext (h4 q hq).1 (children_sorted _ _)
    intro j
    rw [(h4 q hq).2, mem_children]
    rfl
  · have hs : s.stored q = [] := by
      simp [S.stored, List.getD_eq_getElem?_getD, List.getElem?_eq_none (by omega : s.children.length ≤ q)]
    rw [hs]
    symm
    rw [Tree.children, List.filter_eq_nil_iff]
    intro j hj
    have hj' : j < s.texts.length := by simpa [T.size] using hj
    have : s.parents.getD j j ≤ j := ok_getD_le ⟨h1, h2, h3, h4⟩ j
    simp only [parentOf, Bool.and_eq_true, bne_iff_ne, beq_iff_eq, not_and]
    intro _ ; omega

theorem children_eq_map {s : S} (h : GoodS s) :
    s.children = (List.range s.toT.size).map (Tree.children s.toT) := by
  apply List.ext_getElem
  · simp [T.size, h.2.2.1]
  · intro q h1 h2
    have := stored_eq_children h q
    simp only [S.stored, List.getD_eq_getElem?_getD, List.getElem?_eq_getElem h1, Option.getD_some] at this
    simp [this]

/-- the lists of different lines are disjoint, a line having one parent -/
theorem flatten_count {s : S} (h : GoodS s) (j : Nat) :
    s.children.flatten.count j = if j < s.toT.size ∧ parentOf s.toT j ≠ j then 1 else 0 := by
  have hle : parentOf s.toT j ≤ j := ok_getD_le h.2 j
  have hnd : ((List.range s.toT.size).flatMap (Tree.children s.toT)).Nodup :=
    nodup_flatMap List.nodup_range (fun i _ => nodup_of_sorted (children_sorted _ i))
      (fun i _ i' _ z hz hz' => (mem_children.mp hz).2.1.symm.trans (mem_children.mp hz').2.1)
  rw [children_eq_map h, ← List.flatMap_def, hnd.count]
  simp only [List.mem_flatMap, List.mem_range, mem_children]
  refine ite_congr (propext ⟨?_, fun ⟨a, b⟩ => ⟨_, by omega, a, rfl, fun e => b e.symm⟩⟩)
    (fun _ => rfl) (fun _ => rfl)
  rintro ⟨i, _, a, rfl, c⟩
  exact ⟨a, fun e => c e.symm⟩

end Ccp.TreeStored
