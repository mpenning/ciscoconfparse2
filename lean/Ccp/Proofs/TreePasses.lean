import Ccp.Spec.BannerLinks
/-!
What the passes of `bootstrap` do to the three lists of a tree, in closed form.  A walk over the lines after a
start line `p` overwrites a range of the parent list with `p` and a range of the keep flags
with `true` (`fill`); the ranges are the stretches of the two specifications
(`Spec/BannerLinks.lean`: `coverB`, `coverM`; `Spec/BlankKeep.lean`: `protB`, `protM`).  So the
banner pass and the macro pass are one and the same scan `stampFrom`, with different stretches.
-/
namespace Ccp.Tree
open Ccp.Py

theorem drop_cons_getElem? {α} (l : List α) (i : Nat) (x : α) (rest : List α) (h : l.drop i = x :: rest) :
    l[i]? = some x ∧ l.drop (i + 1) = rest ∧ i < l.length := by
  have h1 : l[i]? = some x := by simpa [List.head?_drop] using congrArg List.head? h
  have h2 : l.drop (i + 1) = rest := by simpa [List.tail_drop] using congrArg List.tail h
  exact ⟨h1, h2, (List.getElem?_eq_some_iff.mp h1).1⟩

theorem getD_of_length_le {α : Type} {l : List α} {j : Nat} (h : l.length ≤ j) (d : α) : l.getD j d = d := by
  rw [List.getD_eq_getElem?_getD, List.getElem?_eq_none h]; rfl

theorem getD_set {α : Type} (l : List α) (i j : Nat) (v d : α) :
    (l.set i v).getD j d = if i = j ∧ j < l.length then v else l.getD j d := by
  simp only [List.getD_eq_getElem?_getD, List.getElem?_set]
  by_cases h : i = j
  · subst h; by_cases hl : i < l.length <;> simp [hl]
  · simp [h]

/-- `l` with the entries at positions `i, …, i + n - 1` (those that exist) set to `v` -/
def fill {α : Type} : List α → Nat → Nat → α → List α
  | l, _, 0, _ => l
  | l, i, n + 1, v => fill (l.set i v) (i + 1) n v

theorem fill_one_add {α : Type} (l : List α) (i n : Nat) (v : α) :
    fill l i (1 + n) v = fill (l.set i v) (i + 1) n v := by
  rw [Nat.add_comm]; rfl

@[simp] theorem length_fill {α : Type} (l : List α) (i n : Nat) (v : α) : (fill l i n v).length = l.length := by
  induction n generalizing l i with
  | zero => rfl
  | succ n ih => rw [fill, ih, List.length_set]

theorem getD_fill {α : Type} (l : List α) (i n : Nat) (v : α) (j : Nat) (d : α) :
    (fill l i n v).getD j d = if i ≤ j ∧ j < i + n ∧ j < l.length then v else l.getD j d := by
  induction n generalizing l i with
  | zero => rw [fill, if_neg (by omega)]
  | succ n ih =>
    rw [fill, ih, List.length_set, getD_set]
    by_cases h : i = j ∧ j < l.length
    · have h' : i ≤ j ∧ j < i + (n + 1) ∧ j < l.length := by omega
      rw [if_pos h, if_pos h']; split <;> rfl
    · rw [if_neg h]; exact ite_congr (propext (by omega)) (fun _ => rfl) (fun _ => rfl)

/-- the number of lines up to the first one that passes `stop`; that line itself counts for
`last` (0 or 1).  The three stretch lengths of the specifications are instances. -/
def runLen (stop : Str → Bool) (last : Nat) : List Str → Nat
  | [] => 0
  | y :: rest => if stop y then last else 1 + runLen stop last rest

theorem bannerBodyLen_eq_runLen (d : Char) (rest : List Str) :
    bannerBodyLen d rest = runLen (fun y => (strip y).contains d) 0 rest := by
  induction rest with
  | nil => rfl
  | cons y rest ih => rw [bannerBodyLen, runLen, ih]

theorem bannerLinkLen_eq_runLen (d : Char) (rest : List Str) :
    bannerLinkLen d rest = runLen (fun y => (strip y).contains d) 1 rest := by
  induction rest with
  | nil => rfl
  | cons y rest ih => rw [bannerLinkLen, runLen, ih]

theorem macroBodyLen_eq_runLen (rest : List Str) :
    macroBodyLen rest = runLen (fun y => rstrip y == ['@']) 1 rest := by
  induction rest with
  | nil => rfl
  | cons y rest ih => rw [macroBodyLen, runLen, ih]

theorem runLen_le (stop : Str → Bool) {last : Nat} (hl : last ≤ 1) (rest : List Str) :
    runLen stop last rest ≤ rest.length := by
  induction rest with
  | nil => exact Nat.le_refl _
  | cons y rest ih => rw [runLen, List.length_cons]; split <;> omega

theorem runLen_one (stop : Str → Bool) (rest : List Str) :
    runLen stop 1 rest = min (runLen stop 0 rest + 1) rest.length := by
  induction rest with
  | nil => rfl
  | cons y rest ih => rw [runLen, runLen, List.length_cons]; split <;> omega

theorem runLen_spec (stop : Str → Bool) (rest : List Str) (k : Nat) :
    k + 1 ≤ runLen stop 1 rest ↔
      k < rest.length ∧ ∀ m y, m < k → rest[m]? = some y → stop y = false := by
  induction rest generalizing k with
  | nil => simp [runLen]
  | cons y rest ih =>
    rw [runLen, List.length_cons]
    cases k with
    | zero => exact ⟨fun _ => ⟨by omega, fun m _ h => by omega⟩, fun _ => by split <;> omega⟩
    | succ k =>
      cases hs : stop y with
      | true =>
        simp only [if_true]
        exact ⟨fun h => by omega, fun h => by have := h.2 0 y (by omega) rfl; rw [hs] at this; cases this⟩
      | false =>
        simp only [Bool.false_eq_true, if_false]
        rw [show k + 1 + 1 ≤ 1 + runLen stop 1 rest ↔ k + 1 ≤ runLen stop 1 rest by omega, ih]
        constructor
        · rintro ⟨h1, h2⟩
          refine ⟨by omega, fun m z hm hz => ?_⟩
          cases m with
          | zero => cases hz; exact hs
          | succ m => exact h2 m z (by omega) hz
        · rintro ⟨h1, h2⟩
          exact ⟨by omega, fun m z hm hz => h2 (m + 1) z (by omega) hz⟩

theorem bannerWalk_eq (d : Char) (p : Nat) (body : List Str) : ∀ (idx : Nat) (t : T),
    bannerWalk d p idx body t =
      { texts := t.texts, parents := fill t.parents idx (bannerLinkLen d body) p,
        keep := fill t.keep idx (bannerBodyLen d body) true } := by
  induction body with
  | nil => intros; rfl
  | cons y rest ih =>
    intro idx t
    unfold bannerWalk bannerLinkLen bannerBodyLen
    split
    · rfl
    · rw [ih, fill_one_add, fill_one_add]; rfl

theorem macroWalk_eq (p : Nat) (body : List Str) : ∀ (idx : Nat) (t : T),
    macroWalk p idx body t =
      { texts := t.texts, parents := fill t.parents idx (macroBodyLen body) p,
        keep := fill t.keep idx (macroBodyLen body) true } := by
  induction body with
  | nil => intros; rfl
  | cons y rest ih =>
    intro idx t
    unfold macroWalk macroBodyLen
    split
    · rfl
    · rw [ih, fill_one_add, fill_one_add]; rfl

/-- what the start line `x` at position `i` does, given the stretch it links (`cov`) and the
stretch it protects from the blank-line filter (`prot`, counted from `x` itself) -/
def stamp (cov prot : Str → List Str → Nat) (t : T) (i : Nat) (x : Str) : T :=
  { texts := t.texts
    parents := fill t.parents (i + 1) (cov x (t.texts.drop (i + 1))) i
    keep := fill t.keep i (prot x (t.texts.drop (i + 1))) true }

def stampFrom (cov prot : Str → List Str → Nat) : Nat → List Str → T → T
  | _, [], t => t
  | i, x :: rest, t => stampFrom cov prot (i + 1) rest (stamp cov prot t i x)

theorem markBanner_eq_stamp (t : T) (i : Nat) (x : Str) :
    (if isBannerStart x then markBanner t i x else t) = stamp coverB protB t i x := by
  unfold stamp coverB protB markBanner
  split
  · cases bannerDelim x with
    | none => rfl
    | some d =>
      simp only []
      split
      · rfl
      · rw [bannerWalk_eq, fill_one_add]; rfl
  · rfl

theorem macroWalk_eq_stamp (t : T) (i : Nat) (x : Str) :
    (if isMacroStart x then macroWalk i (i + 1) (t.texts.drop (i + 1)) (setKeep t i) else t) =
      stamp coverM protM t i x := by
  unfold stamp coverM protM
  split
  · rw [macroWalk_eq, fill_one_add]; rfl
  · rfl

theorem markBannersFrom_eq (l : List Str) : ∀ (i : Nat) (t : T),
    markBannersFrom i l t = stampFrom coverB protB i l t := by
  induction l with
  | nil => intros; rfl
  | cons x rest ih => intro i t; rw [markBannersFrom, markBanner_eq_stamp, ih]; rfl

theorem markMacrosFrom_eq (l : List Str) : ∀ (i : Nat) (t : T),
    markMacrosFrom i l t = stampFrom coverM protM i l t := by
  induction l with
  | nil => intros; rfl
  | cons x rest ih => intro i t; rw [markMacrosFrom, macroWalk_eq_stamp, ih]; rfl

def T.WF (t : T) : Prop := t.parents.length = t.texts.length ∧ t.keep.length = t.texts.length

theorem stampFrom_texts (cov prot : Str → List Str → Nat) (l : List Str) : ∀ (i : Nat) (t : T),
    (stampFrom cov prot i l t).texts = t.texts := by
  induction l with
  | nil => intros; rfl
  | cons x rest ih => intro i t; rw [stampFrom, ih]; rfl

theorem stamp_wf (cov prot : Str → List Str → Nat) (t : T) (i : Nat) (x : Str) (h : t.WF) :
    (stamp cov prot t i x).WF := by
  simpa [T.WF, stamp] using h

theorem stampFrom_wf (cov prot : Str → List Str → Nat) (l : List Str) : ∀ (i : Nat) (t : T),
    t.WF → (stampFrom cov prot i l t).WF := by
  induction l with
  | nil => intro _ _ h; exact h
  | cons x rest ih => intro i t h; exact ih _ _ (stamp_wf cov prot t i x h)

theorem linkLoop_length (st : St) (i : Nat) (ls : List Info) : (linkLoop st i ls).length = ls.length := by
  induction ls generalizing st i with
  | nil => rfl
  | cons l ls ih => simp [linkLoop, ih]

theorem linkByIndent_length (cfg : Cfg) (ls : List Str) : (linkByIndent cfg ls).length = ls.length := by
  simp [linkByIndent, linkLoop_length]

abbrev pass1 (cfg : Cfg) (ls : List Str) : T :=
  { texts := ls, parents := linkByIndent cfg ls, keep := ls.map (fun _ => false) }

theorem pass1_wf (cfg : Cfg) (ls : List Str) : (pass1 cfg ls).WF := by
  simp [T.WF, linkByIndent_length]

theorem link_eq_stamps (cfg : Cfg) (ls : List Str) :
    link cfg ls =
      (if cfg.ios then stampFrom coverM protM 0 ls else id) (stampFrom coverB protB 0 ls (pass1 cfg ls)) := by
  unfold link markMacros markBanners
  rw [markBannersFrom_eq, markMacrosFrom_eq, stampFrom_texts]
  split <;> rfl

theorem link_texts_ll (cfg : Cfg) (ls : List Str) : (link cfg ls).texts = ls := by
  rw [link_eq_stamps]; split <;> simp only [id, stampFrom_texts]

theorem link_wf (cfg : Cfg) (ls : List Str) : (link cfg ls).WF := by
  have h := stampFrom_wf coverB protB ls 0 _ (pass1_wf cfg ls)
  rw [link_eq_stamps]; split
  · exact stampFrom_wf _ _ _ _ _ h
  · exact h

theorem bootstrapFuel_is_link (cfg : Cfg) (fuel : Nat) (ls : List Str) :
    bootstrapFuel cfg fuel ls = link cfg (bootstrapFuel cfg fuel ls).texts := by
  induction fuel generalizing ls with
  | zero => rw [bootstrapFuel, link_texts_ll]
  | succ fuel ih =>
    unfold bootstrapFuel
    simp only []
    split
    · split
      · exact ih _
      · rw [link_texts_ll]
    · rw [link_texts_ll]

end Ccp.Tree
