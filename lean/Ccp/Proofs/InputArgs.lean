import Ccp.Proofs.Input
import Ccp.Model.InputArgs
/-! C09, the rejection side of the input forms (`Ccp.Model.InputArgs`) -/
namespace Ccp.Input
open Ccp.Py

theorem readConfigFileN_nodesOf (fs : Path → Option Text) (p : Path) :
    readConfigFileN (nodesOf fs) p = (readConfigFile fs p).mapError Exc.ofErr := by
  unfold readConfigFileN nodesOf readConfigFile
  cases fs p <;> rfl

theorem readStrN_nodesOf (fs : Path → Option Text) (s : Str) :
    readStrN (nodesOf fs) s = (readStr fs s).mapError Exc.ofErr := by
  unfold readStrN readStr
  simp only [readConfigFileN_nodesOf]
  split
  · cases readConfigFile fs s <;> rfl
  · split <;> rfl

theorem initLinesArg_conservative (fs : Path → Option Text) (i : Input) :
    initLinesArg (nodesOf fs) (.input i) = (initLines fs i).mapError Exc.ofErr := by
  cases i with
  | none | list ls | tuple ls => rfl
  | str s | path s =>
    simp only [initLinesArg, initLines, readConfig, readStrN_nodesOf]
    cases readStr fs s <;> rfl

theorem mapM_str (ls : List Str) : (ls.map Item.str).mapM Item.str? = some ls := by
  induction ls with
  | nil => rfl
  | cons l ls ih => simp [List.mapM_cons, Item.str?, ih]

theorem mapM_str_inv : ∀ (items : List Item) (ls : List Str), items.mapM Item.str? = some ls → items = ls.map .str
  | [], ls, h => by simp at h; subst h; rfl
  | it :: items, ls, h => by
    cases it with
    | str s =>
      simp only [List.mapM_cons, Item.str?, Option.pure_def, Option.bind_eq_bind, Option.bind_some] at h
      cases hm : items.mapM Item.str? with
      | none => simp [hm] at h
      | some l' =>
        simp [hm] at h
        subst h
        simp [mapM_str_inv items l' hm]
    | cfgLine | other => simp [List.mapM_cons, Item.str?] at h

/-- an item that is neither a `str` nor a config line: `read_config` refuses the collection, whatever its class -/
theorem readColl_rejected {k : Kind} {items : List Item} (h : items.all Item.accepted = false) :
    readColl (.coll k items) = .error .invalidParameters := by
  cases items with
  | nil => cases h
  | cons a l => simp only [readColl, elementsHaveLen, h, if_true]

/-- otherwise the class decides: a Sequence is handed on as it is -/
theorem readColl_accepted {k : Kind} {items : List Item} (h : items.all Item.accepted = true) :
    readColl (.coll k items) = if k = .sized then .error .valueError else .ok (k, items) := by
  cases items with
  | nil => cases k <;> rfl
  | cons a l => simp only [readColl, elementsHaveLen, h]; cases k <;> rfl

theorem initLinesArg_strs (fs : Path → Node) (k : Kind) (hk : k = .list ∨ k = .tuple) (ls : List Str) :
    initLinesArg fs (.coll k (ls.map .str)) = .ok ls := by
  have ha : (ls.map Item.str).all Item.accepted = true := by simp [Item.accepted]
  rcases hk with rfl | rfl <;>
    simp only [initLinesArg, readColl_accepted ha, initColl, bind, Except.bind, mapM_str, reduceCtorEq, if_false]

theorem initColl_ok (k : Kind) (items : List Item) (ls : List Str) (h : initColl (k, items) = .ok ls) :
    (k = .list ∨ k = .tuple) ∧ items = ls.map .str := by
  cases k with
  | list | tuple =>
    simp only [initColl] at h
    split at h
    · rename_i hm; cases h; exact ⟨by simp, mapM_str_inv _ _ hm⟩
    · cases h
  | seq | sized => cases h

theorem initLinesArg_coll_ok (fs : Path → Node) (k : Kind) (items : List Item) (ls : List Str)
    (h : initLinesArg fs (.coll k items) = .ok ls) : (k = .list ∨ k = .tuple) ∧ items = ls.map .str := by
  have h' : readColl (.coll k items) >>= initColl = .ok ls := h
  cases ha : items.all Item.accepted with
  | false => rw [readColl_rejected ha] at h'; cases h'
  | true =>
    rw [readColl_accepted ha] at h'
    split at h'
    · cases h'
    · exact initColl_ok _ _ _ h'

end Ccp.Input
