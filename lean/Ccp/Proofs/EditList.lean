import Ccp.Model.Edit
/-!
The list primitives of the edit model (`pyInsert`, `pyPop`, `insertAtMatches`, `eraseAll`), for
lists of anything: where Python's index conventions put an element (`insertPos`, `popPos`), what a
list-level insert adds (`insertAtMatches_perm`: copies of the payload, one per matching line) and
what it keeps, and that all of them commute with `List.map` (the texts of a list of items).
-/
namespace Ccp.Edit
open Ccp.Py

/-- where Python's `list.insert(k, x)` puts `x` in a list of length `n` -/
def insertPos (n : Nat) (k : Int) : Nat := if 0 ≤ k then min k.toNat n else (k + n).toNat

theorem insertPos_le (n : Nat) (k : Int) : insertPos n k ≤ n := by
  unfold insertPos; split
  · exact Nat.min_le_right _ _
  · exact Int.toNat_le.2 (by omega)

theorem insertPos_natCast (n idx : Nat) : insertPos n (idx : Int) = min idx n := by
  simp [insertPos]

theorem pyInsert_eq (l : List α) (k : Int) (x : α) :
    pyInsert l k x = l.take (insertPos l.length k) ++ x :: l.drop (insertPos l.length k) := by
  have h : (if k < 0 then (if k + (l.length : Int) < 0 then 0 else k + (l.length : Int))
      else (if k > (l.length : Int) then (l.length : Int) else k)).toNat = insertPos l.length k := by
    unfold insertPos
    by_cases h0 : k < 0
    · rw [if_pos h0, if_neg (Int.not_le.2 h0)]
      split
      · exact (Int.toNat_of_nonpos (Int.le_of_lt ‹_›)).symm
      · rfl
    · rw [if_neg h0, if_pos (Int.not_lt.1 h0)]
      split
      · exact (Nat.min_eq_right ((Int.le_toNat (Int.not_lt.1 h0)).2 (Int.le_of_lt ‹_›))).symm
      · exact (Nat.min_eq_left (Int.toNat_le.2 (Int.not_lt.1 ‹_›))).symm
  exact congrArg (fun j => l.take j ++ x :: l.drop j) h

theorem inserted_frame (old : List α) (j : Nat) (x : α) (hj : j ≤ old.length) :
    let new := old.take j ++ x :: old.drop j
    new.length = old.length + 1 ∧ new[j]? = some x ∧ new.eraseIdx j = old ∧
    (∀ m, m < j → new[m]? = old[m]?) ∧ (∀ m, j ≤ m → new[m + 1]? = old[m]?) := by
  have hl : (old.take j).length = j := List.length_take_of_le hj
  refine ⟨?_, ?_, ?_, fun m hm => ?_, fun m hm => ?_⟩
  · rw [List.length_append, List.length_cons, hl, List.length_drop]; omega
  · rw [List.getElem?_append_right (Nat.le_of_eq hl), hl, Nat.sub_self]; rfl
  · rw [List.eraseIdx_append_of_length_le (Nat.le_of_eq hl), hl, Nat.sub_self]
    exact List.take_append_drop j old
  · rw [List.getElem?_append_left (hl.symm ▸ hm), List.getElem?_take_of_lt hm]
  · rw [List.getElem?_append_right (hl.symm ▸ Nat.le_succ_of_le hm), hl, Nat.succ_sub hm, List.getElem?_cons_succ,
      List.getElem?_drop, Nat.add_sub_cancel' hm]

theorem set_frame (old : List α) (i : Nat) (x : α) (hi : i < old.length) :
    (old.set i x).length = old.length ∧ (old.set i x)[i]? = some x ∧
    ∀ m, m ≠ i → (old.set i x)[m]? = old[m]? :=
  ⟨List.length_set, List.getElem?_set_self hi, fun _ hm => List.getElem?_set_ne (Ne.symm hm)⟩

/-- the position Python's `list.pop(k)` removes from a list of length `n` (in range:
`-n ≤ k < n`) -/
def popPos (n : Nat) (k : Int) : Nat := if 0 ≤ k then k.toNat else (k + n).toNat

theorem pyPop_in_range (l : List α) (k : Int) (h : -(l.length : Int) ≤ k ∧ k < l.length) :
    pyPop l k = some (l.eraseIdx (popPos l.length k)) ∧ popPos l.length k < l.length := by
  have h1 : (if k < 0 then k + (l.length : Int) else k).toNat = popPos l.length k := by
    unfold popPos
    by_cases h0 : k < 0
    · rw [if_pos h0, if_neg (Int.not_le.2 h0)]
    · rw [if_neg h0, if_pos (Int.not_lt.1 h0)]
  have h2 : 0 ≤ (if k < 0 then k + (l.length : Int) else k) ∧
      (if k < 0 then k + (l.length : Int) else k) < l.length := by
    split <;> omega
  rw [← h1]
  exact ⟨if_neg fun hn => hn.elim (Int.not_lt.2 h2.1) (Int.not_le.2 h2.2), (Int.toNat_lt h2.1).2 h2.2⟩

theorem pyPop_out_of_range (l : List α) (k : Int) (h : k < -(l.length : Int) ∨ (l.length : Int) ≤ k) :
    pyPop l k = none :=
  if_pos (by omega)

theorem pyPop_sublist {l l' : List α} {k : Int} (h : pyPop l k = some l') : l'.Sublist l := by
  by_cases hr : -(l.length : Int) ≤ k ∧ k < l.length
  · rw [(pyPop_in_range l k hr).1] at h
    cases h
    exact List.eraseIdx_sublist ..
  · rw [pyPop_out_of_range l k (by omega)] at h
    cases h

/-- what a list-level `insert_before` / `insert_after` turns one line into -/
def expandLine (after : Bool) (x a : α) (m : Bool) : List α :=
  if m then (if after then [a, x] else [x, a]) else [a]

def matchCount (n : Nat) (row : List Bool) : Nat := (row.take n).count true

theorem insertAtMatches_nil_row (after : Bool) (x : α) (l : List α) :
    insertAtMatches after x l [] = l := by cases l <;> rfl

theorem insertAtMatches_cons (after : Bool) (x a : α) (as : List α) (b : Bool) (bs : List Bool) :
    insertAtMatches after x (a :: as) (b :: bs) = expandLine after x a b ++ insertAtMatches after x as bs := by
  cases b <;> cases after <;> rfl

theorem matchCount_cons (n : Nat) (b : Bool) (bs : List Bool) :
    matchCount (n + 1) (b :: bs) = matchCount n bs + b.toNat := by
  cases b <;> simp [matchCount]

theorem insertAtMatches_perm (after : Bool) (x : α) (l : List α) (row : List Bool) :
    (insertAtMatches after x l row).Perm (List.replicate (matchCount l.length row) x ++ l) := by
  induction l generalizing row with
  | nil => simp [insertAtMatches, matchCount]
  | cons a as ih =>
    cases row with
    | nil => simp [insertAtMatches, matchCount]
    | cons b bs =>
      rw [insertAtMatches_cons, List.length_cons, matchCount_cons]
      have h := ((ih bs).cons a).trans List.perm_middle.symm
      cases b
      · exact h
      · cases after
        · exact h.cons x
        · exact (List.Perm.swap x a _).trans (h.cons x)

theorem mem_insertAtMatches (after : Bool) (x : α) (l : List α) (row : List Bool) (y : α)
    (h : y ∈ insertAtMatches after x l row) : y = x ∨ y ∈ l := by
  rw [(insertAtMatches_perm after x l row).mem_iff, List.mem_append] at h
  exact h.imp_left List.eq_of_mem_replicate

theorem insertAtMatches_length (after : Bool) (x : α) (l : List α) (row : List Bool) :
    (insertAtMatches after x l row).length = l.length + matchCount l.length row := by
  rw [(insertAtMatches_perm after x l row).length_eq, List.length_append, List.length_replicate, Nat.add_comm]

theorem insertAtMatches_count [BEq α] [LawfulBEq α] (after : Bool) (x : α) (l : List α) (row : List Bool) :
    (insertAtMatches after x l row).count x = l.count x + matchCount l.length row := by
  rw [(insertAtMatches_perm after x l row).count_eq, List.count_append, List.count_replicate_self, Nat.add_comm]

theorem insertAtMatches_sublist (after : Bool) (x : α) (l : List α) (row : List Bool) :
    l.Sublist (insertAtMatches after x l row) := by
  induction l generalizing row with
  | nil => exact List.nil_sublist _
  | cons a as ih =>
    cases row with
    | nil => exact List.Sublist.refl _
    | cons b bs =>
      rw [insertAtMatches_cons]
      have : [a].Sublist (expandLine after x a b) := by cases b <;> cases after <;> simp [expandLine]
      exact this.append (ih bs)

theorem insertAtMatches_filterMap (f : α → Option β) (after : Bool) (x : α) (l : List α) (row : List Bool)
    (hx : f x = none) : (insertAtMatches after x l row).filterMap f = l.filterMap f := by
  induction l generalizing row with
  | nil => rfl
  | cons a as ih =>
    cases row with
    | nil => rfl
    | cons b bs =>
      have e : (expandLine after x a b).filterMap f = [a].filterMap f := by
        cases b <;> cases after <;> simp [expandLine, List.filterMap_cons, hx]
      rw [insertAtMatches_cons, List.filterMap_append, ih, e, ← List.filterMap_append]; rfl

theorem insertAtMatches_filter_out (p : α → Bool) (after : Bool) (x : α) (l : List α) (row : List Bool)
    (hx : p x = false) : (insertAtMatches after x l row).filter p = l.filter p := by
  rw [← List.filterMap_eq_filter, insertAtMatches_filterMap _ _ _ _ _ (by simp [Option.guard, hx])]

theorem insertAtMatches_filter [DecidableEq α] (after : Bool) (x : α) (l : List α) (row : List Bool) :
    (insertAtMatches after x l row).filter (· ≠ x) = l.filter (· ≠ x) :=
  insertAtMatches_filter_out _ after x l row (by simp)

theorem insertAtMatches_eq_flatMap (after : Bool) (x : α) (l : List α) (row : List Bool) :
    insertAtMatches after x l row
      = l.zipIdx.flatMap (fun p => expandLine after x p.1 (row.getD p.2 false)) := by
  -- `mapIdx` carries the index through the induction
  have key : ∀ row : List Bool, insertAtMatches after x l row
      = (l.mapIdx (fun i a => expandLine after x a (row.getD i false))).flatten := by
    induction l with
    | nil => exact fun _ => rfl
    | cons a as ih =>
      intro row
      cases row with
      | nil => simpa [insertAtMatches_nil_row, expandLine] using ih []
      | cons b bs =>
        simp only [insertAtMatches_cons, ih bs, List.mapIdx_cons, List.flatten_cons, List.getD_cons_zero,
          List.getD_cons_succ]
  rw [key, List.mapIdx_eq_zipIdx_map, List.flatMap_def]

theorem eraseAll_eq_filter (l : List α) (idxs : List Nat) :
    eraseAll l idxs = (l.zipIdx.filter (fun p => !idxs.contains p.2)).map (·.1) := by
  unfold eraseAll
  generalize l.zipIdx = z
  induction z with
  | nil => rfl
  | cons p ps ih =>
    simp only [List.filterMap_cons, List.filter_cons]
    cases h : idxs.contains p.2 <;> simp only [if_true, if_false, Bool.not_true, Bool.not_false,
      Bool.false_eq_true, List.map_cons, ih]

theorem mem_eraseAll {l : List α} {idxs : List Nat} {x : α} :
    x ∈ eraseAll l idxs ↔ ∃ k, k ∉ idxs ∧ l[k]? = some x := by
  rw [eraseAll_eq_filter, List.mem_map]
  constructor
  · rintro ⟨⟨a, k⟩, hf, rfl⟩
    rw [List.mem_filter, List.mem_zipIdx_iff_getElem?] at hf
    exact ⟨k, by simpa using hf.2, hf.1⟩
  · rintro ⟨k, hk, he⟩
    exact ⟨(x, k), List.mem_filter.2 ⟨List.mem_zipIdx_iff_getElem?.2 he, by simpa using hk⟩, rfl⟩

theorem eraseAll_sublist (l : List α) (idxs : List Nat) : (eraseAll l idxs).Sublist l := by
  rw [eraseAll_eq_filter]
  have h : ((l.zipIdx.filter (fun p => !idxs.contains p.2)).map (·.1)).Sublist (l.zipIdx.map (·.1)) :=
    (List.filter_sublist).map _
  simpa using h

theorem eraseAll_length (l : List α) (idxs : List Nat) (hn : idxs.Nodup) (hb : ∀ j ∈ idxs, j < l.length) :
    (eraseAll l idxs).length + idxs.length = l.length := by
  rw [eraseAll_eq_filter, List.length_map]
  have h1 : (l.zipIdx.filter (fun p => !idxs.contains p.2)).length
      = ((List.range' 0 l.length).filter (fun j => !idxs.contains j)).length := by
    rw [← List.zipIdx_map_snd 0 l, List.filter_map, List.length_map]; rfl
  have h2 : ((List.range' 0 l.length).filter (fun j => idxs.contains j)).Perm idxs := by
    apply (List.perm_ext_iff_of_nodup ((List.nodup_range' (step := 1)).filter _) hn).mpr
    intro j
    simp only [List.mem_filter, List.mem_range'_1, List.contains_iff_mem]
    constructor
    · exact fun h => h.2
    · exact fun h => ⟨⟨Nat.zero_le _, by have := hb j h; omega⟩, h⟩
  have h3 := List.length_eq_countP_add_countP (l := List.range' 0 l.length) (fun j => idxs.contains j)
  rw [h1, ← h2.length_eq]
  simp only [List.length_range', List.countP_eq_length_filter] at h3
  simp only [Bool.not_eq_true, Bool.decide_eq_false] at h3
  omega

theorem pyInsert_map (f : α → β) (l : List α) (k : Int) (x : α) :
    (pyInsert l k x).map f = pyInsert (l.map f) k (f x) := by
  simp [pyInsert_eq, List.map_take, List.map_drop]

theorem map_eraseIdx' (f : α → β) (l : List α) (i : Nat) :
    (l.eraseIdx i).map f = (l.map f).eraseIdx i := by
  induction l generalizing i with
  | nil => rfl
  | cons a as ih => cases i <;> simp [List.eraseIdx, ih]

theorem pyPop_map (f : α → β) (l : List α) (k : Int) :
    (pyPop l k).map (List.map f) = pyPop (l.map f) k := by
  unfold pyPop
  rw [List.length_map]
  dsimp only
  generalize (if k < 0 then k + (l.length : Int) else k) = j
  split
  · rfl
  · exact congrArg some (map_eraseIdx' f l _)

theorem insertAtMatches_map (f : α → β) (after : Bool) (x : α) (l : List α) (row : List Bool) :
    (insertAtMatches after x l row).map f = insertAtMatches after (f x) (l.map f) row := by
  induction l generalizing row with
  | nil => rfl
  | cons a as ih =>
    cases row with
    | nil => rfl
    | cons b bs =>
      rw [List.map_cons, insertAtMatches_cons, insertAtMatches_cons, List.map_append, ih]
      cases b <;> cases after <;> rfl

theorem eraseAll_map (f : α → β) (l : List α) (idxs : List Nat) :
    (eraseAll l idxs).map f = eraseAll (l.map f) idxs := by
  rw [eraseAll_eq_filter, eraseAll_eq_filter, List.zipIdx_map, List.filter_map, List.map_map, List.map_map]
  rfl

end Ccp.Edit
