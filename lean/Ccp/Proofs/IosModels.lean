import Ccp.Model.IosModels
import Ccp.Proofs.Py
/-!
The children of an interface stanza.  An `Item` is one command line (its words, rendered with one blank of indent);
`Desc` says which commands a stanza has, `Stanza d others kids` that the children are a permutation of them and of
unrelated lines.  Each child-line pattern of `Ccp.Model.IosModels` matches exactly the item it is made for; from
that, what each accessor returns on a stanza.
-/
namespace Ccp.Ios
open Ccp.Py Ccp.Tree

def Word (w : Str) : Prop := w ≠ [] ∧ ∀ c ∈ w, isSpace c = false
instance (w : Str) : Decidable (Word w) := by unfold Word; infer_instance
def toksOf : List Str → List Tok
  | [] => []
  | [w] => [(w, [])]
  | w :: w2 :: ws => (w, [' ']) :: toksOf (w2 :: ws)
def line (ind : Str) (ws : List Str) : Str := ind ++ join [' '] ws
theorem lex_cons_nonspace (c : Char) (cs : Str) (hc : isSpace c = false) :
    lex (c :: cs) = consWord [c] (lex cs) := by
  rw [lex]; simp [hc]

theorem consWord_consWord (c : Char) (w : Str) (r : Str × List Tok) :
    consWord [c] (consWord w r) = consWord (c :: w) r := by
  obtain ⟨g, ts⟩ := r
  cases g <;> cases ts <;> simp [consWord]

theorem lex_word_append (w : Str) (hw : Word w) (rest : Str) :
    lex (w ++ rest) = consWord w (lex rest) := by
  obtain ⟨hne, hsp⟩ := hw
  induction w with
  | nil => exact absurd rfl hne
  | cons c w ih =>
    have hc : isSpace c = false := hsp c (by simp)
    cases w with
    | nil => simpa using lex_cons_nonspace c rest hc
    | cons c2 w2 =>
      have ih' := ih (by simp) (fun x hx => hsp x (by simp [hx]))
      rw [List.cons_append, lex_cons_nonspace c _ hc, ih', consWord_consWord]

theorem lex_join (ws : List Str) (hws : ∀ w ∈ ws, Word w) : lex (join [' '] ws) = ([], toksOf ws) := by
  induction ws with
  | nil => rfl
  | cons w ws ih =>
    cases ws with
    | nil =>
      have := lex_word_append w (hws w (by simp)) []
      simpa [join, toksOf, lex, consWord] using this
    | cons w2 ws2 =>
      have ih' := ih (fun x hx => hws x (by simp [hx]))
      have h1 : lex (' ' :: join [' '] (w2 :: ws2)) = ([' '], toksOf (w2 :: ws2)) := by
        rw [lex]; simp [isSpace_blank, ih']
      have := lex_word_append w (hws w (by simp)) (' ' :: join [' '] (w2 :: ws2))
      rw [h1] at this
      simpa [join, toksOf, consWord] using this

theorem lex_line (ind : Str) (ws : List Str) (hind : ∀ c ∈ ind, isSpace c = true)
    (hws : ∀ w ∈ ws, Word w) : lex (line ind ws) = (ind, toksOf ws) := by
  induction ind with
  | nil => simpa [line] using lex_join ws hws
  | cons c ind ih =>
    have ih' := ih (fun x hx => hind x (by simp [hx]))
    have hc := hind c (by simp)
    simp only [line, List.cons_append] at ih' ⊢
    rw [lex]; simp [hc, ih']

inductive Item
  | descr (ws : List Str)
  | addr (a m : Str)
  | addrKw (kw : Str)
  | secondary (a m : Str)
  | vrf (name : Str)
  | ipVrf (name : Str)
  | mtu (n : Nat)
  | ipMtu (n : Nat)
  | shutdown (w : Str)
  | switchport
  | mode (m : Str)
  | accessVlan (n : Nat)
  | nativeVlan (n : Nat)
  | allowed (v : Str)
  | channelGroup (n : Nat) (rest : List Str)
  | other (ws : List Str)
deriving DecidableEq

def Item.words : Item → List Str
  | .descr ws => kDescription :: ws
  | .addr a m => [kIp, kAddress, a, m]
  | .addrKw kw => [kIp, kAddress, kw]
  | .secondary a m => [kIp, kAddress, a, m, kSecondary]
  | .ipVrf n => [kIp, kVrf, kForwarding, n]
  | .vrf n => [kVrf, kForwarding, n]
  | .mtu n => [kMtu, toDec n]
  | .ipMtu n => [kIp, kMtu, toDec n]
  | .shutdown w => [w]
  | .switchport => [kSwitchport]
  | .mode m => [kSwitchport, kMode, m]
  | .accessVlan n => [kSwitchport, kAccess, kVlan, toDec n]
  | .nativeVlan n => [kSwitchport, kTrunk, kNative, kVlan, toDec n]
  | .allowed v => [kSwitchport, kTrunk, kAllowed, kVlan, v]
  | .channelGroup n rest => kChannelGroup :: toDec n :: rest
  | .other ws => ws

def keywords : List Str := [kDescription, kMtu, kVrf, kSwitchport, kChannelGroup, kInterface]

/-- second words that make an `ip …` line one of the described commands -/
def ipSecond : List Str := [kAddress, kMtu, kVrf, kIp]

def Item.Valid : Item → Prop
  | .descr ws => ws ≠ [] ∧ ∀ w ∈ ws, Word w
  | .addr a m => Word a ∧ Word m ∧ isQuadShape a = true ∧ isQuadShape m = true
  | .addrKw kw => kw = kDhcp ∨ kw = kNegotiated
  | .secondary a m => Word a ∧ Word m
  | .vrf n => Word n
  | .ipVrf n => Word n
  | .shutdown w => w = "shutdown".toList ∨ w = kShut
  | .mode m => m = kAccess ∨ m = kTrunk
  | .allowed v => Word v
  | .channelGroup _ rest => ∀ w ∈ rest, Word w
  | .other ws => (∀ w ∈ ws, Word w) ∧ ∃ w rest, ws = w :: rest ∧ w ∉ keywords ∧ kShut.isPrefixOf w = false ∧
      (w = kIp → ∃ w2 r2, rest = w2 :: r2 ∧ w2 ∉ ipSecond)
  | _ => True

def ind1 : Str := [' ']
def Item.render (it : Item) : Str := line ind1 it.words

theorem toksOf_cons (w : Str) (ws : List Str) :
    toksOf (w :: ws) = (w, if ws.isEmpty then [] else [' ']) :: toksOf ws := by
  cases ws <;> simp [toksOf]

theorem unlex_toksOf (ws : List Str) : unlex (toksOf ws) = join [' '] ws := by
  induction ws with
  | nil => rfl
  | cons w ws ih =>
    cases ws with
    | nil => simp [toksOf, unlex, join]
    | cons w2 ws2 =>
      simp only [unlex] at ih
      simp [toksOf, unlex, join, ih]

theorem map_fst_toksOf (ws : List Str) : (toksOf ws).map (·.1) = ws := by
  induction ws with
  | nil => rfl
  | cons w ws ih => simp [toksOf_cons, ih]

theorem wordsOf_line (ind : Str) (ws : List Str) (hind : ∀ c ∈ ind, isSpace c = true) (hws : ∀ w ∈ ws, Word w) :
    wordsOf (line ind ws) = ws := by
  unfold wordsOf; rw [lex_line ind ws hind hws]; exact map_fst_toksOf ws

theorem word_toDec (n : Nat) : Word (toDec n) :=
  ⟨toDec_ne_nil n, fun c hc => isSpace_of_isDigit c (toDec_digits n c hc)⟩

theorem allDigits_toDec (n : Nat) : allDigits (toDec n) = true := by
  have h1 := toDec_ne_nil n
  have h2 := toDec_digits n
  simp only [allDigits, Bool.and_eq_true, Bool.not_eq_true', List.all_eq_true]
  exact ⟨by cases h : toDec n <;> simp_all, h2⟩

theorem takeWhile_toDec (n : Nat) : (toDec n).takeWhile isDigit = toDec n :=
  takeWhile_all _ _ (toDec_digits n)

/-- the literals are written out before the kernel evaluates -/
theorem word_kws : Word kInterface ∧ Word kDescription ∧ Word kIp ∧ Word kAddress ∧ Word kSecondary ∧ Word kDhcp ∧
    Word kNegotiated ∧ Word kVrf ∧ Word kForwarding ∧ Word kMtu ∧ Word kShut ∧ Word "shutdown".toList ∧
    Word kSwitchport ∧ Word kMode ∧ Word kAccess ∧ Word kTrunk ∧ Word kVlan ∧ Word kNative ∧ Word kAllowed ∧
    Word kChannelGroup ∧ Word kRoute ∧ Word kGlobal ∧ Word kName ∧ Word kPermanent ∧ Word kTrack ∧ Word kTag := by
  unfold kInterface kDescription kIp kAddress kSecondary kDhcp kNegotiated kVrf kForwarding kMtu kShut kSwitchport
    kMode kAccess kTrunk kVlan kNative kAllowed kChannelGroup kRoute kGlobal kName kPermanent kTrack kTag
  simp only [toList_lit]
  decide +kernel

theorem Item.words_valid (it : Item) (h : it.Valid) : ∀ w ∈ it.words, Word w := by
  cases it <;> simp only [Item.words, Item.Valid, List.forall_mem_cons, List.not_mem_nil, false_imp_iff, implies_true,
    and_true, word_kws, true_and, word_toDec] at h ⊢
  case descr ws => exact h.2
  case addr a m => exact ⟨h.1, h.2.1⟩
  case addrKw kw => rcases h with rfl | rfl <;> simp only [word_kws]
  case secondary a m => exact h
  case vrf n => exact h
  case ipVrf n => exact h
  case shutdown w => rcases h with rfl | rfl <;> simp only [word_kws]
  case mode m => rcases h with rfl | rfl <;> simp only [word_kws]
  case allowed v => exact h
  case channelGroup n rest => exact h
  case other ws => exact h.1

theorem lex_render (it : Item) (h : it.Valid) : lex it.render = (ind1, toksOf it.words) :=
  lex_line ind1 it.words (by decide) (it.words_valid h)

theorem wordsOf_render (it : Item) (h : it.Valid) : wordsOf it.render = it.words :=
  wordsOf_line ind1 it.words (by decide) (it.words_valid h)

/-!
Every child-line pattern looks at the first word of the line, and after `ip` at the second: `Keyed p K` says that
`p` only matches lines whose first word satisfies `K`, `Keyed2 p K2` that on a line starting with `ip` the second
word satisfies `K2`.  An item whose words do not fit is not matched (`none_of_key`, `none_of_key2`); this settles
most (pattern, item) pairs without looking further into the pattern. -/

def Keyed {α : Type} (p : Str → Option α) (K : Str → Prop) : Prop :=
  ∀ s v, p s = some v → ∃ t ts, (lex s).2 = t :: ts ∧ K t.1

def Keyed2 {α : Type} (p : Str → Option α) (K2 : Str → Prop) : Prop :=
  ∀ s v, p s = some v → ∀ t ts, (lex s).2 = t :: ts → t.1 = kIp → ∃ t2 ts', ts = t2 :: ts' ∧ K2 t2.1

theorem keyed_of_ip {α : Type} {p : Str → Option α} {K2 : Str → Prop}
    (h : ∀ s v, p s = some v → ∃ t t2 ts, (lex s).2 = t :: t2 :: ts ∧ t.1 = kIp ∧ K2 t2.1) :
    Keyed p (· = kIp) ∧ Keyed2 p K2 :=
  ⟨fun s v hp => let ⟨t, t2, ts, e, ht, _⟩ := h s v hp; ⟨t, t2 :: ts, e, ht⟩,
   fun s v hp t' ts' e' _ => let ⟨t, t2, ts, e, _, h2⟩ := h s v hp; by
    rw [e] at e'; cases e'; exact ⟨t2, ts, rfl, h2⟩⟩

theorem none_of_key {α : Type} {p : Str → Option α} {K : Str → Prop} (hkey : Keyed p K)
    {it : Item} (h : it.Valid) {w : Str} {ws : List Str} (hw : it.words = w :: ws) (hne : ¬ K w) :
    p it.render = none := by
  cases hp : p it.render with
  | none => rfl
  | some v =>
    obtain ⟨t, ts, e, hk⟩ := hkey _ _ hp
    rw [lex_render it h, hw, toksOf_cons] at e
    cases e
    exact absurd hk hne

theorem none_of_key2 {α : Type} {p : Str → Option α} {K2 : Str → Prop} (hkey : Keyed2 p K2)
    {it : Item} (h : it.Valid) {w2 : Str} {ws : List Str} (hw : it.words = kIp :: w2 :: ws) (hne : ¬ K2 w2) :
    p it.render = none := by
  cases hp : p it.render with
  | none => rfl
  | some v =>
    have e : (lex it.render).2 = _ := congrArg Prod.snd (lex_render it h)
    rw [hw, toksOf_cons, toksOf_cons] at e
    obtain ⟨t2, ts', e2, hk⟩ := hkey _ _ hp _ _ e rfl
    cases e2
    exact absurd hk hne

theorem other_none {α : Type} {p : Str → Option α} {K : Str → Prop} (hkey : Keyed p K)
    (hK : ∀ w, K w → w ∈ keywords ∨ kShut.isPrefixOf w = true) {ws : List Str} (h : (Item.other ws).Valid) :
    p (Item.other ws).render = none := by
  obtain ⟨w, rest, rfl, hk, hs, _⟩ := h.2
  exact none_of_key hkey h rfl (fun k => (hK w k).elim hk (by simp [hs]))

theorem other_none_ip {α : Type} {p : Str → Option α} {K K2 : Str → Prop} (hkey : Keyed p K)
    (hK : ∀ w, K w → w = kIp ∨ w ∈ keywords) (hkey2 : Keyed2 p K2) (hK2 : ∀ w, K2 w → w ∈ ipSecond)
    {ws : List Str} (h : (Item.other ws).Valid) : p (Item.other ws).render = none := by
  obtain ⟨w, rest, rfl, hk, _, hip⟩ := h.2
  by_cases e : w = kIp
  · obtain ⟨w2, r2, rfl, h2⟩ := hip e
    exact none_of_key2 hkey2 h (congrArg (· :: w2 :: r2) e) (fun k => h2 (hK2 w2 k))
  · exact none_of_key hkey h rfl (fun k => (hK w k).elim e hk)

theorem pDescr_key : Keyed pDescr (· = kDescription) := by
  intro s v h
  rw [pDescr] at h
  split at h
  · next e => exact ⟨_, _, e, (Option.ite_none_right_eq_some.1 h).1⟩
  · cases h

theorem pMtu_key : Keyed pMtu (· = kMtu) := by
  intro s v h
  rw [pMtu] at h
  split at h
  · next e =>
    have := (Option.ite_none_right_eq_some.1 h).1
    simp only [Bool.and_eq_true, decide_eq_true_eq] at this
    exact ⟨_, _, e, this.1.1⟩
  · cases h

theorem pShut_key : Keyed pShut (kShut.isPrefixOf · = true) := by
  intro s v h
  rw [pShut] at h
  split at h
  · next e => exact ⟨_, _, e, (Option.ite_none_right_eq_some.1 h).1⟩
  · cases h

theorem pChan_key : Keyed pChan (· = kChannelGroup) := by
  intro s v h
  rw [pChan] at h
  split at h
  · next e =>
    have := (Option.ite_none_right_eq_some.1 h).1
    simp only [Bool.and_eq_true, decide_eq_true_eq] at this
    exact ⟨_, _, e, this.1⟩
  · cases h

theorem pIpMtu_key : Keyed pIpMtu (· = kIp) ∧ Keyed2 pIpMtu (· = kMtu) := by
  refine keyed_of_ip fun s v h => ?_
  rw [pIpMtu] at h
  split at h
  · next e =>
    have := (Option.ite_none_right_eq_some.1 h).1
    simp only [Bool.and_eq_true, decide_eq_true_eq] at this
    exact ⟨_, _, _, e, this.1.1.1, this.1.1.2⟩
  · cases h

theorem addrWords_key : Keyed addrWords (· = kIp) ∧ Keyed2 addrWords (· = kAddress) := by
  refine keyed_of_ip fun s v h => ?_
  rw [addrWords] at h
  have h := (Option.ite_none_left_eq_some.1 h).2
  split at h
  · next e =>
    have := (Option.ite_none_right_eq_some.1 h).1
    simp only [Bool.and_eq_true, decide_eq_true_eq] at this
    exact ⟨_, _, _, e, this.1, this.2⟩
  · cases h

theorem Keyed.bind {α β : Type} {q : Str → Option β} {K : Str → Prop} (hq : Keyed q K) {p : Str → Option α}
    {f : β → Option α} (h : ∀ s, p s = (q s).bind f) : Keyed p K := by
  intro s v hp
  rw [h s] at hp
  obtain ⟨x, hx, _⟩ := Option.bind_eq_some_iff.1 hp
  exact hq s x hx

theorem pAddr_key : Keyed pAddr (· = kIp) :=
  addrWords_key.1.bind fun s => by rw [pAddr]; cases addrWords s <;> rfl
theorem pMask_key : Keyed pMask (· = kIp) :=
  addrWords_key.1.bind fun s => by rw [pMask]; cases addrWords s <;> rfl
theorem pAddrObj_key : Keyed pAddrObj (· = kIp) :=
  addrWords_key.1.bind fun s => by rw [pAddrObj]; cases addrWords s <;> rfl

theorem pAddrKw_key (kw : Str) : Keyed (pAddrKw kw) (· = kIp) ∧ Keyed2 (pAddrKw kw) (· = kAddress) := by
  refine keyed_of_ip fun s v h => ?_
  rw [pAddrKw] at h
  have h := (Option.ite_none_left_eq_some.1 h).2
  split at h
  · next e =>
    have := (Option.ite_none_right_eq_some.1 h).1
    simp only [Bool.and_eq_true, decide_eq_true_eq] at this
    exact ⟨_, _, _, e, this.1.1, this.1.2⟩
  · cases h

theorem pSecondary_key : Keyed pSecondary (· = kIp) ∧ Keyed2 pSecondary (· = kAddress) := by
  refine keyed_of_ip fun s v h => ?_
  rw [pSecondary] at h
  split at h
  · next e =>
    have := (Option.ite_none_right_eq_some.1 h).1
    simp only [Bool.and_eq_true, decide_eq_true_eq] at this
    exact ⟨_, _, _, e, this.1.1, this.1.2⟩
  · cases h

theorem head_of_dropWhile {α : Type} {q : α → Bool} {l : List α} {x : α} {xs : List α}
    (h : l.dropWhile q = x :: xs) : ∃ t ts, l = t :: ts ∧ (q t = true ∨ t = x) := by
  cases l with
  | nil => cases h
  | cons t ts =>
    refine ⟨t, ts, rfl, ?_⟩
    by_cases ht : q t = true
    · exact .inl ht
    · rw [List.dropWhile_cons_of_neg ht] at h
      exact .inr (List.cons.inj h).1

/-- `(ip\s+)*vrf …`: the first word other than `ip` is `vrf` -/
theorem pVrf_key : Keyed pVrf (fun w => w = kIp ∨ w = kVrf) ∧ Keyed2 pVrf (fun w => w = kIp ∨ w = kVrf) := by
  have hd : ∀ s v, pVrf s = some v → ∃ t ts, (lex s).2.dropWhile (fun t => t.1 = kIp) = t :: ts ∧ t.1 = kVrf := by
    intro s v h
    rw [pVrf] at h
    split at h
    · next e =>
      have := (Option.ite_none_right_eq_some.1 h).1
      simp only [Bool.and_eq_true, decide_eq_true_eq] at this
      exact ⟨_, _, e, this.1.1.1.1⟩
    · cases h
  constructor
  · intro s v h
    obtain ⟨x, xs, e, hx⟩ := hd s v h
    obtain ⟨t, ts, el, ht⟩ := head_of_dropWhile e
    exact ⟨t, ts, el, ht.imp of_decide_eq_true (fun e : t = x => e ▸ hx)⟩
  · intro s v h t ts el ht
    obtain ⟨x, xs, e, hx⟩ := hd s v h
    rw [el, List.dropWhile_cons_of_pos (by simpa using ht)] at e
    obtain ⟨t2, ts', el2, ht2⟩ := head_of_dropWhile e
    exact ⟨t2, ts', el2, ht2.imp of_decide_eq_true (fun e : t2 = x => e ▸ hx)⟩

/-!
`specX it` is what the pattern `pX` is to find in the line of `it`.  The item a pattern is made for is computed;
every other item is dismissed by its first or second word.  The keyword comparisons are closed facts.  (`rw [p]`,
not `unfold p`: the latter has the whole goal, with the rendered line in it, checked again up to definitional
equality.) -/

def specDescr : Item → Option Str
  | .descr ws => some (join [' '] ws)
  | _ => none
def specMtu : Item → Option Str
  | .mtu n => some (toDec n)
  | _ => none
def specIpMtu : Item → Option Str
  | .ipMtu n => some (toDec n)
  | _ => none
def specShut : Item → Option Str
  | .shutdown w => some w
  | _ => none
def specVrf : Item → Option Str
  | .vrf n => some n
  | .ipVrf n => some n
  | _ => none
def specAddr : Item → Option Str
  | .addr a _ => some a
  | _ => none
def specMask : Item → Option Str
  | .addr _ m => some m
  | _ => none
def specAddrObj : Item → Option (Str × Str)
  | .addr a m => some (a, m)
  | _ => none
def specAddrKw (kw : Str) : Item → Option Str
  | .addrKw k => if k = kw then some k else none
  | _ => none
def specSecondary : Item → Option (Str × Str)
  | .secondary a m => some (a, m)
  | _ => none
def specChan : Item → Option Str
  | .channelGroup n _ => some (toDec n)
  | _ => none

theorem pDescr_render (it : Item) (h : it.Valid) : pDescr it.render = specDescr it := by
  cases it
  case descr ws =>
    obtain ⟨w, ws, rfl⟩ := List.exists_cons_of_ne_nil h.1
    rw [pDescr, lex_render _ h]
    simp only [Item.words, toksOf_cons, specDescr, if_true]
    rw [← toksOf_cons, unlex_toksOf]
  case other ws => exact other_none pDescr_key (fun w e => .inl (by simp [e, keywords])) h
  case shutdown w => exact none_of_key pDescr_key h rfl (by rcases h with rfl | rfl <;> decide +kernel)
  all_goals exact none_of_key pDescr_key h rfl (by decide +kernel)

theorem pMtu_render (it : Item) (h : it.Valid) : pMtu it.render = specMtu it := by
  cases it
  case mtu n => rw [pMtu, lex_render _ h]; simp [Item.words, toksOf, specMtu, allDigits_toDec]
  case other ws => exact other_none pMtu_key (fun w e => .inl (by simp [e, keywords])) h
  case shutdown w => exact none_of_key pMtu_key h rfl (by rcases h with rfl | rfl <;> decide +kernel)
  all_goals exact none_of_key pMtu_key h rfl (by decide +kernel)

theorem pShut_render (it : Item) (h : it.Valid) : pShut it.render = specShut it := by
  cases it
  case shutdown w =>
    rw [pShut, lex_render _ h]
    rcases h with rfl | rfl <;> rfl
  case other ws => exact other_none pShut_key (fun w e => .inr e) h
  all_goals exact none_of_key pShut_key h rfl (by decide +kernel)

theorem pChan_render (it : Item) (h : it.Valid) : pChan it.render = specChan it := by
  cases it
  case channelGroup n rest =>
    rw [pChan, lex_render _ h]
    simp [Item.words, toksOf_cons, specChan, takeWhile_toDec, toDec_ne_nil]
  case other ws => exact other_none pChan_key (fun w e => .inl (by simp [e, keywords])) h
  case shutdown w => exact none_of_key pChan_key h rfl (by rcases h with rfl | rfl <;> decide +kernel)
  all_goals exact none_of_key pChan_key h rfl (by decide +kernel)

theorem ipSecond_of_eq {k : Str} (hk : k ∈ ipSecond) : ∀ w, w = k → w ∈ ipSecond := fun _ e => e ▸ hk

theorem pIpMtu_render (it : Item) (h : it.Valid) : pIpMtu it.render = specIpMtu it := by
  cases it
  case ipMtu n => rw [pIpMtu, lex_render _ h]; simp [Item.words, toksOf, specIpMtu, allDigits_toDec]
  case other ws =>
    exact other_none_ip pIpMtu_key.1 (fun w e => .inl e) pIpMtu_key.2 (ipSecond_of_eq (by simp [ipSecond])) h
  case shutdown w => exact none_of_key pIpMtu_key.1 h rfl (by rcases h with rfl | rfl <;> decide +kernel)
  case addr | addrKw | secondary | ipVrf => exact none_of_key2 pIpMtu_key.2 h rfl (by decide +kernel)
  all_goals exact none_of_key pIpMtu_key.1 h rfl (by decide +kernel)

theorem addrWords_render (it : Item) (h : it.Valid) : addrWords it.render = specAddrObj it := by
  cases it
  case addr a m => rw [addrWords, lex_render _ h]; rfl
  case addrKw | secondary => rw [addrWords, lex_render _ h]; rfl
  case other ws =>
    exact other_none_ip addrWords_key.1 (fun w e => .inl e) addrWords_key.2 (ipSecond_of_eq (by simp [ipSecond])) h
  case shutdown w => exact none_of_key addrWords_key.1 h rfl (by rcases h with rfl | rfl <;> decide +kernel)
  case ipVrf | ipMtu => exact none_of_key2 addrWords_key.2 h rfl (by decide +kernel)
  all_goals exact none_of_key addrWords_key.1 h rfl (by decide +kernel)

theorem pAddr_render (it : Item) (h : it.Valid) : pAddr it.render = specAddr it := by
  rw [pAddr, addrWords_render it h]
  cases it
  case addr a m => simp [specAddrObj, specAddr, h.2.2.1, h.2.2.2]
  all_goals rfl

theorem pMask_render (it : Item) (h : it.Valid) : pMask it.render = specMask it := by
  rw [pMask, addrWords_render it h]
  cases it
  case addr a m => simp [specAddrObj, specMask, h.2.2.1, h.2.2.2]
  all_goals rfl

theorem pAddrObj_render (it : Item) (h : it.Valid) : pAddrObj it.render = specAddrObj it := by
  rw [pAddrObj, addrWords_render it h]
  cases it
  case addr a m => simp [specAddrObj, h.2.2.2]
  all_goals rfl

theorem pAddrKw_render (kw : Str) (it : Item) (h : it.Valid) : pAddrKw kw it.render = specAddrKw kw it := by
  cases it
  case addrKw k => rw [pAddrKw, lex_render _ h]; simp [Item.words, toksOf, specAddrKw, ind1]
  case addr | secondary => rw [pAddrKw, lex_render _ h]; rfl
  case other ws =>
    exact other_none_ip (pAddrKw_key kw).1 (fun w e => .inl e) (pAddrKw_key kw).2
      (ipSecond_of_eq (by simp [ipSecond])) h
  case shutdown w => exact none_of_key (pAddrKw_key kw).1 h rfl (by rcases h with rfl | rfl <;> decide +kernel)
  case ipVrf | ipMtu => exact none_of_key2 (pAddrKw_key kw).2 h rfl (by decide +kernel)
  all_goals exact none_of_key (pAddrKw_key kw).1 h rfl (by decide +kernel)

theorem pSecondary_render (it : Item) (h : it.Valid) : pSecondary it.render = specSecondary it := by
  cases it
  case secondary a m => rw [pSecondary, lex_render _ h]; simp [Item.words, toksOf, specSecondary]
  case addr | addrKw => rw [pSecondary, lex_render _ h]; rfl
  case other ws =>
    exact other_none_ip pSecondary_key.1 (fun w e => .inl e) pSecondary_key.2 (ipSecond_of_eq (by simp [ipSecond])) h
  case shutdown w => exact none_of_key pSecondary_key.1 h rfl (by rcases h with rfl | rfl <;> decide +kernel)
  case ipVrf | ipMtu => exact none_of_key2 pSecondary_key.2 h rfl (by decide +kernel)
  all_goals exact none_of_key pSecondary_key.1 h rfl (by decide +kernel)

theorem pVrf_render (it : Item) (h : it.Valid) : pVrf it.render = specVrf it := by
  cases it
  case vrf n => rw [pVrf, lex_render _ h]; rfl
  case ipVrf n => rw [pVrf, lex_render _ h]; rfl
  case other ws =>
    exact other_none_ip pVrf_key.1 (fun w e => e.imp id fun e => by simp [e, keywords]) pVrf_key.2
      (fun w e => by rcases e with rfl | rfl <;> simp [ipSecond]) h
  case shutdown w => exact none_of_key pVrf_key.1 h rfl (by rcases h with rfl | rfl <;> decide +kernel)
  case addr | addrKw | secondary | ipMtu => exact none_of_key2 pVrf_key.2 h rfl (by decide +kernel)
  all_goals exact none_of_key pVrf_key.1 h rfl (by decide +kernel)

structure Desc where
  descr : Option (List Str)
  /-- static primary address and mask -/
  addr : Option (Str × Str)
  /-- `ip address dhcp` / `ip address negotiated` -/
  addrKw : Option Str
  secondaries : List (Str × Str)
  /-- `vrf forwarding X` -/
  vrf : Option Str
  /-- `ip vrf forwarding X` -/
  ipVrf : Option Str
  mtu : Option Nat
  ipMtu : Option Nat
  shutdown : Option Str
  switchport : Bool
  mode : Option Str
  accessVlan : Option Nat
  nativeVlan : Option Nat
  allowed : Option Str
  channelGroup : Option (Nat × List Str)

def Desc.items (d : Desc) : List Item :=
  d.descr.toList.map .descr ++ d.addr.toList.map (fun p => .addr p.1 p.2) ++
  d.addrKw.toList.map .addrKw ++
  d.secondaries.map (fun p => .secondary p.1 p.2) ++ d.vrf.toList.map .vrf ++
  d.ipVrf.toList.map .ipVrf ++
  d.mtu.toList.map .mtu ++ d.ipMtu.toList.map .ipMtu ++ d.shutdown.toList.map .shutdown ++
  (if d.switchport then [Item.switchport] else []) ++ d.mode.toList.map .mode ++
  d.accessVlan.toList.map .accessVlan ++ d.nativeVlan.toList.map .nativeVlan ++
  d.allowed.toList.map .allowed ++ d.channelGroup.toList.map (fun c => .channelGroup c.1 c.2)

def flatFam (hdr : Str) (kids : List Item) : Fam :=
  { self := hdr, kids := kids.map Item.render, order := hdr :: kids.map Item.render,
    secFams := kids.map (fun k => [k.render]) }

structure Stanza (d : Desc) (others kids : List Item) : Prop where
  perm : kids.Perm (d.items ++ others)
  unrelated : ∀ it ∈ others, ∃ ws, it = .other ws
  valid : ∀ it ∈ kids, it.Valid
  oneVrf : d.vrf = none ∨ d.ipVrf = none
  oneAddr : d.addr = none ∨ d.addrKw = none

def Desc.isSw (d : Desc) : Bool :=
  d.switchport || d.mode.isSome || d.accessVlan.isSome || d.nativeVlan.isSome || d.allowed.isSome

theorem filterMap_optmap {α β : Type} (o : Option β) (K : β → Item) (f : Item → Option α) :
    (o.toList.map K).filterMap f = (o.bind (fun x => f (K x))).toList := by
  cases o with
  | none => rfl
  | some v => cases h : f (K v) <;> simp [List.filterMap, h]

theorem filterMap_fun_none {α β : Type} (l : List β) : l.filterMap (fun _ => (none : Option α)) = [] := by
  induction l <;> simp_all

theorem filterMap_others {α : Type} (others : List Item) (ho : ∀ it ∈ others, ∃ ws, it = .other ws)
    (f : Item → Option α) (hf : ∀ ws, f (.other ws) = none) : others.filterMap f = [] := by
  induction others with
  | nil => rfl
  | cons x xs ih =>
    obtain ⟨ws, rfl⟩ := ho x (by simp)
    simp [hf, ih (fun it hit => ho it (by simp [hit]))]

theorem bind_none' {α β : Type} (o : Option β) : o.bind (fun _ => (none : Option α)) = none := by
  cases o <;> rfl

/-- `findSome?` over a permutation, when the other list has at most one hit -/
theorem findSome_perm {α β : Type} (f : β → Option α) {l l' : List β} (hp : l.Perm l') (o : Option α)
    (h : l'.filterMap f = o.toList) : l.findSome? f = o := by
  have hp' := hp.filterMap f
  rw [h] at hp'
  rw [← List.head?_filterMap]
  cases o with
  | none => rw [List.Perm.eq_nil hp']; rfl
  | some v => rw [List.perm_singleton.mp hp']; rfl

theorem findSome_render {α : Type} {p : Str → Option α} {spec : Item → Option α}
    (hp : ∀ it : Item, it.Valid → p it.render = spec it) (kids : List Item) (hv : ∀ it ∈ kids, it.Valid) :
    (kids.map Item.render).findSome? p = kids.findSome? spec := by
  induction kids with
  | nil => rfl
  | cons k ks ih =>
    rw [List.map_cons, List.findSome?_cons, List.findSome?_cons, hp k (hv k (by simp)),
      ih (fun it hit => hv it (by simp [hit]))]

def Header (hdr : Str) : Prop := ∃ nm : List Str, (∀ w ∈ nm, Word w) ∧ hdr = line [] (kInterface :: nm)

theorem lex_header {nm : List Str} (h : ∀ w ∈ nm, Word w) :
    lex (line [] (kInterface :: nm)) = ([], toksOf (kInterface :: nm)) :=
  lex_line [] _ nofun (List.forall_mem_cons.2 ⟨word_kws.1, h⟩)

theorem hdr_none {α : Type} {p : Str → Option α} {K : Str → Prop} (hkey : Keyed p K)
    {hdr : Str} (hh : Header hdr) (hK : ¬ K kInterface) : p hdr = none := by
  obtain ⟨nm, hnm, rfl⟩ := hh
  cases hp : p (line [] (kInterface :: nm)) with
  | none => rfl
  | some v =>
    obtain ⟨t, ts, e, hk⟩ := hkey _ _ hp
    rw [lex_header hnm, toksOf_cons] at e
    cases e
    exact absurd hk hK

section
variable {d : Desc} {others kids : List Item} {hdr : Str}

theorem fm_if {α : Type} (c : Bool) (x : Item) (f : Item → Option α) :
    (if c then [x] else []).filterMap f = if c then (f x).toList else [] := by
  cases c <;> simp [List.filterMap]; cases f x <;> rfl

theorem bind_some_map {α β : Type} (o : Option β) (g : β → α) : o.bind (fun n => some (g n)) = o.map g := by
  cases o <;> rfl

theorem filterMap_listmap_none {α β : Type} (l : List β) (K : β → Item) (f : Item → Option α)
    (h : ∀ x, f (K x) = none) : (l.map K).filterMap f = [] := by
  induction l <;> simp_all

/-- evaluate `(d.items ++ others).filterMap spec` for a spec that ignores secondaries -/
macro "fm_eval" spec:ident ho:ident : tactic =>
  `(tactic| (
    simp only [Desc.items, List.filterMap_append, filterMap_optmap, fm_if]
    rw [filterMap_others _ $ho $spec (fun _ => rfl), filterMap_listmap_none _ _ $spec (fun _ => rfl)]
    simp [$spec:ident, bind_none', bind_some_map]))

/-- what `f` finds among the described lines, command by command -/
def Desc.hits {α : Type} (d : Desc) (f : Item → Option α) : List α :=
  (d.descr.bind fun x => f (.descr x)).toList ++ (d.addr.bind fun p => f (.addr p.1 p.2)).toList ++
  (d.addrKw.bind fun x => f (.addrKw x)).toList ++ d.secondaries.filterMap (fun p => f (.secondary p.1 p.2)) ++
  (d.vrf.bind fun x => f (.vrf x)).toList ++ (d.ipVrf.bind fun x => f (.ipVrf x)).toList ++
  (d.mtu.bind fun x => f (.mtu x)).toList ++ (d.ipMtu.bind fun x => f (.ipMtu x)).toList ++
  (d.shutdown.bind fun x => f (.shutdown x)).toList ++ (if d.switchport then (f .switchport).toList else []) ++
  (d.mode.bind fun x => f (.mode x)).toList ++ (d.accessVlan.bind fun x => f (.accessVlan x)).toList ++
  (d.nativeVlan.bind fun x => f (.nativeVlan x)).toList ++ (d.allowed.bind fun x => f (.allowed x)).toList ++
  (d.channelGroup.bind fun c => f (.channelGroup c.1 c.2)).toList

theorem filterMap_items {α : Type} (f : Item → Option α) (ho : ∀ it ∈ others, ∃ ws, it = .other ws)
    (hf : ∀ ws, f (.other ws) = none) : (d.items ++ others).filterMap f = d.hits f := by
  simp only [Desc.items, List.filterMap_append, filterMap_optmap, fm_if, filterMap_others _ ho f hf, List.append_nil]
  rw [List.filterMap_map]
  rfl

/-- value of a `first`-style accessor on a stanza: the pattern is keyed on a word other than `interface`, so the
header is passed over; among the children it finds what `spec` finds among the described items, of which at most
one is a hit -/
theorem first_of_stanza {α : Type} {p : Str → Option α} {spec : Item → Option α} {K : Str → Prop}
    (st : Stanza d others kids) (hh : Header hdr) (hp : ∀ it : Item, it.Valid → p it.render = spec it)
    (hkey : Keyed p K) (hK : ¬ K kInterface) (hf : ∀ ws, spec (.other ws) = none) {o : Option α}
    (h : d.hits spec = o.toList) : first p (flatFam hdr kids).order = o := by
  show (hdr :: kids.map Item.render).findSome? p = o
  rw [List.findSome?_cons, hdr_none hkey hh hK, findSome_render hp kids st.valid]
  exact findSome_perm spec st.perm o ((filterMap_items spec st.unrelated hf).trans h)

theorem hits_addrKw (kw : Str) :
    d.hits (specAddrKw kw) = (d.addrKw.bind (fun k => if k = kw then some k else none)).toList := by
  simp [Desc.hits, specAddrKw]

theorem digitsInt_toDec (n : Nat) : digitsInt (toDec n) = Int.ofNat n := by
  simp [digitsInt, ofDigits_toDec]

theorem description_stanza (st : Stanza d others kids) (hh : Header hdr) :
    description (flatFam hdr kids) = (d.descr.map (join [' '])).getD [] := by
  rw [description, first_of_stanza st hh pDescr_render pDescr_key (by decide +kernel) (fun _ => rfl)
    (o := d.descr.map (join [' '])) (by simp [Desc.hits, specDescr, bind_some_map])]

theorem manualMtu_stanza (st : Stanza d others kids) (hh : Header hdr) :
    manualMtu (flatFam hdr kids) = (d.mtu.map Int.ofNat).getD (-1) := by
  rw [manualMtu, first_of_stanza st hh pMtu_render pMtu_key (by decide +kernel) (fun _ => rfl)
    (o := d.mtu.map toDec) (by simp [Desc.hits, specMtu, bind_some_map])]
  cases d.mtu <;> simp [digitsInt_toDec]

theorem manualIpMtu_stanza (st : Stanza d others kids) (hh : Header hdr) :
    manualIpMtu (flatFam hdr kids) = (d.ipMtu.map Int.ofNat).getD (-1) := by
  rw [manualIpMtu, first_of_stanza st hh pIpMtu_render pIpMtu_key.1 (by decide +kernel) (fun _ => rfl)
    (o := d.ipMtu.map toDec) (by simp [Desc.hits, specIpMtu, bind_some_map])]
  cases d.ipMtu <;> simp [digitsInt_toDec]

theorem isShutdown_stanza (st : Stanza d others kids) (hh : Header hdr) :
    isShutdown (flatFam hdr kids) = d.shutdown.isSome := by
  rw [isShutdown, first_of_stanza st hh pShut_render pShut_key (by decide +kernel) (fun _ => rfl)
    (o := d.shutdown) (by simp [Desc.hits, specShut])]

theorem vrf_stanza (st : Stanza d others kids) (hh : Header hdr) :
    vrf (flatFam hdr kids) = (d.vrf <|> d.ipVrf).getD [] := by
  rw [vrf, first_of_stanza st hh pVrf_render pVrf_key.1 (by decide +kernel) (fun _ => rfl)
    (o := d.vrf <|> d.ipVrf) (by
      simp [Desc.hits, specVrf]
      rcases st.oneVrf with h | h <;> simp [h])]

theorem portchannel_stanza (st : Stanza d others kids) (hh : Header hdr) :
    portchannelNumber (flatFam hdr kids) = (d.channelGroup.map (fun c => Int.ofNat c.1)).getD (-1) ∧
    isInPortchannel (flatFam hdr kids) = d.channelGroup.isSome := by
  rw [portchannelNumber, isInPortchannel,
    first_of_stanza st hh pChan_render pChan_key (by decide +kernel) (fun _ => rfl)
    (o := d.channelGroup.map (fun c => toDec c.1)) (by simp [Desc.hits, specChan, bind_some_map])]
  cases d.channelGroup <;> simp [digitsInt_toDec]

theorem ipv4Netmask_stanza (st : Stanza d others kids) (hh : Header hdr) :
    ipv4Netmask (flatFam hdr kids) = (d.addr.map (·.2)).getD [] := by
  rw [ipv4Netmask, first_of_stanza st hh pMask_render pMask_key (by decide +kernel) (fun _ => rfl)
    (o := d.addr.map (·.2)) (by simp [Desc.hits, specMask, bind_some_map])]

theorem ipv4Addr_stanza (st : Stanza d others kids) (hh : Header hdr) :
    ipv4Addr (flatFam hdr kids) = (d.addr.map (·.1)).getD [] := by
  rw [ipv4Addr,
    first_of_stanza st hh (pAddrKw_render kDhcp) (pAddrKw_key kDhcp).1 (by decide +kernel)
      (fun _ => rfl) (hits_addrKw kDhcp),
    first_of_stanza st hh (pAddrKw_render kNegotiated) (pAddrKw_key kNegotiated).1 (by decide +kernel)
      (fun _ => rfl) (hits_addrKw kNegotiated),
    first_of_stanza st hh pAddr_render pAddr_key (by decide +kernel) (fun _ => rfl)
    (o := d.addr.map (·.1)) (by simp [Desc.hits, specAddr, bind_some_map])]
  rcases st.oneAddr with h | h
  · rw [h]; split
    · rfl
    · split <;> rfl
  · simp only [h]; rfl

theorem ipv4AddrObject_stanza (st : Stanza d others kids) (hh : Header hdr) :
    ipv4AddrObject (flatFam hdr kids) =
      match d.addr with
      | none => .ok none
      | some (a, m) => (match ipv4obj a m with | some r => .ok (some r) | none => .error .ipError) := by
  rw [ipv4AddrObject,
    first_of_stanza st hh pAddrObj_render pAddrObj_key (by decide +kernel) (fun _ => rfl)
    (o := d.addr) (by simp [Desc.hits, specAddrObj, bind_some_map])]
  cases hd : d.addr with
  | none => rfl
  | some am =>
    obtain ⟨a, m⟩ := am
    -- the described address has the shape of a dotted quad, so it is neither keyword
    have hv : (Item.addr a m).Valid :=
      st.valid _ (st.perm.mem_iff.mpr (List.mem_append_left _ (by simp [Desc.items, hd])))
    have hq : isQuadShape a = true := hv.2.2.1
    have h1 : a ≠ kDhcp := by intro e; subst e; revert hq; decide +kernel
    have h2 : a ≠ kNegotiated := by intro e; subst e; revert hq; decide +kernel
    simp only [h1, h2, decide_false, Bool.or_self, Bool.false_eq_true, if_false]
    cases ipv4obj a m <;> rfl

end

/-!
The `switchport …` accessors compare the first words of each child with keywords.  Each test is first turned
into a statement about the item (`isSw_eq`, `take3_mode`, `accessStep`, `nativeStep`): the items whose line does
not start with `switchport` are dismissed by their first word. -/

theorem any_optmap {β : Type} (o : Option β) (K : β → Item) (f : Item → Bool) :
    (o.toList.map K).any f = o.any (fun x => f (K x)) := by
  cases o <;> simp

theorem any_const_false {β : Type} (o : Option β) : o.any (fun _ => false) = false := by
  cases o <;> rfl
theorem any_const_true {β : Type} (o : Option β) : o.any (fun _ => true) = o.isSome := by
  cases o <;> rfl

theorem any_congr_mem {α : Type} {f g : α → Bool} {l : List α} (h : ∀ x ∈ l, f x = g x) : l.any f = l.any g := by
  induction l with
  | nil => rfl
  | cons x xs ih => rw [List.any_cons, List.any_cons, h x (by simp), ih (fun y hy => h y (by simp [hy]))]

theorem take_ne_at {ws l : List Str} {n : Nat} (i : Nat) {x y : Str} (hx : ws[i]? = some x) (hy : l[i]? = some y)
    (hne : x ≠ y) : ¬ ws.take n = l := by
  intro e
  have := congrArg (·[i]?) e
  simp only [List.getElem?_take, hx, hy] at this
  split at this
  · exact hne (Option.some.inj this)
  · cases this

/-- the items whose line starts with `switchport` -/
def isSwItem : Item → Bool
  | .switchport | .mode _ | .accessVlan _ | .nativeVlan _ | .allowed _ => true
  | _ => false

def isSw (it : Item) : Bool := it.words.head? = some kSwitchport

theorem isSw_eq (it : Item) (h : it.Valid) : isSw it = isSwItem it := by
  have hne : ∀ {w ws}, it.words = w :: ws → w ≠ kSwitchport → isSw it = false := fun hw hne => by
    simp [isSw, hw, hne]
  cases it
  case switchport | mode | accessVlan | nativeVlan | allowed => simp [isSw, Item.words, isSwItem]
  case other ws =>
    obtain ⟨w, rest, rfl, hk, _⟩ := h.2
    exact hne rfl fun e => hk (by simp [e, keywords])
  case shutdown w => exact hne rfl (by rcases h with rfl | rfl <;> decide +kernel)
  all_goals exact hne rfl (by decide +kernel)

variable {d : Desc} {others kids : List Item}

theorem any_others (ho : ∀ it ∈ others, ∃ ws, it = .other ws) (f : Item → Bool) (hf : ∀ ws, f (.other ws) = false) :
    others.any f = false := by
  rw [List.any_eq_false]
  intro it hit
  obtain ⟨ws, rfl⟩ := ho it hit
  simp [hf ws]

theorem any_listmap_false {β : Type} (l : List β) (K : β → Item) (f : Item → Bool)
    (h : ∀ x, f (K x) = false) : (l.map K).any f = false := by
  induction l <;> simp_all

theorem items_isSw (ho : ∀ it ∈ others, ∃ ws, it = .other ws) : (d.items ++ others).any isSwItem = d.isSw := by
  have h2 : (d.secondaries.map fun p => Item.secondary p.1 p.2).any isSwItem = false :=
    any_listmap_false _ _ _ fun _ => rfl
  simp only [Desc.items, List.any_append, any_optmap, h2, any_others ho isSwItem fun _ => rfl, isSwItem,
    any_const_false, any_const_true, Desc.isSw]
  cases d.switchport <;> simp [isSwItem]

theorem Item.words_ne_nil (it : Item) (h : it.Valid) : it.words ≠ [] := by
  cases it <;> try exact List.cons_ne_nil _ _
  case other ws => obtain ⟨w, rest, rfl, _⟩ := h.2; exact List.cons_ne_nil _ _

theorem isSwitchportLoop_render (kids : List Item) (hv : ∀ it ∈ kids, it.Valid) :
    isSwitchportLoop (kids.map Item.render) = .ok (kids.any isSw) := by
  induction kids with
  | nil => rfl
  | cons k ks ih =>
    have hk := hv k (by simp)
    rw [List.map_cons, isSwitchportLoop, wordsOf_render k hk, List.any_cons, isSw]
    cases hw : k.words with
    | nil => exact absurd hw (k.words_ne_nil hk)
    | cons w ws =>
      by_cases h : w = kSwitchport
      · simp [h]
      · simp [h, ih (fun it hit => hv it (by simp [hit]))]

/-- `is_switchport`: some child line starts with the word `switchport` -/
theorem isSwitchport_stanza (st : Stanza d others kids) (hdr : Str) :
    isSwitchport (flatFam hdr kids) = .ok d.isSw := by
  show isSwitchportLoop (kids.map Item.render) = _
  rw [isSwitchportLoop_render kids st.valid, any_congr_mem fun it hit => isSw_eq it (st.valid it hit),
    st.perm.any_eq, items_isSw st.unrelated]

def take3 (a b c : Str) (it : Item) : Bool := it.words.take 3 = [a, b, c]

theorem hasWords3_flat (a b c : Str) (hdr : Str) (kids : List Item) (hv : ∀ it ∈ kids, it.Valid) :
    hasWords3 a b c (flatFam hdr kids) = kids.any (take3 a b c) := by
  show (kids.map Item.render).any _ = _
  rw [List.any_map]
  exact any_congr_mem fun it hit => by simp only [Function.comp, wordsOf_render it (hv it hit), take3]

theorem take_ne_of_not_sw {it : Item} (h : it.Valid) (hs : isSwItem it = false) {n : Nat} {l : List Str} :
    ¬ it.words.take (n + 1) = kSwitchport :: l := by
  intro ht
  rw [← isSw_eq it h, isSw] at hs
  cases hw : it.words with
  | nil => rw [hw] at ht; cases ht
  | cons w ws =>
    rw [hw, List.take_succ_cons] at ht
    simp [hw, (List.cons.inj ht).1] at hs

/-- `split()[0:3] == ["switchport", "mode", m]` holds of the line `switchport mode m` only -/
theorem take3_mode (m : Str) (it : Item) (h : it.Valid) : take3 kSwitchport kMode m it = decide (it = .mode m) := by
  have hne : isSwItem it = false → it ≠ .mode m → take3 kSwitchport kMode m it = decide (it = .mode m) :=
    fun hs hm => (decide_eq_false (take_ne_of_not_sw h hs)).trans (decide_eq_false hm).symm
  cases it
  case mode m' => simp [take3, Item.words]
  case switchport => exact (decide_eq_false nofun).symm
  case accessVlan | nativeVlan | allowed =>
    exact (decide_eq_false (take_ne_at 1 rfl rfl (by decide +kernel))).trans (decide_eq_false nofun).symm
  all_goals exact hne rfl nofun

theorem mem_items_mode (ho : ∀ it ∈ others, ∃ ws, it = .other ws) (m : Str) :
    Item.mode m ∈ d.items ++ others ↔ d.mode = some m := by
  have : Item.mode m ∉ others := fun hm => by obtain ⟨ws, e⟩ := ho _ hm; cases e
  simp [Desc.items, this]

theorem hasManualSwitch_stanza (st : Stanza d others kids) (hdr : Str) :
    hasManualSwitchAccess (flatFam hdr kids) = decide (d.mode = some kAccess) ∧
    hasManualSwitchTrunk (flatFam hdr kids) = decide (d.mode = some kTrunk) := by
  have hm : ∀ m, hasWords3 kSwitchport kMode m (flatFam hdr kids) = decide (d.mode = some m) := fun m => by
    rw [hasWords3_flat _ _ _ _ _ st.valid, any_congr_mem fun it hit => take3_mode m it (st.valid it hit),
      Bool.eq_iff_iff]
    simp only [List.any_eq_true, decide_eq_true_eq, exists_eq_right, st.perm.mem_iff,
      mem_items_mode st.unrelated]
  exact ⟨hm kAccess, hm kTrunk⟩

def specAccess : Item → Option Int
  | .accessVlan n => some (Int.ofNat n)
  | _ => none
def specNative : Item → Option Int
  | .nativeVlan n => some (Int.ofNat n)
  | _ => none

theorem intWord_toDec (n : Nat) : intWord (toDec n) = .ok (Int.ofNat n) := by
  simp [intWord, pyInt_toDec]

theorem accessStep (it : Item) (h : it.Valid) (rest : Except Err Int) :
    (if it.words.take 3 = [kSwitchport, kAccess, kVlan] then
      (match it.words[3]? with | some w => intWord w | none => .error .indexError) else rest) =
    (match specAccess it with | some v => .ok v | none => rest) := by
  cases it
  case accessVlan n => simp [Item.words, specAccess, intWord_toDec]
  case switchport => rfl
  case mode | nativeVlan | allowed => exact if_neg (take_ne_at 1 rfl rfl (by decide +kernel))
  all_goals exact if_neg (take_ne_of_not_sw h rfl)

theorem nativeStep (it : Item) (h : it.Valid) (rest : Except Err Int) :
    (if (it.words.length = 5 && it.words.take 4 = [kSwitchport, kTrunk, kNative, kVlan]) = true then
      (match it.words[4]? with | some w => intWord w | none => .error .indexError) else rest) =
    (match specNative it with | some v => .ok v | none => rest) := by
  have hne : ∀ {c : Bool}, ¬ it.words.take 4 = [kSwitchport, kTrunk, kNative, kVlan] →
      ¬ (c && it.words.take 4 = [kSwitchport, kTrunk, kNative, kVlan]) = true := fun hn e => by simp [hn] at e
  cases it
  case nativeVlan n => simp [Item.words, specNative, intWord_toDec]
  case switchport => rfl
  case mode | accessVlan => exact if_neg (hne (take_ne_at 1 rfl rfl (by decide +kernel)))
  case allowed => exact if_neg (hne (take_ne_at 2 rfl rfl (by decide +kernel)))
  all_goals exact if_neg (hne (take_ne_of_not_sw h rfl))

theorem vlanLoop_stanza {L : Int → List Str → Except Err Int} {spec : Item → Option Int}
    (hnil : ∀ dflt, L dflt [] = .ok dflt)
    (hcons : ∀ dflt (it : Item), it.Valid → ∀ ks,
      L dflt (it.render :: ks) = match spec it with | some v => .ok v | none => L dflt ks)
    (st : Stanza d others kids) (hf : ∀ ws, spec (.other ws) = none) {o : Option Int}
    (ho : d.hits spec = o.toList) (dflt : Int) : L dflt (kids.map Item.render) = .ok (o.getD dflt) := by
  rw [← findSome_perm spec st.perm o ((filterMap_items spec st.unrelated hf).trans ho)]
  have hv := st.valid
  clear st
  induction kids with
  | nil => exact hnil dflt
  | cons k ks ih =>
    rw [List.map_cons, hcons dflt k (hv k (by simp)), List.findSome?_cons]
    cases spec k with
    | some v => rfl
    | none => exact ih fun it hit => hv it (by simp [hit])

theorem accessVlan_stanza (st : Stanza d others kids) (hdr : Str) :
    accessVlan (flatFam hdr kids) = .ok ((d.accessVlan.map Int.ofNat).getD (if d.isSw then 1 else -1)) := by
  have hi : d.hits specAccess = (d.accessVlan.map Int.ofNat).toList := by
    simp [Desc.hits, specAccess, bind_some_map, filterMap_fun_none]
    rfl
  rw [accessVlan, isSwitchport_stanza st hdr]
  exact vlanLoop_stanza (fun _ => rfl)
    (fun _ it h _ => by rw [accessVlanLoop, wordsOf_render it h]; exact accessStep it h _) st (fun _ => rfl) hi _

theorem nativeVlan_stanza (st : Stanza d others kids) (hdr : Str) :
    nativeVlan (flatFam hdr kids) = .ok ((d.nativeVlan.map Int.ofNat).getD (if d.isSw then 1 else -1)) := by
  have hi : d.hits specNative = (d.nativeVlan.map Int.ofNat).toList := by
    simp [Desc.hits, specNative, bind_some_map, filterMap_fun_none]
    rfl
  rw [nativeVlan, isSwitchport_stanza st hdr]
  exact vlanLoop_stanza (fun _ => rfl)
    (fun _ it h _ => by rw [nativeVlanLoop, wordsOf_render it h]; exact nativeStep it h _) st (fun _ => rfl) hi _

/-! ## the grammar of a static route (the round trip is in `Ccp.Proofs.IosRoute`) -/

/-- a word accepted by `[^\d]\S+`: at least two characters, the first no digit -/
def IntfWord (i : Str) : Prop := Word i ∧ ∃ c c2 r, i = c :: c2 :: r ∧ isDigit c = false
/-- a whole-word dotted quad (`\d+\.\d+\.\d+\.\d+`) -/
def QuadWord (q : Str) : Prop :=
  Word q ∧ quadPrefix q = some (q, true) ∧ ∃ c c2 r, q = c :: c2 :: r ∧ isDigit c = true

structure RouteDesc where
  vrf : Option Str
  pfx : Str
  mask : Str
  intf : Option Str
  nh : Option Str
  glob : Bool
  ad : Option Nat
  name : Option Str
  permanent : Bool
  track : Option Nat
  tag : Option Nat

def optWords (kw : Str) (o : Option Str) : List Str :=
  match o with | some v => [kw, v] | none => []

def RouteDesc.words (d : RouteDesc) : List Str :=
  [kIp, kRoute] ++ optWords kVrf d.vrf ++ [d.pfx, d.mask] ++ d.intf.toList ++ d.nh.toList ++
  (if d.glob then [kGlobal] else []) ++ (d.ad.map toDec).toList ++ optWords kName d.name ++
  (if d.permanent then [kPermanent] else []) ++ optWords kTrack (d.track.map toDec) ++
  optWords kTag (d.tag.map toDec)

def RouteDesc.Valid (d : RouteDesc) : Prop :=
  (∀ v, d.vrf = some v → Word v) ∧ Word d.pfx ∧ isQuadShape d.pfx = true ∧ QuadWord d.mask ∧
  (∀ i, d.intf = some i → IntfWord i) ∧ (∀ h, d.nh = some h → QuadWord h) ∧
  (∀ n, d.name = some n → Word n) ∧ (d.permanent = false ∨ d.track = none)

def RouteDesc.expected (d : RouteDesc) : Route :=
  { vrf := d.vrf, prefix_ := d.pfx, netmask := d.mask, nhIntf := d.intf, nhAddr := d.nh, dhcp := none,
    glob := if d.glob then some kGlobal else none, ad := d.ad.map toDec, mcast := none, name := d.name,
    perm := if d.permanent then some kPermanent else none, track := d.track.map toDec, tag := d.tag.map toDec }

def secSpec (it : Item) : Option (Str × Nat) :=
  match specSecondary it with
  | some (a, m) => ipv4obj a m
  | none => none

theorem secondaries_flat (hdr : Str) (kids : List Item) (hv : ∀ it ∈ kids, it.Valid)
    (hok : ∀ it ∈ kids, ∀ p, specSecondary it = some p → (ipv4obj p.1 p.2).isSome = true) :
    secondaries (flatFam hdr kids) = .ok (kids.filterMap secSpec) := by
  show List.foldr _ _ (kids.map (fun k => [k.render])) = _
  induction kids with
  | nil => rfl
  | cons k ks ih =>
    rw [List.map_cons, List.foldr_cons, ih (fun it hit => hv it (by simp [hit])) (fun it hit => hok it (by simp [hit]))]
    have hf : first pSecondary [k.render] = specSecondary k := by
      rw [first, List.findSome?_cons, pSecondary_render k (hv k (by simp))]
      cases specSecondary k <;> rfl
    rw [hf]
    cases hs : specSecondary k with
    | none => rw [List.filterMap_cons_none (by rw [secSpec, hs])]
    | some p =>
      obtain ⟨r, hr⟩ := Option.isSome_iff_exists.1 (hok k (by simp) p hs)
      rw [List.filterMap_cons_some (b := r) (by rw [secSpec, hs]; exact hr)]
      simp only [hr]

theorem items_secSpec (ho : ∀ it ∈ others, ∃ ws, it = .other ws) :
    (d.items ++ others).filterMap secSpec = d.secondaries.filterMap (fun p => ipv4obj p.1 p.2) := by
  rw [filterMap_items secSpec ho fun _ => rfl]
  simp [Desc.hits, secSpec, specSecondary]

theorem items_secondary (ho : ∀ it ∈ others, ∃ ws, it = .other ws) :
    (d.items ++ others).filterMap specSecondary = d.secondaries := by
  rw [filterMap_items specSecondary ho fun _ => rfl]
  simp [Desc.hits, specSecondary]

end Ccp.Ios
