import Ccp.Model.IPText
/-!
The loop of `_compress_hextets` (`runLoop`) on an arbitrary list of flags: it ends with the leftmost longest
run of set flags as `best` (`runLoop_inv`).  The invariant after `i` flags: `cur` is the run that ends at `i`
(`CurRun`), `best` the leftmost longest run that ends at or before `i` (`BestRun`).
-/
namespace Ccp.IPText

theorem runStep_false (st : Run) (i : Nat) : runStep st i false = { st with curStart := none, curLen := 0 } := rfl

theorem runStep_true (st : Run) (i : Nat) :
    runStep st i true =
      if st.curLen + 1 > st.bestLen then ⟨some (st.curStart.getD i), st.curLen + 1, some (st.curStart.getD i), st.curLen + 1⟩
      else { st with curStart := some (st.curStart.getD i), curLen := st.curLen + 1 } := by
  cases h : st.curStart <;> simp [runStep, h]

def AllSet (zs : List Bool) (s k : Nat) : Prop := ∀ j, s ≤ j → j < s + k → zs.getD j false = true

theorem AllSet.mono {zs : List Bool} {s k s' k' : Nat} (h : AllSet zs s k) (hs : s ≤ s') (hk : s' + k' ≤ s + k) :
    AllSet zs s' k' := fun j h1 h2 => h j (by omega) (by omega)

theorem AllSet.eq_append {zs : List Bool} {s k : Nat} (h : AllSet zs s k) (hle : s + k ≤ zs.length) :
    zs = zs.take s ++ List.replicate k true ++ zs.drop (s + k) := by
  have hmid : (zs.drop s).take k = List.replicate k true := by
    apply List.ext_getElem
    · simp; omega
    · intro j h1 h2
      have := h (s + j) (by omega) (by simp at h2; omega)
      rw [List.getD_eq_getElem?_getD, List.getElem?_eq_getElem (by simp at h1; omega)] at this
      simpa using this
  rw [← hmid, List.append_assoc, ← List.drop_drop, List.take_append_drop, List.take_append_drop]

/-- `(start, len)` is the run of set flags that ends at `i` (`start` is `none` when it is empty) -/
structure CurRun (zs : List Bool) (i : Nat) (start : Option Nat) (len : Nat) : Prop where
  le : len ≤ i
  set : AllSet zs (i - len) len
  max : ∀ s k, s + k = i → AllSet zs s k → k ≤ len
  start : start = if len = 0 then none else some (i - len)

/-- `(start, len)` is the leftmost among the longest runs of set flags that end at or before `i` -/
structure BestRun (zs : List Bool) (i : Nat) (start : Option Nat) (len : Nat) : Prop where
  set : len = 0 ∨ ∃ b, start = some b ∧ b + len ≤ i ∧ AllSet zs b len
  max : ∀ s k, 1 ≤ k → s + k ≤ i → AllSet zs s k → ∃ b, start = some b ∧ (k < len ∨ (k = len ∧ b ≤ s))

theorem CurRun.clear {zs : List Bool} {i : Nat} (hz : zs.getD i false = false) : CurRun zs (i + 1) none 0 where
  le := Nat.zero_le _
  set := fun j h1 h2 => by omega
  max := fun s k e hr => by
    rcases Nat.eq_zero_or_pos k with h0 | h0
    · omega
    · have := hr i (by omega) (by omega); rw [hz] at this; cases this
  start := rfl

theorem CurRun.extend {zs : List Bool} {i len : Nat} {start : Option Nat} (h : CurRun zs i start len)
    (hz : zs.getD i false = true) : CurRun zs (i + 1) (some (start.getD i)) (len + 1) where
  le := Nat.succ_le_succ h.le
  set := fun j h1 h2 => by
    have := h.le
    rcases Nat.lt_or_ge j i with h3 | h3
    · exact h.set j (by omega) (by omega)
    · rw [show j = i by omega]; exact hz
  max := fun s k e hr => by
    rcases Nat.eq_zero_or_pos k with h0 | h0
    · omega
    · have := h.max s (k - 1) (by omega) (hr.mono (Nat.le_refl s) (by omega)); omega
  start := by
    rw [h.start, if_neg (Nat.succ_ne_zero len), Nat.add_sub_add_right]
    split
    · next h0 => rw [h0]; rfl
    · rfl

/-- `best` stays when no longer run ends at `i + 1`: an equally long one that ends there starts further right -/
theorem BestRun.keep {zs : List Bool} {i len : Nat} {start : Option Nat} (h : BestRun zs i start len)
    (hend : ∀ s k, s + k = i + 1 → AllSet zs s k → k ≤ len) : BestRun zs (i + 1) start len where
  set := h.set.imp id fun ⟨b, h1, h2, h3⟩ => ⟨b, h1, Nat.le_succ_of_le h2, h3⟩
  max := fun s k h1 h2 hr => by
    rcases Nat.lt_or_ge i (s + k) with h3 | h3
    · have := hend s k (by omega) hr
      rcases h.set with h0 | ⟨b, hb1, hb2, _⟩
      · omega
      · exact ⟨b, hb1, by omega⟩
    · exact h.max s k h1 h3 hr

theorem BestRun.take {zs : List Bool} {i len c : Nat} {start : Option Nat} (h : BestRun zs i start len)
    (hc : c + (len + 1) = i + 1) (hset : AllSet zs c (len + 1))
    (hend : ∀ s k, s + k = i + 1 → AllSet zs s k → k ≤ len + 1) : BestRun zs (i + 1) (some c) (len + 1) where
  set := Or.inr ⟨c, rfl, Nat.le_of_eq hc, hset⟩
  max := fun s k h1 h2 hr => by
    refine ⟨c, rfl, ?_⟩
    rcases Nat.lt_or_ge i (s + k) with h3 | h3
    · have := hend s k (by omega) hr; omega
    · obtain ⟨b, _, h4⟩ := h.max s k h1 h3 hr; omega

/-- the state of `runLoop` after `i` flags of `zs` -/
structure RunInv (zs : List Bool) (i : Nat) (st : Run) : Prop where
  len : i ≤ zs.length
  cur : CurRun zs i st.curStart st.curLen
  best : BestRun zs i st.bestStart st.bestLen
  le : st.curLen ≤ st.bestLen

theorem RunInv.init (zs : List Bool) : RunInv zs 0 {} where
  len := Nat.zero_le _
  cur := ⟨Nat.le_refl 0, fun j h1 h2 => absurd h2 (Nat.not_lt.mpr h1), fun s k h _ => Nat.le_of_eq (Nat.eq_zero_of_add_eq_zero_left h), rfl⟩
  best := ⟨Or.inl rfl, fun s k h1 h2 _ => by omega⟩
  le := Nat.le_refl 0

theorem RunInv.step {zs : List Bool} {i : Nat} {st : Run} (h : RunInv zs i st) (hi : i < zs.length) (z : Bool)
    (hz : zs.getD i false = z) : RunInv zs (i + 1) (runStep st i z) := by
  cases z with
  | false =>
    have hc := CurRun.clear hz
    exact ⟨hi, hc, h.best.keep fun s k e hr => Nat.le_trans (hc.max s k e hr) (Nat.zero_le _), Nat.zero_le _⟩
  | true =>
    have hc := h.cur.extend hz
    rw [runStep_true]
    split
    · next hgt =>
      have e : st.curLen = st.bestLen := Nat.le_antisymm h.le (Nat.le_of_lt_succ hgt)
      have hs : st.curStart.getD i = i - st.curLen := by
        have := hc.start; rw [if_neg (Nat.succ_ne_zero _), Nat.add_sub_add_right] at this; exact Option.some.inj this
      have hle := h.cur.le
      refine ⟨hi, hc, ?_, Nat.le_refl _⟩
      show BestRun zs (i + 1) (some (st.curStart.getD i)) (st.curLen + 1)
      rw [e] at hc hs hle ⊢
      exact h.best.take (by omega) (by have := hc.set; rwa [Nat.add_sub_add_right, ← hs] at this) hc.max
    · next hle =>
      exact ⟨hi, hc, h.best.keep fun s k e hr => Nat.le_trans (hc.max s k e hr) (Nat.le_of_not_gt hle), Nat.le_of_not_gt hle⟩

theorem RunInv.loop {all : List Bool} : ∀ (zs : List Bool) (i : Nat) (st : Run), all.drop i = zs → RunInv all i st →
    RunInv all all.length (runLoop st i zs)
  | [], i, st, hd, h => by
    have := List.drop_eq_nil_iff.mp hd
    rw [show all.length = i by have := h.len; omega]; exact h
  | z :: zs, i, st, hd, h => by
    have hz : all.getD i false = z := by
      rw [List.getD_eq_getElem?_getD, ← List.head?_drop, hd]; rfl
    have hd' : all.drop (i + 1) = zs := by rw [← List.drop_drop, hd]; rfl
    have hi : i < all.length := by
      rcases Nat.lt_or_ge i all.length with h | h
      · exact h
      · rw [List.drop_eq_nil_of_le h] at hd; cases hd
    exact RunInv.loop zs (i + 1) _ hd' (h.step hi z hz)

theorem runLoop_inv (zs : List Bool) : RunInv zs zs.length (runLoop {} 0 zs) :=
  RunInv.loop zs 0 {} rfl (RunInv.init zs)

theorem runLoop_block (zs : List Bool) (h : 1 ≤ (runLoop {} 0 zs).bestLen) :
    ∃ a c, zs = a ++ List.replicate (runLoop {} 0 zs).bestLen true ++ c ∧ (runLoop {} 0 zs).bestStart = some a.length := by
  rcases (runLoop_inv zs).best.set with h0 | ⟨b, hb, hle, hset⟩
  · omega
  · refine ⟨zs.take b, zs.drop (b + (runLoop {} 0 zs).bestLen), hset.eq_append hle, ?_⟩
    rw [hb, List.length_take, Nat.min_eq_left (by omega)]

end Ccp.IPText
