import Ccp.Proofs.TypedX
import Ccp.Proofs.Py
import Ccp.Proofs.ExceptEq
/-!
The configs of the examples of `Ccp.Props.C05`, their oracles, and their parsed trees evaluated once.

Any `parse` costs the kernel over a million heartbeats, whatever the size of the config (the banner and macro tests
compare against string literals, and the kernel decodes a literal character by character).  The examples therefore
rewrite with the equations below (`exC_eq`, …) and `Ccp.Py.toList_lit` before they evaluate:
`simp only [exC_eq, exTree, exLines, toList_lit]; decide +kernel`.
-/
namespace Ccp.C05
open Ccp.Typed Ccp.TypedX Ccp.Tree Ccp.Py

def exCfg : Cfg := { ios := true, delims := ['!'], ignoreBlank := false }

def exLines : List Str :=
  ["interface A".toList, " description x".toList, "  mtu 1500".toList, " mtu 9000".toList,
   "interface B".toList, "mtu 7".toList]

/-- oracle of `re.search(r"mtu (\d+)", text).group(1)` on the texts above -/
def exG (s : Str) : GroupRes :=
  match lstrip s with
  | 'm' :: 't' :: 'u' :: ' ' :: r => .val r
  | _ => .noMatch

def exC : Ctx := { g := exG, ip := fun _ => .error (.ext []), t := parse exCfg exLines }

/-- `mtu (?P<m>\d+)` with `groupdict={"m": int}` -/
def exD : DCtx :=
  { gd := fun s => match exG s with | .val r => some [.val r] | _ => none,
    ip := fun _ => .error (.ext []), keys := [some .int], t := parse exCfg exLines }

/-- parse, then `ConfigList.insert(1, " mtu 7")` with auto_commit off: stale -/
def exS : Edit.S := (Edit.step (Edit.init exCfg false 1 exLines) (.insert 1 " mtu 7".toList)).1

/-- a config in which no line has an `mtu`, `IPv4Obj` refusing everything -/
def exX : CtxX :=
  { g := fun _ => .noMatch, ipx := fun _ => .error (.ext "AddressValueError".toList),
    t := parse { ios := true, delims := ['!'], ignoreBlank := false } ["interface Serial1/0".toList, " description uplink".toList] }

/-- `parse exCfg exLines`: line 2 is a grandchild of line 0, lines 4 and 5 are roots -/
def exTree : T := { texts := exLines, parents := [0, 0, 1, 0, 4, 5], keep := List.replicate 6 false }

theorem parse_exLines : parse exCfg exLines = exTree := by
  simp only [exTree, exLines, toList_lit]; decide +kernel

theorem exC_eq : exC = ⟨exG, fun _ => .error (.ext []), exTree⟩ := by rw [exC, parse_exLines]

theorem exD_eq : exD = { exD with t := exTree } := by rw [exD, parse_exLines]

theorem exS_eq : exS =
    { cfg := exCfg, auto := false, width := 1, tree := exTree, stale := true, dirty := true,
      items := Edit.pyInsert (Edit.committedItems exTree) 1 (Edit.fresh " mtu 7".toList) } := by
  rw [exS, Edit.init, parse_exLines]; rfl

/-- the tree of `exS` after `commit`: the inserted line is line 1, a child of line 0 -/
def exTree' : T :=
  { texts := exLines.take 1 ++ " mtu 7".toList :: exLines.drop 1, parents := [0, 0, 0, 2, 0, 5, 6],
    keep := List.replicate 7 false }

theorem exS_commit : (Edit.step exS .commit).1 =
    { cfg := exCfg, auto := false, width := 1, tree := exTree', stale := false, dirty := false,
      items := Edit.committedItems exTree' } := by
  rw [exS_eq]
  show Edit.commit _ = _
  rw [Edit.commit, show bootstrap exCfg (Edit.S.texts _) = exTree' by
    simp only [exTree, exTree', exLines, toList_lit]; decide +kernel]

def exXTree : T :=
  { texts := ["interface Serial1/0".toList, " description uplink".toList], parents := [0, 0], keep := [false, false] }

theorem exX_eq : exX = ⟨fun _ => .noMatch, fun _ => .error (.ext "AddressValueError".toList), exXTree⟩ := by
  rw [exX, show parse _ _ = exXTree by simp only [exXTree, toList_lit]; decide +kernel]

end Ccp.C05
