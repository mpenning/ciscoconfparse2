import Ccp.Proofs.IPText
import Ccp.Spec.IP
/-!
C11: the stdlib IPv6 parser model, the regex and the constructor against the RFC 4291 spelling grammar
(`Ccp.Spec.IP.IsV6Spelling`).  A text is handled through its colon-separated parts: eight group texts, or
`gapParts hi lo` for `hi::lo`; a dotted quad in the last place is what `Expanded` rewrites to two groups.
-/
namespace Ccp.IPText
open Ccp.Py Ccp.Spec

theorem hexDigitVal_eq (c : Char) :
    IP.hexDigitVal c = (if isHexDigit c then some (hexVal c) else none) ∧ (isHexDigit c = true → hexVal c < 16) := by
  unfold isHexDigit isDigit IP.hexDigitVal hexVal isDigit
  generalize c.toNat = n
  by_cases h1 : 48 ≤ n ∧ n ≤ 57
  · simp [h1]; omega
  · by_cases h2 : 97 ≤ n ∧ n ≤ 102
    · simp [h1, h2]; omega
    · by_cases h3 : 65 ≤ n ∧ n ≤ 70
      · have h4 : ¬ 97 ≤ n := by omega
        simp [h1, h3, h4]; omega
      · simp [h1, h2, h3]

theorem ofHexAux_eq (s : Str) (acc : Nat) : ofHexAux s acc = IP.hexNumFrom acc s := by
  induction s generalizing acc with
  | nil => rfl
  | cons c cs ih =>
    unfold ofHexAux IP.hexNumFrom
    rw [(hexDigitVal_eq c).1]
    split
    · exact ih _
    · rfl

theorem hexNumFrom_all (s : Str) (acc g : Nat) (h : IP.hexNumFrom acc s = some g) :
    (∀ c ∈ s, isHexDigit c = true) ∧ g < (acc + 1) * 16 ^ s.length := by
  induction s generalizing acc with
  | nil => simp [IP.hexNumFrom] at h; subst h; simp
  | cons c cs ih =>
    unfold IP.hexNumFrom at h
    cases hc : isHexDigit c with
    | false => rw [(hexDigitVal_eq c).1, hc] at h; cases h
    | true =>
      have hv := (hexDigitVal_eq c).2 hc
      rw [(hexDigitVal_eq c).1, hc] at h
      have := ih _ h
      refine ⟨?_, ?_⟩
      · intro x hx
        rcases List.mem_cons.mp hx with rfl | hx
        · exact hc
        · exact this.1 x hx
      · have h2 := this.2
        rw [List.length_cons, Nat.pow_succ]
        calc g < (acc * 16 + hexVal c + 1) * 16 ^ cs.length := h2
          _ ≤ ((acc + 1) * 16) * 16 ^ cs.length := Nat.mul_le_mul_right _ (by omega)
          _ = (acc + 1) * (16 ^ cs.length * 16) := by rw [Nat.mul_assoc, Nat.mul_comm 16]

theorem parseHextet_iff (s : Str) (g : Nat) : parseHextet s = some g ↔ IP.IsHextet s g := by
  unfold parseHextet IP.IsHextet ofHex
  constructor
  · intro h
    split at h
    · cases h
    · split at h
      · cases h
      · rename_i hlen
        split at h
        · cases h
        · rename_i hne
          rw [ofHexAux_eq] at h
          refine ⟨?_, by omega, h⟩
          cases s with
          | nil => exact absurd rfl hne
          | cons c cs => simp
  · rintro ⟨h1, h2, h3⟩
    have hall := (hexNumFrom_all s 0 g h3).1
    have : s.all isHexDigit = true := List.all_eq_true.mpr hall
    have hne : s ≠ [] := by intro e; rw [e] at h1; simp at h1
    have hl : ¬ s.length > 4 := by omega
    simp only [this, Bool.not_true, Bool.false_eq_true, if_false, hl, hne, ofHexAux_eq, h3]

theorem isHextet_lt (s : Str) (g : Nat) (h : IP.IsHextet s g) : g < 65536 := by
  have := (hexNumFrom_all s 0 g h.2.2).2
  have hp : 16 ^ s.length ≤ 16 ^ 4 := Nat.pow_le_pow_right (by omega) h.2.1
  omega

theorem isHextet_chars (s : Str) (g : Nat) (h : IP.IsHextet s g) : isH s = true ∧ ∀ c ∈ s, isHexDigit c = true := by
  have hall := (hexNumFrom_all s 0 g h.2.2).1
  refine ⟨?_, hall⟩
  unfold isH
  rw [List.all_eq_true.mpr hall]; simp [h.1, h.2.1]

theorem isHextet_toHex (k : Nat) (hk : k < 65536) : IP.IsHextet (toHex k) k :=
  (parseHextet_iff _ _).mp (parseHextet_toHex k hk)

theorem isHextet_toHex_eq (k g : Nat) (hk : k < 65536) (h : IP.IsHextet (toHex k) g) : g = k := by
  have := (parseHextet_iff _ _).mpr h
  rw [parseHextet_toHex k hk] at this
  exact (Option.some.inj this).symm

theorem hextets_induction {motive : List Str → List Nat → Prop} (nil : motive [] [])
    (cons : ∀ f fs g gs, IP.IsHextet f g → IP.Hextets fs gs → motive fs gs → motive (f :: fs) (g :: gs)) :
    ∀ {fs gs}, IP.Hextets fs gs → motive fs gs
  | [], [], _ => nil
  | f :: fs, g :: gs, h => cons f fs g gs h.1 h.2 (hextets_induction nil cons h.2)
  | [], _ :: _, h => h.elim
  | _ :: _, [], h => h.elim

theorem hextets_length (fs : List Str) (gs : List Nat) (h : IP.Hextets fs gs) : fs.length = gs.length :=
  hextets_induction (motive := fun fs gs => fs.length = gs.length) rfl (fun _ _ _ _ _ _ ih => congrArg Nat.succ ih) h

theorem hextets_mem (fs : List Str) (gs : List Nat) (h : IP.Hextets fs gs) :
    (∀ p ∈ fs, ∃ g, IP.IsHextet p g) ∧ ∀ g ∈ gs, ∃ p, IP.IsHextet p g := by
  refine hextets_induction (motive := fun fs gs => (∀ p ∈ fs, ∃ g, IP.IsHextet p g) ∧ ∀ g ∈ gs, ∃ p, IP.IsHextet p g)
    ⟨by simp, by simp⟩ (fun f fs g gs h1 _ ih => ⟨?_, ?_⟩) h
  · intro p hp
    rcases List.mem_cons.mp hp with rfl | hp
    · exact ⟨g, h1⟩
    · exact ih.1 p hp
  · intro x hx
    rcases List.mem_cons.mp hx with rfl | hx
    · exact ⟨f, h1⟩
    · exact ih.2 x hx

theorem hextets_ne_nil (fs : List Str) (gs : List Nat) (h : IP.Hextets fs gs) : ∀ p ∈ fs, p ≠ [] := fun p hp =>
  let ⟨_, hg⟩ := (hextets_mem fs gs h).1 p hp; fun e => by rw [e] at hg; exact absurd hg.1 (by decide)

theorem hextets_val_lt (fs : List Str) (gs : List Nat) (h : IP.Hextets fs gs) : ∀ g ∈ gs, g < 65536 := fun g hg =>
  let ⟨p, hp⟩ := (hextets_mem fs gs h).2 g hg; isHextet_lt p g hp

theorem hextets_chars (fs : List Str) (gs : List Nat) (h : IP.Hextets fs gs) :
    ∀ p ∈ fs, isH p = true ∧ ∀ c ∈ p, isHexDigit c = true :=
  fun p hp => let ⟨g, hg⟩ := (hextets_mem fs gs h).1 p hp; isHextet_chars p g hg

theorem hextets_append (a b : List Str) (g1 g2 : List Nat) (h1 : IP.Hextets a g1) (h2 : IP.Hextets b g2) :
    IP.Hextets (a ++ b) (g1 ++ g2) :=
  hextets_induction (motive := fun a g1 => IP.Hextets (a ++ b) (g1 ++ g2)) h2 (fun _ _ _ _ hf _ ih => ⟨hf, ih⟩) h1

theorem hextets_append_inv (a b : List Str) (gs : List Nat) (h : IP.Hextets (a ++ b) gs) :
    ∃ g1 g2, gs = g1 ++ g2 ∧ IP.Hextets a g1 ∧ IP.Hextets b g2 := by
  induction a generalizing gs with
  | nil => exact ⟨[], gs, rfl, trivial, h⟩
  | cons x xs ih =>
    match gs, h with
    | g :: gs, h =>
      obtain ⟨g1, g2, rfl, h1, h2⟩ := ih gs h.2
      exact ⟨g :: g1, g2, rfl, ⟨h.1, h1⟩, h2⟩

theorem accHextets_iff (fs : List Str) (acc r : Nat) :
    accHextets acc fs = some r ↔ ∃ gs, IP.Hextets fs gs ∧ r = gs.foldl (fun a g => a * 65536 + g) acc := by
  induction fs generalizing acc with
  | nil =>
    constructor
    · intro h; cases h; exact ⟨[], trivial, rfl⟩
    · rintro ⟨gs, hg, rfl⟩
      match gs, hg with
      | [], _ => rfl
  | cons f fs ih =>
    unfold accHextets
    constructor
    · intro h
      cases hp : parseHextet f with
      | none => rw [hp] at h; cases h
      | some g =>
        rw [hp] at h
        have hg := (parseHextet_iff f g).mp hp
        simp only at h
        rw [shl_or acc g (isHextet_lt f g hg)] at h
        obtain ⟨gs, h1, h2⟩ := (ih _).mp h
        exact ⟨g :: gs, ⟨hg, h1⟩, h2⟩
    · rintro ⟨gs, hg, rfl⟩
      match gs, hg with
      | g :: gs, ⟨hg1, hg2⟩ =>
        rw [(parseHextet_iff f g).mpr hg1]
        simp only
        rw [shl_or acc g (isHextet_lt f g hg1)]
        exact (ih _).mpr ⟨gs, hg2, rfl⟩

theorem groupsVal_lt (gs : List Nat) (h : ∀ g ∈ gs, g < 65536) (h8 : gs.length = 8) : IP.groupsVal gs < 2 ^ 128 := by
  have := ofGroups_lt gs h
  rwa [h8] at this

theorem hextets_bind (hi lo : List Str) (k n : Nat) :
    ((accHextets 0 hi).bind fun a => accHextets (a <<< (16 * k)) lo) = some n ↔
      ∃ ghi glo, IP.Hextets hi ghi ∧ IP.Hextets lo glo ∧ n = IP.groupsVal (ghi ++ List.replicate k 0 ++ glo) := by
  have e : ∀ ghi glo : List Nat, glo.foldl (fun a g => a * 65536 + g) (ghi.foldl (fun a g => a * 65536 + g) 0 * 65536 ^ k) =
      IP.groupsVal (ghi ++ List.replicate k 0 ++ glo) := fun ghi glo => by
    show _ = ofGroups 65536 _
    rw [foldl_groups, ofGroups_append, ofGroups_append, ofGroups_replicate_zero, List.length_replicate]; rfl
  simp only [Option.bind_eq_some_iff, accHextets_iff, shl16]
  constructor
  · rintro ⟨a, ⟨ghi, h1, rfl⟩, glo, h2, rfl⟩; exact ⟨ghi, glo, h1, h2, e ghi glo⟩
  · rintro ⟨ghi, glo, h1, h2, rfl⟩; exact ⟨_, ⟨ghi, h1, rfl⟩, glo, h2, (e ghi glo).symm⟩

theorem snoc_cases (l : List Str) : l = [] ∨ ∃ L b, l = L ++ [b] := by
  rcases List.eq_nil_or_concat l with h | ⟨L, b, h⟩
  · exact Or.inl h
  · exact Or.inr ⟨L, b, by rw [h, List.concat_eq_append]⟩

theorem eq_of_inner (P X : List Str) (h : (P.drop 1).dropLast = X) (hX : X ≠ []) : ∃ f l, P = f :: (X ++ [l]) := by
  cases P with
  | nil => subst h; exact absurd rfl hX
  | cons f rest =>
    have hrest : rest ≠ [] := by rintro rfl; subst h; exact hX rfl
    exact ⟨f, rest.getLast hrest, by rw [← h, List.drop_one, List.tail_cons, List.dropLast_concat_getLast hrest]⟩

/-- a non-empty last part after the gap belongs to what follows the gap -/
theorem gap_snoc_inv (X lo D : List Str) (y : Str) (hy : y ≠ []) (h : X ++ [] :: lo = D ++ [y]) :
    ∃ L, lo = L ++ [y] ∧ D = X ++ [] :: L := by
  rcases snoc_cases lo with rfl | ⟨L, z, rfl⟩
  · exact absurd (List.append_inj' (t₁ := [[]]) h rfl).2 (fun e => hy (List.cons.inj e).1.symm)
  · have h' : (X ++ [] :: L) ++ [z] = D ++ [y] := by rw [← h]; simp
    obtain ⟨hD, hz⟩ := List.append_inj' h' rfl
    exact ⟨L, by rw [(List.cons.inj hz).1], hD.symm⟩

theorem join_head_ne (ws : List Str) (hne : ws ≠ []) (hw : ∀ p ∈ ws, p ≠ [] ∧ ∀ c ∈ p, c ≠ ':') :
    ∃ c t, join [':'] ws = c :: t ∧ c ≠ ':' := by
  match ws, hne, hw with
  | [] :: _, _, hw => exact absurd rfl (hw [] (by simp)).1
  | [c :: t], _, hw => exact ⟨c, t, rfl, (hw (c :: t) (by simp)).2 c (by simp)⟩
  | (c :: t) :: y :: ys, _, hw => exact ⟨c, _, rfl, (hw (c :: t) (by simp)).2 c (by simp)⟩

theorem emptyIdx_nil_iff (i : Nat) (l : List Str) : emptyIdx i l = [] ↔ ∀ p ∈ l, p ≠ [] := by
  induction l generalizing i with
  | nil => simp [emptyIdx]
  | cons p ps ih =>
    unfold emptyIdx
    by_cases hp : p = []
    · simp [hp]
    · simp [hp, ih]

theorem emptyIdx_single (i k : Nat) (l : List Str) (h : emptyIdx i l = [k]) :
    ∃ A B, l = A ++ [] :: B ∧ (∀ p ∈ A, p ≠ []) ∧ (∀ p ∈ B, p ≠ []) := by
  induction l generalizing i with
  | nil => simp [emptyIdx] at h
  | cons p ps ih =>
    unfold emptyIdx at h
    by_cases hp : p = []
    · subst hp
      simp only [if_true, List.cons.injEq] at h
      exact ⟨[], ps, rfl, by simp, (emptyIdx_nil_iff _ _).mp h.2⟩
    · simp only [hp, if_false] at h
      obtain ⟨A, B, rfl, hA, hB⟩ := ih _ h
      refine ⟨p :: A, B, rfl, ?_, hB⟩
      intro q hq
      rcases List.mem_cons.mp hq with rfl | hq
      · exact hp
      · exact hA q hq

theorem join_gapParts (hi lo : List Str) :
    join [':'] (gapParts hi lo) = join [':'] hi ++ ':' :: ':' :: join [':'] lo := by
  -- an empty side is written as one empty part, which joins to the same text
  have e : ∀ l : List Str, (if l = [] then [[]] else l) ≠ [] ∧ join [':'] (if l = [] then [[]] else l) = join [':'] l := by
    intro l
    split
    · next h => rw [h]; exact ⟨by simp, rfl⟩
    · next h => exact ⟨h, rfl⟩
  unfold gapParts
  obtain ⟨post, hpost⟩ : ∃ post, (if lo = [] then [[]] else lo) = post := ⟨_, rfl⟩
  have hne : post ≠ [] := hpost ▸ (e lo).1
  rw [hpost, join_append [':'] _ _ (e hi).1 (List.cons_ne_nil _ _), (e hi).2, ← (e lo).2, hpost]
  match post, hne with
  | y :: ys, _ => simp [join_cons_cons]

theorem gapParts_getLast (hi lo : List Str) : (gapParts hi lo).getLast?.getD [] = lo.getLast?.getD [] := by
  unfold gapParts
  rcases snoc_cases lo with rfl | ⟨L, z, rfl⟩
  · rw [if_pos rfl, List.getLast?_append]; rfl
  · rw [if_neg (show ¬ L ++ [z] = [] by simp), ← List.cons_append, ← List.append_assoc, List.getLast?_concat,
      List.getLast?_concat]

theorem v6FromParts_sound (P : List Str) (n : Nat) (h : v6FromParts P = some n) :
    (∃ gs, IP.Hextets P gs ∧ gs.length = 8 ∧ n = IP.groupsVal gs) ∨
    (∃ hi lo ghi glo, IP.Hextets hi ghi ∧ IP.Hextets lo glo ∧ ghi.length + glo.length ≤ 7 ∧ P = gapParts hi lo ∧
      n = IP.groupsVal (ghi ++ List.replicate (8 - (ghi.length + glo.length)) 0 ++ glo)) := by
  match hidx : emptyIdx 1 ((P.drop 1).dropLast) with
  | [] =>
    rw [v6FromParts_noGap P hidx] at h
    split at h
    · next h8 =>
      obtain ⟨gs, hg, rfl⟩ := (accHextets_iff P 0 n).mp h
      exact Or.inl ⟨gs, hg, by rw [← hextets_length P gs hg]; exact h8.1, rfl⟩
    · cases h
  | _ :: _ :: _ => rw [v6FromParts_gaps P _ _ _ hidx] at h; cases h
  | [skip] =>
    obtain ⟨A, B, hX, hA, hB⟩ := emptyIdx_single 1 skip _ hidx
    obtain ⟨f, l, rfl⟩ := eq_of_inner P _ hX (by simp)
    rw [v6FromParts_gap f l A B hA hB] at h
    by_cases hbad : (f = [] ∧ A ≠ []) ∨ (l = [] ∧ B ≠ [])
    · rw [if_pos hbad] at h; cases h
    · rw [if_neg hbad] at h
      have hf : f = [] → A = [] := fun h => Classical.byContradiction fun hA => hbad (Or.inl ⟨h, hA⟩)
      have hl : l = [] → B = [] := fun h => Classical.byContradiction fun hB => hbad (Or.inr ⟨h, hB⟩)
      rw [gapParts_eq f l A B hf hl]
      generalize (if f = [] then [] else f :: A) = hi at h ⊢
      generalize (if l = [] then [] else B ++ [l]) = lo at h ⊢
      by_cases h7 : 7 < hi.length + lo.length
      · rw [if_pos h7] at h; cases h
      · rw [if_neg h7] at h
        obtain ⟨ghi, glo, h1, h2, rfl⟩ := (hextets_bind _ _ _ n).mp h
        rw [hextets_length _ _ h1, hextets_length _ _ h2] at h7 ⊢
        exact Or.inr ⟨hi, lo, ghi, glo, h1, h2, Nat.le_of_not_lt h7, rfl, rfl⟩

theorem v6FromParts_gapParts_hextets (hi lo : List Str) (ghi glo : List Nat) (h1 : IP.Hextets hi ghi) (h2 : IP.Hextets lo glo)
    (h7 : ghi.length + glo.length ≤ 7) :
    v6FromParts (gapParts hi lo) =
      some (IP.groupsVal (ghi ++ List.replicate (8 - (ghi.length + glo.length)) 0 ++ glo)) := by
  rw [v6FromParts_gapParts hi lo (hextets_ne_nil hi ghi h1) (hextets_ne_nil lo glo h2),
    hextets_length hi ghi h1, hextets_length lo glo h2, if_neg (Nat.not_lt.mpr h7)]
  exact (hextets_bind hi lo _ _).mpr ⟨ghi, glo, h1, h2, rfl⟩

theorem v6FromParts_full (fs : List Str) (gs : List Nat) (h : IP.Hextets fs gs) (h8 : gs.length = 8) :
    v6FromParts fs = some (IP.groupsVal gs) := by
  rw [v6FromParts_eight fs ((hextets_length fs gs h).trans h8) (hextets_ne_nil fs gs h)]
  exact (accHextets_iff fs 0 _).mpr ⟨gs, h, rfl⟩

theorem strV4_dotted (n : Nat) : strV4 n = IP.dotted n := by
  rw [strV4_eq]; simp [IP.dotted, IP.octet]

theorem quad_shift (v : Nat) (hv : v < 4294967296) : (v >>> 16) &&& 0xFFFF = v / 65536 ∧ v &&& 0xFFFF = v % 65536 := by
  rw [show (0xFFFF : Nat) = 2 ^ 16 - 1 from rfl, Nat.and_two_pow_sub_one_eq_mod, Nat.and_two_pow_sub_one_eq_mod,
    Nat.shiftRight_eq_div_pow]
  exact ⟨Nat.mod_eq_of_lt (by omega), rfl⟩

/-- the characters of an address are none of those the constructor and the stdlib look for -/
theorem addrch (c : Char) (h : isHexDigit c = true ∨ c = '.') : c ≠ ':' ∧ c ≠ '/' ∧ c ≠ '%' ∧ isSpace c = false := by
  rcases h with h | rfl
  · have := isSpace_hexColon c (Or.inl h)
    exact ⟨by rintro rfl; revert h; decide, this.2, by rintro rfl; revert h; decide, this.1⟩
  · decide

/-- what the parser makes of the colon-separated parts: a dotted quad in the last place becomes two groups -/
def Expanded (P P' : List Str) : Prop :=
  (P' = P ∧ (P.getLast?.getD []).contains '.' = false) ∨
  ∃ D v, v < 2 ^ 32 ∧ P = D ++ [IP.dotted v] ∧ P' = D ++ [toHex (v / 65536), toHex (v % 65536)]

theorem stdV6Int_join (P : List Str) (hP : ∀ p ∈ P, ':' ∉ p) :
    stdV6Int (join [':'] P) =
      if P.length < 3 then none else
      if (P.getLast?.getD []).contains '.' then
        (stdV4Int (P.getLast?.getD [])).bind fun v =>
          v6FromParts (P.dropLast ++ [toHex ((v >>> 16) &&& 0xFFFF), toHex (v &&& 0xFFFF)])
      else v6FromParts P := by
  cases P with
  | nil => rfl
  | cons p ps =>
    unfold stdV6Int
    rw [Py.splitOn_join ':' _ (List.cons_ne_nil p ps) hP]
    by_cases h0 : join [':'] (p :: ps) = []
    · rw [if_pos h0, if_pos]
      match ps, h0 with
      | [], _ => exact (by decide : 1 < 3)
      | q :: qs, h0 => exact absurd h0 (by simp [join])
    · rw [if_neg h0]
      by_cases h3 : (p :: ps).length < 3
      · rw [if_pos h3, if_pos h3]
      · rw [if_neg h3]; dsimp only; rw [if_neg h3]
        cases (stdV4Int ((p :: ps).getLast?.getD [])) <;> rfl

theorem stdV6Int_expanded (P P' : List Str) (h3 : 3 ≤ P.length) (hP : ∀ p ∈ P, ':' ∉ p) (he : Expanded P P') :
    stdV6Int (join [':'] P) = v6FromParts P' := by
  rw [stdV6Int_join P hP, if_neg (Nat.not_lt.mpr h3)]
  rcases he with ⟨rfl, hdot⟩ | ⟨D, v, hv, rfl, rfl⟩
  · rw [hdot]; rfl
  · rw [List.getLast?_concat, List.dropLast_concat, Option.getD_some, ← strV4_dotted,
      if_pos (List.contains_iff_mem.mpr (dot_mem_strV4 v)),
      stdV4Int_strV4 v hv, Option.bind_some, (quad_shift v hv).1, (quad_shift v hv).2]

theorem stdV6Int_inv (addr : Str) (n : Nat) (h : stdV6Int addr = some n) :
    ∃ P P', addr = join [':'] P ∧ Expanded P P' ∧ v6FromParts P' = some n := by
  obtain ⟨hj, hP⟩ := Py.join_splitOn ':' addr
  rw [← hj, stdV6Int_join _ hP] at h
  generalize splitOn ':' addr = P at hj h
  by_cases h3 : P.length < 3
  · rw [if_pos h3] at h; cases h
  · rw [if_neg h3] at h
    by_cases hdot : (P.getLast?.getD []).contains '.' = true
    · rw [if_pos hdot] at h
      obtain ⟨v, hv4, h⟩ := Option.bind_eq_some_iff.mp h
      obtain ⟨hz, hv⟩ := stdV4Int_sound _ v hv4
      rw [(quad_shift v hv).1, (quad_shift v hv).2] at h
      have hne : P ≠ [] := by rintro rfl; exact h3 (by decide)
      refine ⟨P, _, hj.symm, Or.inr ⟨P.dropLast, v, hv, ?_, rfl⟩, h⟩
      rw [← strV4_dotted, ← hz, List.getLast?_eq_some_getLast hne, Option.getD_some, List.dropLast_concat_getLast hne]
    · exact ⟨P, P, hj.symm, Or.inl ⟨rfl, Bool.eq_false_iff.mpr hdot⟩, by rwa [if_neg hdot] at h⟩

theorem expanded_gapParts (hi : List Str) {lo lo' : List Str} (h : Expanded lo lo') : Expanded (gapParts hi lo) (gapParts hi lo') := by
  rcases h with ⟨rfl, hdot⟩ | ⟨D, v, hv, rfl, rfl⟩
  · exact Or.inl ⟨rfl, by rw [gapParts_getLast]; exact hdot⟩
  · refine Or.inr ⟨(if hi = [] then [[]] else hi) ++ [] :: D, v, hv, ?_, ?_⟩ <;> unfold gapParts <;> simp

theorem expanded_gapParts_inv {hi lo' P : List Str} (h : Expanded P (gapParts hi lo')) :
    ∃ lo, P = gapParts hi lo ∧ Expanded lo lo' := by
  rcases h with ⟨e, hdot⟩ | ⟨D, v, hv, rfl, e⟩
  · rw [← e, gapParts_getLast] at hdot
    exact ⟨lo', e.symm, Or.inl ⟨rfl, hdot⟩⟩
  · -- the two groups of the quad are non-empty, so both stand after the gap
    have e' : (if hi = [] then [[]] else hi) ++ [] :: (if lo' = [] then [[]] else lo') =
        (D ++ [toHex (v / 65536)]) ++ [toHex (v % 65536)] := by rw [List.append_assoc]; exact e
    obtain ⟨L1, h1, hD1⟩ := gap_snoc_inv _ _ _ _ (toHex_props (v % 65536) (by omega)).1 e'
    obtain ⟨L, rfl, rfl⟩ := gap_snoc_inv _ L1 D _ (toHex_props (v / 65536) (by omega)).1 hD1.symm
    have hlo : lo' = L ++ [toHex (v / 65536), toHex (v % 65536)] := by
      split at h1
      · exact absurd (congrArg List.length h1) (by simp)
      · simpa using h1
    exact ⟨L ++ [IP.dotted v], by unfold gapParts; simp, Or.inr ⟨L, v, hv, rfl, hlo⟩⟩

theorem fields_parts (fs : List Str) (gs : List Nat) (h : IP.Fields fs gs) :
    ∀ p ∈ fs, p ≠ [] ∧ ∀ c ∈ p, isHexDigit c = true ∨ c = '.' := by
  have hx : ∀ fs gs, IP.Hextets fs gs → ∀ p ∈ fs, p ≠ [] ∧ ∀ c ∈ p, isHexDigit c = true ∨ c = '.' :=
    fun fs gs h p hp => ⟨hextets_ne_nil fs gs h p hp, fun c hc => Or.inl ((hextets_chars fs gs h p hp).2 c hc)⟩
  rcases h with h | ⟨fs', gs', v, hv, h, rfl, rfl⟩
  · exact hx fs gs h
  · intro p hp
    rcases List.mem_append.mp hp with hp | hp
    · exact hx fs' gs' h p hp
    · rw [List.mem_singleton.mp hp, ← strV4_dotted]
      exact ⟨strV4_ne_nil v, fun c hc => (strV4_chars v c hc).imp (fun h => by unfold isHexDigit; rw [h]; rfl) id⟩

theorem fields_iff (fs : List Str) (gs : List Nat) : IP.Fields fs gs ↔ ∃ fs', Expanded fs fs' ∧ IP.Hextets fs' gs := by
  constructor
  · rintro (h | ⟨D, g1, v, hv, hd, rfl, rfl⟩)
    · refine ⟨fs, Or.inl ⟨rfl, ?_⟩, h⟩
      rcases snoc_cases fs with rfl | ⟨L, z, rfl⟩
      · rfl
      · rw [List.getLast?_concat]
        exact contains_false z '.' fun c hc e => by
          subst e; exact absurd ((hextets_chars _ gs h z (by simp)).2 _ hc) (by decide)
    · exact ⟨_, Or.inr ⟨D, v, hv, rfl, rfl⟩, hextets_append _ _ _ _ hd
        ⟨isHextet_toHex _ (by omega), isHextet_toHex _ (by omega), trivial⟩⟩
  · rintro ⟨fs', ⟨rfl, _⟩ | ⟨D, v, hv, rfl, rfl⟩, h⟩
    · exact Or.inl h
    · obtain ⟨g1, g2, rfl, hd, hxy⟩ := hextets_append_inv _ _ gs h
      match g2, hxy with
      | [gx, gy], hxy =>
        rw [isHextet_toHex_eq _ gx (by omega) hxy.1, isHextet_toHex_eq _ gy (by omega) hxy.2.1]
        exact Or.inr ⟨D, g1, v, hv, hd, rfl, rfl⟩

theorem fields_lt (fs : List Str) (gs : List Nat) (h : IP.Fields fs gs) : ∀ g ∈ gs, g < 65536 :=
  let ⟨fs', _, hh⟩ := (fields_iff fs gs).mp h; hextets_val_lt fs' gs hh

theorem spelling_lt (addr : Str) (n : Nat) (h : IP.IsV6Spelling addr n) : n < 2 ^ 128 := by
  rcases h with ⟨fs, gs, hf, h8, _, rfl⟩ | ⟨hi, lo, ghi, glo, h1, h2, h7, _, rfl⟩
  · exact groupsVal_lt gs (fields_lt fs gs hf) h8
  · refine groupsVal_lt _ (fun g hg => ?_) (by simp only [List.length_append, List.length_replicate]; omega)
    simp only [List.mem_append, List.mem_replicate] at hg
    rcases hg with (hg | hg) | hg
    · exact hextets_val_lt hi ghi h1 g hg
    · omega
    · exact fields_lt lo glo h2 g hg

theorem stdV6Int_sound (addr : Str) (n : Nat) (h : stdV6Int addr = some n) : IP.IsV6Spelling addr n := by
  obtain ⟨P, P', rfl, he, hv⟩ := stdV6Int_inv addr n h
  rcases v6FromParts_sound P' n hv with ⟨gs, hg, h8, rfl⟩ | ⟨hi, lo', ghi, glo, hg1, hg2, h7, rfl, rfl⟩
  · exact Or.inl ⟨P, gs, (fields_iff P gs).mpr ⟨P', he, hg⟩, h8, rfl, rfl⟩
  · obtain ⟨lo, rfl, he'⟩ := expanded_gapParts_inv he
    exact Or.inr ⟨hi, lo, ghi, glo, hg1, (fields_iff lo glo).mpr ⟨lo', he', hg2⟩, h7, join_gapParts hi lo, rfl⟩

theorem hexFormParts_full (fs : List Str) (h : ∀ p ∈ fs, isH p = true) (h8 : fs.length = 8) :
    hexFormParts fs = true := by
  have hne : ∀ p ∈ fs, p ≠ [] := fun p hp e => by have := h p hp; rw [e, isH_nil] at this; cases this
  unfold hexFormParts
  split
  · exact absurd rfl (hne [] (by simp))
  · exact absurd rfl (hne [] (by simp))
  · have : fs.all isH = true := List.all_eq_true.mpr h
    simp [this, h8]

theorem hexFormParts_gapParts (hi lo : List Str) (h1 : ∀ p ∈ hi, isH p = true) (h2 : ∀ p ∈ lo, isH p = true)
    (h7 : hi.length + lo.length ≤ 7) : hexFormParts (gapParts hi lo) = true := by
  have hall : lo.all isH = true := List.all_eq_true.mpr h2
  have hlo : lo ≠ [[]] := fun e => absurd (h2 [] (by rw [e]; simp)) (by decide)
  unfold gapParts
  match hi, h1 with
  | [], _ =>
    match lo, h2, hall with
    | [], _, _ => rfl
    | [] :: _, h2, _ => exact absurd (h2 [] (by simp)) (by decide)
    | (c :: t) :: xs, _, hall =>
      simp only [List.length_cons] at h7
      simp [hexFormParts, hall]; omega
  | [] :: _, h1 => exact absurd (h1 [] (by simp)) (by decide)
  | (c :: t) :: A, h1 =>
    -- the groups before the gap are what `takeWhile isH` takes, the gap is where it stops
    have htw := takeWhile_append_stop isH ((c :: t) :: A) ([] :: (if lo = [] then [[]] else lo)) h1
      (fun x hx => by rw [← Option.some.inj hx]; rfl)
    have hnall : (((c :: t) :: A) ++ [] :: (if lo = [] then [[]] else lo)).all isH = false := by
      rw [Bool.eq_false_iff]; intro hh
      exact absurd (List.all_eq_true.mp hh [] (by simp)) (by decide)
    rw [if_neg (List.cons_ne_nil _ _)]
    rw [List.cons_append] at htw hnall ⊢
    simp only [hexFormParts, hnall, htw.1, htw.2, Bool.false_eq_true, if_false]
    simp only [List.length_cons] at h7
    by_cases hl : lo = []
    · subst hl; simp; omega
    · have hpos : 1 ≤ lo.length := Nat.pos_of_ne_zero (fun e => hl (List.length_eq_zero_iff.mp e))
      simp [hl, hlo, hall]; omega

theorem matchEmbedded_of (pre q : Str) (hpre : pre ≠ []) (hch : ∀ c ∈ pre, isHexColon c = true)
    (hq : fullQuad q = true) (hqne : q ≠ []) : matchEmbedded (pre ++ q) = true := by
  unfold matchEmbedded
  rw [List.any_eq_true]
  refine ⟨pre.length, ?_, ?_⟩
  · rw [List.mem_range, List.length_append]
    have : 0 < q.length := List.length_pos_iff.mpr hqne
    omega
  · have h1 : 1 ≤ pre.length := List.length_pos_iff.mpr hpre
    have h2 : (pre ++ q).take pre.length = pre := by simp
    have h3 : (pre ++ q).drop pre.length = q := by simp
    rw [h2, h3, hq]
    have : pre.all isHexColon = true := List.all_eq_true.mpr hch
    simp [h1, this]

/-- hex groups, colons and a dotted quad at the end: `opt2` of the regex -/
theorem matchEmbedded_parts (D : List Str) (v : Nat) (hD : D ≠ []) (hch : ∀ p ∈ D, ∀ c ∈ p, isHexDigit c = true) :
    matchEmbedded (join [':'] (D ++ [IP.dotted v])) = true := by
  rw [join_snoc [':'] D hD,
    ← strV4_dotted]
  refine matchEmbedded_of _ _ (by simp) (fun c hc => ?_) (fullQuad_strV4 v) (strV4_ne_nil v)
  rcases List.mem_append.mp hc with hc | hc
  · exact join_chars [':'] D (isHexColon · = true) (fun c hc => by rw [List.mem_singleton.mp hc]; rfl)
      (fun w hw c hcw => by unfold isHexColon; rw [hch w hw c hcw]; rfl) c hc
  · rw [List.mem_singleton.mp hc]; rfl

/-- a spelling by its colon-separated parts `P`, and the parts `P'` the parser works on -/
theorem spelling_parts (addr : Str) (n : Nat) (h : IP.IsV6Spelling addr n) :
    ∃ P P', addr = join [':'] P ∧ 3 ≤ P.length ∧ Expanded P P' ∧
      (∀ p ∈ P, ∀ c ∈ p, isHexDigit c = true ∨ c = '.') ∧ (∀ p ∈ P', ∀ c ∈ p, isHexDigit c = true) ∧
      hexFormParts P' = true ∧ v6FromParts P' = some n ∧ NoTripleHead addr := by
  rcases h with ⟨fs, gs, hf, h8, rfl, rfl⟩ | ⟨hi, lo, ghi, glo, h1, h2, h7, rfl, rfl⟩
  · have hp := fields_parts fs gs hf
    obtain ⟨fs', he, hh⟩ := (fields_iff fs gs).mp hf
    have hlen := hextets_length fs' gs hh
    have h3 : 3 ≤ fs.length := by
      rcases he with ⟨rfl, _⟩ | ⟨D, v, _, rfl, rfl⟩
      · omega
      · simp only [List.length_append, List.length_cons, List.length_nil] at hlen ⊢; omega
    refine ⟨fs, fs', rfl, h3, he, fun p hp' => (hp p hp').2, fun p hp' => (hextets_chars fs' gs hh p hp').2,
      hexFormParts_full fs' (fun p hp' => (hextets_chars fs' gs hh p hp').1) (hlen.trans h8),
      v6FromParts_full fs' gs hh h8, ?_⟩
    obtain ⟨c, t, e, hc⟩ := join_head_ne fs (by rintro rfl; cases h3) fun p hp' =>
      ⟨(hp p hp').1, fun c hc => (addrch c ((hp p hp').2 c hc)).1⟩
    exact Or.inl ⟨c, t, e, hc⟩
  · have hp1 := hextets_chars hi ghi h1
    have hp2 := fields_parts lo glo h2
    obtain ⟨lo', he, hh⟩ := (fields_iff lo glo).mp h2
    refine ⟨gapParts hi lo, gapParts hi lo', (join_gapParts hi lo).symm, (length_gapParts hi lo).1,
      expanded_gapParts hi he, fun p hp c hc => ?_, fun p hp c hc => ?_,
      hexFormParts_gapParts hi lo' (fun p hp' => (hp1 p hp').1) (fun p hp' => (hextets_chars lo' glo hh p hp').1)
        (by rw [hextets_length hi ghi h1, hextets_length lo' glo hh]; exact h7),
      v6FromParts_gapParts_hextets hi lo' ghi glo h1 hh h7, ?_⟩
    · rcases mem_gapParts hp with rfl | hp | hp
      · cases hc
      · exact Or.inl ((hp1 p hp).2 c hc)
      · exact (hp2 p hp).2 c hc
    · rcases mem_gapParts hp with rfl | hp | hp
      · cases hc
      · exact (hp1 p hp).2 c hc
      · exact (hextets_chars lo' glo hh p hp).2 c hc
    · match hi, h1 with
      | [], _ =>
        match lo, hp2 with
        | [], _ => exact Or.inr (Or.inr rfl)
        | x :: xs, hp2 =>
          obtain ⟨c, t, e, hc⟩ := join_head_ne (x :: xs) (by simp) fun p hp' =>
            ⟨(hp2 p hp').1, fun c hc => (addrch c ((hp2 p hp').2 c hc)).1⟩
          exact Or.inr (Or.inl ⟨c, t, by rw [e]; rfl, hc⟩)
      | x :: xs, h1 =>
        obtain ⟨c, t, e, hc⟩ := join_head_ne (x :: xs) (by simp) fun p hp' =>
          ⟨hextets_ne_nil _ ghi h1 p hp', fun c hc => (addrch c (Or.inl ((hextets_chars _ ghi h1 p hp').2 c hc))).1⟩
        exact Or.inl ⟨c, _, by rw [e]; rfl, hc⟩

theorem stdV6Int_complete (addr : Str) (n : Nat) (h : IP.IsV6Spelling addr n) : stdV6Int addr = some n := by
  obtain ⟨P, P', rfl, h3, he, hP, _, _, hv, _⟩ := spelling_parts addr n h
  rw [stdV6Int_expanded P P' h3 (fun p hp hc => (addrch ':' (hP p hp ':' hc)).1 rfl) he, hv]

theorem spelling_facts (addr : Str) (n : Nat) (h : IP.IsV6Spelling addr n) :
    (∀ c ∈ addr, c ≠ '/' ∧ c ≠ '%' ∧ isSpace c = false) ∧ NoTripleHead addr ∧
    (matchHexForm addr || matchEmbedded addr) = true := by
  obtain ⟨P, P', e, h3, he, hP, hP', hform, _, hhead⟩ := spelling_parts addr n h
  refine ⟨?_, hhead, ?_⟩
  · rw [e]
    exact join_chars [':'] P _ (fun c hc => by rw [List.mem_singleton.mp hc]; decide)
      fun p hp c hc => (addrch c (hP p hp c hc)).2
  · rw [e]
    rcases he with ⟨rfl, _⟩ | ⟨D, v, _, rfl, rfl⟩
    · rw [matchHexForm, Py.splitOn_join ':' P' (by rintro rfl; cases h3)
        fun p hp hc => (addrch ':' (hP p hp ':' hc)).1 rfl, hform]
      rfl
    · rw [matchEmbedded_parts D v (by rintro rfl; simp at h3) fun p hp => hP' p (List.mem_append_left _ hp), Bool.or_true]

theorem matchV6_append (a tail : Str) (hch : ∀ c ∈ a, c ≠ '/' ∧ isSpace c = false)
    (hok : (matchHexForm a || matchEmbedded a) = true) (hhead : NoTripleHead a)
    (hsep : ∀ c, tail.head? = some c → c = '/' ∨ isSpace c = true) (hm : ∀ sep m, tail = sep :: m → fullDigits m = true) :
    matchV6 (a ++ tail) = some (a, match tail with | [] => none | _ :: m => some m) := by
  unfold matchV6
  have h3 : tripleColonAhead (a ++ tail) = false :=
    tripleColonAhead_of_head a tail hhead fun c hc e => by
      subst e; exact absurd (hsep _ hc) (by decide)
  have htw := takeWhile_append_stop (fun c => !(decide (c = '/') || isSpace c)) a tail
    (fun c hc => by simp [(hch c hc).1, (hch c hc).2])
    (fun c hc => by rcases hsep c hc with rfl | h <;> simp [*])
  simp only [h3, Bool.false_eq_true, if_false, htw.1, htw.2, hok, Bool.not_true]
  match tail, hm with
  | [], _ => rfl
  | sep :: m, hm => simp only [hm sep m rfl, if_true]

theorem stdV6_spelling (addr : Str) (ip : Nat) (hsp : IP.IsV6Spelling addr ip) (m : Str) (len : Nat)
    (hm : ∀ c ∈ m, c ≠ '/') (hmk : makeNetmask6 m = .ok len) :
    stdV6Addr addr = .ok ip ∧ stdV6Net false (addr ++ '/' :: m) = .ok (ip &&& ipIntFromPrefix 128 len, len) := by
  have hch := (spelling_facts addr ip hsp).1
  have hstd : stdV6Addr addr = .ok ip := by
    unfold stdV6Addr
    rw [contains_false _ '/' (fun c hc => (hch c hc).1), contains_false _ '%' (fun c hc => (hch c hc).2.1)]
    simp [stdV6Int_complete addr ip hsp]
  refine ⟨hstd, ?_⟩
  rw [stdV6Net_slash false addr m (fun c hc => (hch c hc).1) hm, hstd, hmk]
  exact finishNet_false 128 ip len

/-- `IPv6Obj(text)` for any RFC 4291 spelling of `ip` followed by a slash or blanks and ASCII digits -/
theorem V6.fromStr_spelling (input addr : Str) (ip len : Nat) (m : Str) (hsp : IP.IsV6Spelling addr ip)
    (hl : len ≤ 128) (hne : m ≠ []) (hd : ∀ c ∈ m, isDigit c = true) (hv : ofDigits m = some len)
    (hguard : (addr ++ '/' :: m).length ≤ 49)
    (hs : strip input = addr ++ '/' :: m ∨
      ∃ ws, ws ≠ [] ∧ (∀ c ∈ ws, isSpace c = true) ∧ strip input = addr ++ ws ++ m) :
    V6.fromStr input = .ok (mk6 ip len) := by
  obtain ⟨hch, hhead, hok⟩ := spelling_facts addr ip hsp
  have hea : ∀ c ∈ addr, isSpace c = false := fun c hc => (hch c hc).2.2
  have hmsp : ∀ c ∈ m, isSpace c = false := fun c hc => isSpace_of_isDigit c (hd c hc)
  have hns : ∀ c ∈ addr ++ '/' :: m, isSpace c = false := by
    intro c hc
    rcases List.mem_append.mp hc with h | h
    · exact hea c h
    · rcases List.mem_cons.mp h with rfl | h
      · decide
      · exact hmsp c h
  have hsplit : splitWs (strip input) = [addr ++ '/' :: m] ∨ splitWs (strip input) = [addr, m] := by
    rcases hs with hs | ⟨ws, hw1, hw2, hs⟩
    · left; rw [hs]; unfold splitWs; exact splitWsAux_noSpace _ hns
    · right; rw [hs]; exact splitWs_two _ ws m hea hw2 hw1 hmsp
  have hg : ¬ (addr ++ '/' :: m).length > Gen.ipv6MaxStrLen := by unfold Gen.ipv6MaxStrLen; omega
  obtain ⟨hstd, hnet⟩ := stdV6_spelling addr ip hsp m len (fun c hc => Py.ne_of_isDigit c '/' (hd c hc) (by decide))
    (makeNetmask6_digits m len hne hd hv hl)
  have hmatch := matchV6_append addr ('/' :: m) (fun c hc => ⟨(hch c hc).1, hea c hc⟩) hok hhead
    (fun c hc => Or.inl (Option.some.inj hc).symm)
    (fun _ _ e => by rw [← (List.cons.inj e).2]; exact fullDigits_digits m hne hd)
  unfold V6.fromStr
  rcases hsplit with h | h <;> rw [h] <;>
    simp only [if_neg hg, strip_noSpace _ hns, hmatch, bind, Except.bind, hstd, hnet] <;> rfl

theorem V6.fromStr_spelling_plain (input addr : Str) (ip : Nat) (hsp : IP.IsV6Spelling addr ip)
    (hguard : addr.length ≤ 49) (hs : strip input = addr) : V6.fromStr input = .ok (mk6 ip 128) := by
  obtain ⟨hch, hhead, hok⟩ := spelling_facts addr ip hsp
  have hea : ∀ c ∈ addr, isSpace c = false := fun c hc => (hch c hc).2.2
  have hg : ¬ addr.length > Gen.ipv6MaxStrLen := by unfold Gen.ipv6MaxStrLen; omega
  obtain ⟨hstd, hnet⟩ := stdV6_spelling addr ip hsp ['1', '2', '8'] 128 (by decide) rfl
  have hmatch := matchV6_append addr [] (fun c hc => ⟨(hch c hc).1, hea c hc⟩) hok hhead
    (fun c hc => by cases hc) (fun _ _ e => by cases e)
  rw [List.append_nil] at hmatch
  unfold V6.fromStr
  rw [hs]
  unfold splitWs
  rw [splitWsAux_noSpace _ hea]
  simp only [if_neg hg, strip_noSpace _ hea, hmatch, bind, Except.bind, hstd, toList_lit, hnet]
  rfl

end Ccp.IPText
