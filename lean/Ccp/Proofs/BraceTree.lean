import Ccp.Proofs.Brace
import Ccp.Spec.Indent
import Ccp.Proofs.TreeLink
/-!
The tree of a brace-syntax parse (C08).  In the flattening of a statement tree the local
indentation-parent rule (`Ccp.Brace.indentParents`) finds the statement that opened the innermost
enclosing block; on a list of configuration lines that rule is C02's `specParent`, hence what pass 1 of
the shared bootstrap (`linkByIndent`, `Ccp.Model.Tree`, verified by C01–C03) computes.
-/
namespace Ccp.Brace
open Ccp.Py Ccp.Tree

mutual
theorem flattenStmt_lines : ∀ (s : Stmt) (d : Nat), StmtOk s →
    ∀ l ∈ flattenStmt d s, ∃ n t, l = List.replicate n ' ' ++ t ∧ TextOk t
  | .node ws cs, d, hs => by
    intro l hl
    rcases List.mem_cons.mp hl with rfl | hl
    · exact ⟨_, _, rfl, words_textOk hs.1⟩
    · exact flattenList_lines cs (d + 1) hs.2 l hl
theorem flattenList_lines : ∀ (ss : List Stmt) (d : Nat), ListOk ss →
    ∀ l ∈ flattenList d ss, ∃ n t, l = List.replicate n ' ' ++ t ∧ TextOk t
  | [], _, _ => nofun
  | s :: ss, d, hs => by
    intro l hl
    rcases List.mem_append.mp hl with hl | hl
    · exact flattenStmt_lines s d hs.1 l hl
    · exact flattenList_lines ss d hs.2 l hl
end

mutual
def depthsStmt (d : Nat) : Stmt → List Nat
  | .node _ cs => d :: depthsList (d + 1) cs
def depthsList (d : Nat) : List Stmt → List Nat
  | [] => []
  | s :: ss => depthsStmt d s ++ depthsList d ss
end

mutual
theorem indents_stmt : ∀ (s : Stmt) (d : Nat), StmtOk s →
    (flattenStmt d s).map indent = (depthsStmt d s).map (4 * ·)
  | .node ws cs, d, hs => by
    simp only [flattenStmt, depthsStmt, List.map_cons, indents_list cs (d + 1) hs.2,
      indent_replicate _ _ (textOk_head (words_textOk hs.1))]
theorem indents_list : ∀ (ss : List Stmt) (d : Nat), ListOk ss →
    (flattenList d ss).map indent = (depthsList d ss).map (4 * ·)
  | [], _, _ => rfl
  | s :: ss, d, hs => by
    simp only [flattenList, depthsList, List.map_append, indents_stmt s d hs.1, indents_list ss d hs.2]
end

mutual
theorem depths_stmt_ge : ∀ (s : Stmt) (d : Nat), ∀ x ∈ depthsStmt d s, d ≤ x
  | .node _ cs, d => by
    intro x hx
    rcases List.mem_cons.mp hx with rfl | hx
    · exact Nat.le_refl _
    · exact Nat.le_of_succ_le (depths_list_ge cs (d + 1) x hx)
theorem depths_list_ge : ∀ (ss : List Stmt) (d : Nat), ∀ x ∈ depthsList d ss, d ≤ x
  | [], _ => nofun
  | s :: ss, d => by
    intro x hx
    rcases List.mem_append.mp hx with hx | hx
    · exact depths_stmt_ge s d x hx
    · exact depths_list_ge ss d x hx
end

mutual
theorem depths_stmt_length : ∀ (s : Stmt) (d : Nat), (depthsStmt d s).length = sizeStmt s
  | .node _ cs, d => by
    rw [depthsStmt, sizeStmt, List.length_cons, depths_list_length cs (d + 1), Nat.add_comm]
theorem depths_list_length : ∀ (ss : List Stmt) (d : Nat), (depthsList d ss).length = sizeList ss
  | [], _ => rfl
  | s :: ss, d => by
    rw [depthsList, sizeList, List.length_append, depths_stmt_length s d, depths_list_length ss d]
end

theorem lastSmaller_none (x : Nat) : ∀ (b : List Nat), (∀ y ∈ b, x ≤ y) → lastSmaller x b = none
  | [], _ => rfl
  | y :: b, h => by
    rw [lastSmaller, lastSmaller_none x b (fun z hz => h z (by simp [hz])),
      if_neg (Nat.not_lt.mpr (h y (by simp)))]

theorem lastSmaller_append_ge (x : Nat) (b : List Nat) (h : ∀ y ∈ b, x ≤ y) :
    ∀ (a : List Nat), lastSmaller x (a ++ b) = lastSmaller x a
  | [] => by rw [List.nil_append, lastSmaller_none x b h]; rfl
  | c :: a => by rw [List.cons_append, lastSmaller, lastSmaller, lastSmaller_append_ge x b h a]

theorem lastSmaller_snoc_lt (x y : Nat) (a : List Nat) (h : y < x) :
    lastSmaller x (a ++ [y]) = some a.length := by
  induction a with
  | nil => simp [lastSmaller, h]
  | cons c a ih => simp [lastSmaller, ih]

mutual
theorem parents_stmt : ∀ (s : Stmt) (d : Nat) (pre rest : List Nat) (par : Option Nat),
    lastSmaller (4 * d) pre = par →
    parentsFrom pre ((depthsStmt d s).map (4 * ·) ++ rest) =
      treeParentsStmt pre.length par s ++ parentsFrom (pre ++ (depthsStmt d s).map (4 * ·)) rest
  | .node _ cs, d, pre, rest, par, h => by
    -- the children look for something smaller than `4 * (d + 1)`, and find this statement's line
    have ih := parents_list cs (d + 1) (pre ++ [4 * d]) rest (some pre.length)
      (lastSmaller_snoc_lt _ _ pre (by omega))
    simp only [depthsStmt, List.map_cons, List.cons_append, parentsFrom, h, treeParentsStmt]
    rw [ih]
    simp
theorem parents_list : ∀ (ss : List Stmt) (d : Nat) (pre rest : List Nat) (par : Option Nat),
    lastSmaller (4 * d) pre = par →
    parentsFrom pre ((depthsList d ss).map (4 * ·) ++ rest) =
      treeParentsList pre.length par ss ++ parentsFrom (pre ++ (depthsList d ss).map (4 * ·)) rest
  | [], _, _, _, _, _ => by simp [depthsList, treeParentsList]
  | s :: ss, d, pre, rest, par, h => by
    -- the lines of `s` are at depth `d` or deeper: the next sibling looks past them
    have h2 : lastSmaller (4 * d) (pre ++ (depthsStmt d s).map (4 * ·)) = par := by
      rw [lastSmaller_append_ge _ _ ?_, h]
      intro y hy
      obtain ⟨z, hz, rfl⟩ := List.mem_map.mp hy
      exact Nat.mul_le_mul_left 4 (depths_stmt_ge s d z hz)
    have e1 := parents_stmt s d pre ((depthsList d ss).map (4 * ·) ++ rest) par h
    have e2 := parents_list ss d (pre ++ (depthsStmt d s).map (4 * ·)) rest par h2
    simp only [depthsList, List.map_append, List.append_assoc, treeParentsList]
    rw [e1, e2]
    simp [depths_stmt_length]
end

theorem indentParents_flatten (T : List Stmt) (hT : ListOk T) : indentParents (flatten T) = treeParents T := by
  unfold indentParents flatten treeParents
  rw [indents_list T 0 hT]
  simpa [parentsFrom] using parents_list T 0 [] [] none rfl

theorem nearestShallower_eq_lastSmaller (infos : List Info) (hcfg : ∀ l ∈ infos, l.isCfg = true) (k : Nat) :
    ∀ n, n ≤ infos.length → nearestShallower infos k n = lastSmaller k ((infos.take n).map (·.indent))
  | 0, _ => rfl
  | j + 1, hn => by
    have hj : j < infos.length := hn
    have hl : infos[j]? = some infos[j] := List.getElem?_eq_getElem hj
    have htake : (infos.take (j + 1)).map (·.indent) = (infos.take j).map (·.indent) ++ [infos[j].indent] := by
      simp only [List.take_add_one, hl, Option.toList, List.map_append, List.map_cons, List.map_nil]
    unfold nearestShallower
    rw [hl, htake]
    simp only [hcfg _ (List.getElem_mem hj), true_and]
    split
    · rw [lastSmaller_snoc_lt _ _ _ ‹_›]; simp; omega
    · rw [lastSmaller_append_ge _ _ (by simpa using Nat.le_of_not_lt ‹_›),
        nearestShallower_eq_lastSmaller infos hcfg k j (Nat.le_of_lt hj)]

/-- the two parent rules coincide on a list of configuration lines (no blank line, no comment),
a root being its own parent -/
theorem specParent_eq_local (pre : List Info) (l : Info) (rest : List Info)
    (hcfg : ∀ x ∈ pre ++ l :: rest, x.isCfg = true) (hcmt : l.isCmt = false) :
    specParent (pre ++ l :: rest) pre.length = (lastSmaller l.indent (pre.map (·.indent))).getD pre.length := by
  have hl : (pre ++ l :: rest)[pre.length]? = some l := by simp
  have hcu : commentUnderDeeper (pre ++ l :: rest) pre.length = false := by
    unfold commentUnderDeeper
    split
    · rename_i h; rw [hl] at h; cases h; simp [hcmt]
    · rfl
  unfold specParent
  rw [hl]
  simp only [hcu, Bool.false_eq_true, or_false]
  rw [nearestShallower_eq_lastSmaller _ hcfg _ pre.length (by simp), List.take_left' rfl]
  split
  · rw [‹l.indent = 0›, lastSmaller_none 0 _ (fun _ _ => Nat.zero_le _)]; rfl
  · rfl

/-- roots are their own parent in the shared model -/
def selfRoots : Nat → List (Option Nat) → List Nat
  | _, [] => []
  | i, p :: ps => p.getD i :: selfRoots (i + 1) ps

theorem map_specParent (infos : List Info) (hcfg : ∀ x ∈ infos, x.isCfg = true)
    (hcmt : ∀ x ∈ infos, x.isCmt = false) : ∀ (rest pre : List Info), pre ++ rest = infos →
    (List.range' pre.length rest.length).map (specParent infos) =
      selfRoots pre.length (parentsFrom (pre.map (·.indent)) (rest.map (·.indent)))
  | [], _, _ => rfl
  | l :: rest, pre, h => by
    have ih := map_specParent infos hcfg hcmt rest (pre ++ [l]) (by rw [← h, List.append_assoc]; rfl)
    subst h
    rw [List.length_cons, List.range'_succ, List.map_cons, List.map_cons, parentsFrom, selfRoots,
      specParent_eq_local pre l rest hcfg (hcmt l (by simp))]
    simpa using ih

theorem linkByIndent_eq_local (cfg : Cfg) (ls : List Str)
    (hcfg : ∀ l ∈ ls, isConfigLine cfg l = true) :
    linkByIndent cfg ls = selfRoots 0 (indentParents ls) := by
  have hcmt : ∀ l ∈ ls, isComment cfg l = false := by
    intro l hl
    have := hcfg l hl
    simp only [isConfigLine, Bool.and_eq_true, Bool.not_eq_true'] at this
    exact this.2
  have := map_specParent (ls.map (info cfg))
    (by intro l hl; obtain ⟨x, hx, rfl⟩ := List.mem_map.mp hl; exact hcfg x hx)
    (by intro l hl; obtain ⟨x, hx, rfl⟩ := List.mem_map.mp hl; exact hcmt x hx) _ [] rfl
  rw [linkByIndent_eq_map, List.range_eq_range', ← List.length_map (f := info cfg)]
  refine this.trans ?_
  rw [indentParents, List.map_map]
  rfl

theorem flatten_isConfigLine (cfg : Cfg) (T : List Stmt) (hT : ListOk T)
    (hc : ∀ l ∈ flatten T, isComment cfg l = false) : ∀ l ∈ flatten T, isConfigLine cfg l = true := by
  intro l hl
  obtain ⟨n, t, rfl, ht⟩ := flattenList_lines T 0 hT l hl
  obtain ⟨c, t', rfl, -⟩ := ht.head
  simp [isConfigLine, hc _ hl, lstrip_replicate n _ (textOk_head ht)]

end Ccp.Brace
