import Ccp.Proofs.Edit
import Ccp.Proofs.TreeLink
import Ccp.Proofs.TreeLossless
import Ccp.Proofs.Py
/-!
Parent links after an edit (C06), on the level of the specification: how the indentation rule of
C02 (`specParent`) behaves when one line is inserted into a list of lines — the exact frame, i.e.
which old lines change parent (`capturedBy`) and that all others keep theirs — and when a set of
lines is removed (`sel`, `rank`).  In between, the shape of the tree the rule builds: the family of
a configuration line is the block of deeper lines behind it.
-/
namespace Ccp.Edit

/-- Outcomes and whole states can be compared, so that a closed statement about a step — also one
of the form `step s op = (s, .error e)` — is evaluated in one piece by `decide +kernel`. -/
instance (priority := low) decEqExcept {ε α} [DecidableEq ε] [DecidableEq α] : DecidableEq (Except ε α)
  | .ok a, .ok b => if h : a = b then isTrue (h ▸ rfl) else isFalse (fun h' => h (Except.ok.inj h'))
  | .error a, .error b => if h : a = b then isTrue (h ▸ rfl) else isFalse (fun h' => h (Except.error.inj h'))
  | .ok _, .error _ => isFalse nofun
  | .error _, .ok _ => isFalse nofun

deriving instance DecidableEq for S

end Ccp.Edit

namespace Ccp.Tree
open Ccp.Py

theorem specParent_eq {infos : List Info} {j : Nat} {l : Info} (hl : infos[j]? = some l) :
    specParent infos j = if l.indent = 0 ∨ commentUnderDeeper infos j = true then j
      else (nearestShallower infos l.indent j).getD j := by
  simp only [specParent, hl]

theorem commentUnderDeeper_succ {infos : List Info} {j : Nat} {l prev : Info} (hl : infos[j + 1]? = some l)
    (hp : infos[j]? = some prev) :
    commentUnderDeeper infos (j + 1) = (l.isCmt && decide (prev.indent > l.indent)) := by
  simp only [commentUnderDeeper, hl, hp]

theorem commentUnderDeeper_of_not_cmt {infos : List Info} {j : Nat} {l : Info} (hl : infos[j]? = some l)
    (h : l.isCmt = false) : commentUnderDeeper infos j = false := by
  cases j <;> simp [commentUnderDeeper, hl, h]

theorem nearestShallower_succ {infos : List Info} {n : Nat} {l : Info} (hl : infos[n]? = some l) (k : Nat) :
    nearestShallower infos k (n + 1)
      = if l.isCfg = true ∧ l.indent < k then some n else nearestShallower infos k n := by
  simp only [nearestShallower, hl]

theorem nearestShallower_of_candidate {infos : List Info} {k n i : Nat} {li : Info} (hi : infos[i]? = some li)
    (hc : li.isCfg = true) (hlt : li.indent < k) (hin : i < n) :
    ∃ p, nearestShallower infos k n = some p ∧ i ≤ p := by
  cases hn : nearestShallower infos k n with
  | none => exact absurd ⟨hc, hlt⟩ ((nearestShallower_eq_none infos k n).mp hn i li hin hi)
  | some p =>
    refine ⟨p, rfl, Nat.le_of_not_lt fun hpi => ?_⟩
    exact ((nearestShallower_eq_some infos k n p).mp hn).2.2 i li hpi hin hi ⟨hc, hlt⟩

theorem specParent_ne_self {infos : List Info} {j : Nat} {l : Info} (hl : infos[j]? = some l)
    (hne : specParent infos j ≠ j) :
    l.indent ≠ 0 ∧ commentUnderDeeper infos j = false ∧ specParent infos j < j ∧
    ∃ lp, infos[specParent infos j]? = some lp ∧ lp.isCfg = true ∧ lp.indent < l.indent := by
  rw [specParent_eq hl] at hne ⊢
  split at hne
  · exact absurd rfl hne
  · rename_i hroot
    rw [if_neg hroot]
    cases hn : nearestShallower infos l.indent j with
    | none => rw [hn] at hne; exact absurd rfl hne
    | some p =>
      obtain ⟨h1, h2, _⟩ := (nearestShallower_eq_some infos l.indent j p).mp hn
      exact ⟨fun h => hroot (.inl h), by simpa using fun h => hroot (.inr h), h1, h2⟩

theorem specParent_of_candidate {infos : List Info} {i j : Nat} {li l : Info} (hl : infos[j]? = some l)
    (hc : commentUnderDeeper infos j = false) (hi : infos[i]? = some li) (hcfg : li.isCfg = true)
    (hlt : li.indent < l.indent) (hij : i < j) : i ≤ specParent infos j ∧ specParent infos j < j := by
  obtain ⟨p, hn, hip⟩ := nearestShallower_of_candidate hi hcfg hlt hij
  rw [specParent_eq hl, hc, if_neg (by simp; omega), hn]
  exact ⟨hip, ((nearestShallower_eq_some infos l.indent j p).mp hn).1⟩

theorem nearestShallower_congr (A B : List Info) (k n : Nat) (h : ∀ m, m < n → A[m]? = B[m]?) :
    nearestShallower A k n = nearestShallower B k n := by
  induction n with
  | zero => rfl
  | succ n ih =>
    unfold nearestShallower
    rw [h n (Nat.lt_succ_self n), ih (fun m hm => h m (by omega))]

theorem specParent_congr (A B : List Info) (j : Nat) (h : ∀ m, m ≤ j → A[m]? = B[m]?) :
    specParent A j = specParent B j := by
  have hc : commentUnderDeeper A j = commentUnderDeeper B j := by
    cases j with
    | zero => simp only [commentUnderDeeper]
    | succ j =>
      unfold commentUnderDeeper
      rw [h (j + 1) (Nat.le_refl _)]
      cases B[j + 1]? with
      | none => rfl
      | some l => simp only [h j (by omega)]
  simp only [specParent, h j (Nat.le_refl _), hc,
    fun k => nearestShallower_congr A B k j (fun m hm => h m (by omega))]

theorem nearestShallower_insert (infos : List Info) (x : Info) (c : Nat) (hc : c ≤ infos.length) (k d : Nat) :
    nearestShallower (infos.take c ++ x :: infos.drop c) k (c + d + 1) =
      match nearestShallower infos k (c + d) with
      | some p => if c ≤ p then some (p + 1)
                  else if x.isCfg = true ∧ x.indent < k then some c else some p
      | none => if x.isCfg = true ∧ x.indent < k then some c else none := by
  obtain ⟨-, hx, -, hpre, hpost⟩ := Ccp.Edit.inserted_frame infos c x hc
  induction d with
  | zero =>
    rw [Nat.add_zero, nearestShallower_succ hx, nearestShallower_congr _ infos k c hpre]
    cases hn : nearestShallower infos k c with
    | none => rfl
    | some p =>
      have := ((nearestShallower_eq_some infos k c p).mp hn).1
      simp only [show ¬ c ≤ p by omega, if_false]
  | succ d ih =>
    show nearestShallower _ k ((c + d + 1) + 1) = match nearestShallower infos k ((c + d) + 1) with | some p => _ | none => _
    unfold nearestShallower
    rw [hpost (c + d) (by omega), ih]
    cases infos[c + d]? with
    | none => rfl
    | some l =>
      dsimp only
      split
      · simp only [show c ≤ c + d by omega, if_true]
      · rfl

def shiftAt (c p : Nat) : Nat := if p < c then p else p + 1

theorem shiftAt_eq_lt {c p i : Nat} (h : shiftAt c p = i) (hi : i < c) : p = i := by
  unfold shiftAt at h; split at h <;> omega

/-- The old line `j` (`c ≤ j`) takes a line `x` inserted at position `c` as its parent: `j` is not a
root by the comment rule, `x` is a configuration line indented less than `j`, and `j`'s parent lies
above the insertion point or `j` found no parent at all. -/
def capturedBy (infos : List Info) (x : Info) (c j : Nat) : Bool :=
  match infos[j]? with
  | some l =>
    x.isCfg && decide (x.indent < l.indent) && !commentUnderDeeper infos j &&
      (decide (specParent infos j < c) || decide (specParent infos j = j))
  | none => false

theorem capturedBy_eq_true {infos : List Info} {x : Info} {c j : Nat} {l : Info} (hl : infos[j]? = some l) :
    capturedBy infos x c j = true ↔ (x.isCfg = true ∧ x.indent < l.indent) ∧
      commentUnderDeeper infos j = false ∧ (specParent infos j < c ∨ specParent infos j = j) := by
  simp only [capturedBy, hl, Bool.and_eq_true, Bool.or_eq_true, decide_eq_true_eq, Bool.not_eq_true', and_assoc]

theorem commentUnderDeeper_insert (infos : List Info) (x : Info) (c : Nat) (hc : c ≤ infos.length)
    (j : Nat) (l : Info) (hcj : c ≤ j) (hl : infos[j]? = some l) (hcm : ¬ (j = c ∧ l.isCmt = true)) :
    commentUnderDeeper (infos.take c ++ x :: infos.drop c) (j + 1) = commentUnderDeeper infos j := by
  obtain ⟨-, -, -, -, hpost⟩ := Ccp.Edit.inserted_frame infos c x hc
  cases hcmt : l.isCmt with
  | false =>
    rw [commentUnderDeeper_of_not_cmt ((hpost j hcj).trans hl) hcmt, commentUnderDeeper_of_not_cmt hl hcmt]
  | true =>
    have hne : j ≠ c := fun h => hcm ⟨h, hcmt⟩
    obtain ⟨j', rfl⟩ : ∃ j', j = j' + 1 := ⟨j - 1, by omega⟩
    unfold commentUnderDeeper
    simp only [hpost (j' + 1) hcj, hl]
    rw [hpost j' (by omega)]

/-- The exact frame of one insertion.  Left out: a comment directly behind the new line, whose
attachment depends on the line above it. -/
theorem specParent_insert (infos : List Info) (x : Info) (c : Nat) (hc : c ≤ infos.length) :
    (∀ j, j < c → specParent (infos.take c ++ x :: infos.drop c) j = specParent infos j) ∧
    (∀ j l, c ≤ j → infos[j]? = some l → ¬ (j = c ∧ l.isCmt = true) →
      specParent (infos.take c ++ x :: infos.drop c) (j + 1)
        = if capturedBy infos x c j = true then c else shiftAt c (specParent infos j)) := by
  obtain ⟨-, -, -, hpre, hpost⟩ := Ccp.Edit.inserted_frame infos c x hc
  refine ⟨fun j hj => specParent_congr _ infos j (fun m hm => hpre m (Nat.lt_of_le_of_lt hm hj)), ?_⟩
  intro j l hcj hl hcm
  have hcap := capturedBy_eq_true (x := x) (c := c) hl
  rw [specParent_eq ((hpost j hcj).trans hl), commentUnderDeeper_insert infos x c hc j l hcj hl hcm]
  by_cases hroot : l.indent = 0 ∨ commentUnderDeeper infos j = true
  · -- a root by the rule stays one and is not captured
    have hn : ¬ capturedBy infos x c j = true := by
      rw [hcap]; rintro ⟨⟨_, h⟩, h', _⟩
      rcases hroot with h0 | h0
      · exact absurd (h0 ▸ h) (Nat.not_lt_zero _)
      · rw [h'] at h0; cases h0
    rw [if_pos hroot, if_neg hn, specParent_eq hl, if_pos hroot, shiftAt, if_neg (Nat.not_lt.mpr hcj)]
  · have hcf : commentUnderDeeper infos j = false := by simpa using fun h => hroot (.inr h)
    obtain ⟨d, rfl⟩ : ∃ d, j = c + d := ⟨j - c, (Nat.add_sub_cancel' hcj).symm⟩
    rw [specParent_eq hl, if_neg hroot] at hcap ⊢
    rw [if_neg hroot, nearestShallower_insert infos x c hc l.indent d]
    cases hn : nearestShallower infos l.indent (c + d) with
    | none =>
      rw [hn] at hcap
      by_cases hq : x.isCfg = true ∧ x.indent < l.indent
      · simp only [hq, and_self, if_true, Option.getD_some, hcap.mpr ⟨hq, hcf, .inr rfl⟩]
      · rw [if_neg (fun h => hq (hcap.mp h).1), shiftAt]
        simp only [hq, if_false, Option.getD_none]
        rw [if_neg (Nat.not_lt.mpr (Nat.le_add_right c d))]
    | some p =>
      have hp := ((nearestShallower_eq_some infos l.indent (c + d) p).mp hn).1
      rw [hn] at hcap
      simp only [Option.getD_some] at hcap
      by_cases hcp : c ≤ p
      · have hncap : ¬ capturedBy infos x c (c + d) = true := fun h =>
          (hcap.mp h).2.2.elim (Nat.not_lt.mpr hcp) (Nat.ne_of_lt hp)
        simp only [hcp, if_true, Option.getD_some, if_neg hncap, shiftAt, Nat.not_lt.mpr hcp, if_false]
      · by_cases hq : x.isCfg = true ∧ x.indent < l.indent
        · simp only [hcp, if_false, hq, and_self, if_true, Option.getD_some,
            if_pos (hcap.mpr ⟨hq, hcf, .inl (Nat.lt_of_not_le hcp)⟩)]
        · have hncap : ¬ capturedBy infos x c (c + d) = true := fun h => hq (hcap.mp h).1
          simp only [hcp, hq, if_false, Option.getD_some, if_neg hncap, shiftAt, Nat.lt_of_not_le hcp, if_true]

theorem specParent_insert_new (infos : List Info) (x : Info) (c : Nat) (hc : c ≤ infos.length) :
    specParent (infos.take c ++ x :: infos.drop c) c = specParent (infos.take c ++ [x]) c := by
  apply specParent_congr
  intro m hm
  have hl : (infos.take c).length = c := List.length_take_of_le hc
  rcases Nat.lt_or_eq_of_le hm with hmc | rfl
  · rw [List.getElem?_append_left (hl.symm ▸ hmc), List.getElem?_append_left (hl.symm ▸ hmc)]
  · rw [List.getElem?_append_right (Nat.le_of_eq hl), List.getElem?_append_right (Nat.le_of_eq hl), hl, Nat.sub_self]
    rfl

theorem capturedBy_below (infos : List Info) (x : Info) (h j : Nat) (lh l : Info)
    (hh : infos[h]? = some lh) (hcfg : lh.isCfg = true) (hle : lh.indent ≤ x.indent)
    (hj : h + 1 ≤ j) (hl : infos[j]? = some l) :
    capturedBy infos x (h + 1) j = true ↔ x.isCfg = true ∧ x.indent < l.indent ∧ specParent infos j = h := by
  rw [capturedBy_eq_true hl, and_assoc]
  refine and_congr_right fun _ => and_congr_right fun hx => ⟨fun ⟨hc, hp⟩ => ?_, fun hp => ?_⟩
  · have := specParent_of_candidate hl hc hh hcfg (Nat.lt_of_le_of_lt hle hx) hj
    omega
  · exact ⟨(specParent_ne_self hl (hp ▸ Nat.ne_of_lt hj)).2.1, .inl (hp ▸ Nat.lt_succ_self h)⟩

theorem capturedBy_above (infos : List Info) (x : Info) (c j : Nat) (lc : Info)
    (hcl : infos[c]? = some lc) (hcfg : lc.isCfg = true) (hle : lc.indent ≤ x.indent) (hj : c ≤ j) :
    capturedBy infos x c j = false := by
  cases hl : infos[j]? with
  | none => simp only [capturedBy, hl]
  | some l =>
    refine Bool.eq_false_iff.mpr fun hcap => ?_
    obtain ⟨⟨_, hx⟩, hcf, hp⟩ := (capturedBy_eq_true hl).mp hcap
    by_cases hjc : j = c
    · subst hjc; rw [hcl] at hl; cases hl; omega
    · have := specParent_of_candidate hl hcf hcl hcfg (Nat.lt_of_le_of_lt hle hx) (Nat.lt_of_le_of_ne hj (Ne.symm hjc))
      omega

theorem capturedBy_closed (infos : List Info) (x : Info) (i e j : Nat) (li : Info)
    (hi : infos[i]? = some li) (hcfg : li.isCfg = true) (hlt : li.indent ≤ x.indent) (hie : i ≤ e)
    (H3 : ∀ j, e < j → j < infos.length → ¬ (i ≤ specParent infos j ∧ specParent infos j ≤ e))
    (hj : e < j) : capturedBy infos x (e + 1) j = false := by
  cases hl : infos[j]? with
  | none => simp only [capturedBy, hl]
  | some l =>
    refine Bool.eq_false_iff.mpr fun hcap => ?_
    obtain ⟨⟨_, hx⟩, hc, hp⟩ := (capturedBy_eq_true hl).mp hcap
    have := specParent_of_candidate hl hc hi hcfg (Nat.lt_of_le_of_lt hlt hx) (Nat.lt_of_le_of_lt hie hj)
    exact H3 j hj (List.getElem?_eq_some_iff.mp hl).1 ⟨this.1, by omega⟩

theorem specParent_insert_new_inside (infos : List Info) (x : Info) (i e : Nat) (li : Info)
    (hi : infos[i]? = some li) (hcfg : li.isCfg = true) (hlt : li.indent < x.indent) (hie : i ≤ e)
    (he : e < infos.length) (hxc : x.isCmt = false) :
    i ≤ specParent (infos.take (e + 1) ++ x :: infos.drop (e + 1)) (e + 1) ∧
    specParent (infos.take (e + 1) ++ x :: infos.drop (e + 1)) (e + 1) ≤ e := by
  obtain ⟨-, hx, -, hpre, -⟩ := Ccp.Edit.inserted_frame infos (e + 1) x he
  have := specParent_of_candidate hx (commentUnderDeeper_of_not_cmt hx hxc)
    ((hpre i (Nat.lt_succ_of_le hie)).trans hi) hcfg hlt (Nat.lt_succ_of_le hie)
  exact ⟨this.1, Nat.le_of_lt_succ this.2⟩

theorem specParent_insert_new_head (infos : List Info) (x : Info) (i e : Nat) (li : Info)
    (hi : infos[i]? = some li) (hcfg : li.isCfg = true) (hlt : li.indent < x.indent) (hie : i ≤ e)
    (he : e < infos.length) (hxc : x.isCmt = false)
    (H1 : ∀ m l, i < m → m ≤ e → infos[m]? = some l → l.isCfg = true → x.indent ≤ l.indent) :
    specParent (infos.take (e + 1) ++ x :: infos.drop (e + 1)) (e + 1) = i := by
  obtain ⟨h1, h2⟩ := specParent_insert_new_inside infos x i e li hi hcfg hlt hie he hxc
  obtain ⟨-, hx, -, hpre, -⟩ := Ccp.Edit.inserted_frame infos (e + 1) x he
  obtain ⟨_, _, _, lp, hp, hpc, hpl⟩ := specParent_ne_self hx (Nat.ne_of_lt (Nat.lt_succ_of_le h2))
  rw [hpre _ (Nat.lt_succ_of_le h2)] at hp
  refine Nat.le_antisymm (Nat.le_of_not_lt fun hlt' => ?_) h1
  have := H1 _ lp hlt' h2 hp hpc
  omega

theorem specParent_insert_new_child (infos : List Info) (x : Info) (h : Nat) (lh : Info)
    (hh : infos[h]? = some lh) (hcfg : lh.isCfg = true) (hlt : lh.indent < x.indent) :
    specParent (infos.take (h + 1) ++ x :: infos.drop (h + 1)) (h + 1) = h := by
  have hlen : h < infos.length := (List.getElem?_eq_some_iff.mp hh).1
  obtain ⟨-, hx, -, hpre, -⟩ := Ccp.Edit.inserted_frame infos (h + 1) x hlen
  have hnh := (hpre h (Nat.lt_succ_self h)).trans hh
  have hc : commentUnderDeeper (infos.take (h + 1) ++ x :: infos.drop (h + 1)) (h + 1) = false := by
    rw [commentUnderDeeper_succ hx hnh, decide_eq_false (Nat.lt_asymm hlt), Bool.and_false]
  have := specParent_of_candidate hx hc hnh hcfg hlt (Nat.lt_succ_self h)
  omega

theorem specParent_insert_new_sibling_below (infos : List Info) (x : Info) (h : Nat) (lh : Info)
    (hh : infos[h]? = some lh) (hcm : lh.isCmt = false) (hxc : x.isCmt = false) (heq : x.indent = lh.indent) :
    specParent (infos.take (h + 1) ++ x :: infos.drop (h + 1)) (h + 1)
      = if specParent infos h = h then h + 1 else specParent infos h := by
  have hlen : h < infos.length := (List.getElem?_eq_some_iff.mp hh).1
  obtain ⟨-, hx, -, hpre, -⟩ := Ccp.Edit.inserted_frame infos (h + 1) x hlen
  have hns : nearestShallower (infos.take (h + 1) ++ x :: infos.drop (h + 1)) lh.indent (h + 1)
      = nearestShallower infos lh.indent h := by
    rw [nearestShallower_succ ((hpre h (Nat.lt_succ_self h)).trans hh), if_neg (fun h => Nat.lt_irrefl _ h.2),
      nearestShallower_congr _ infos _ h (fun m hm => hpre m (Nat.lt_succ_of_lt hm))]
  rw [specParent_eq hx, specParent_eq hh, commentUnderDeeper_of_not_cmt hx hxc, commentUnderDeeper_of_not_cmt hh hcm,
    heq, hns]
  by_cases h0 : lh.indent = 0
  · simp [h0]
  · cases hn : nearestShallower infos lh.indent h with
    | none => simp [h0]
    | some p =>
      have := ((nearestShallower_eq_some infos lh.indent h p).mp hn).1
      simp [h0]; omega

theorem specParent_insert_new_sibling_above (infos : List Info) (x : Info) (c : Nat) (lc : Info)
    (hcl : infos[c]? = some lc) (hcm : lc.isCmt = false) (hxc : x.isCmt = false) (heq : x.indent = lc.indent) :
    specParent (infos.take c ++ x :: infos.drop c) c = specParent infos c := by
  have hlen : c < infos.length := (List.getElem?_eq_some_iff.mp hcl).1
  obtain ⟨-, hx, -, hpre, -⟩ := Ccp.Edit.inserted_frame infos c x (Nat.le_of_lt hlen)
  rw [specParent_eq hx, specParent_eq hcl, commentUnderDeeper_of_not_cmt hx hxc, commentUnderDeeper_of_not_cmt hcl hcm,
    heq, nearestShallower_congr _ infos _ c hpre]

theorem specParent_insert_only_child (infos : List Info) (x : Info) (i : Nat) (li : Info)
    (hi : infos[i]? = some li) (hcfg : li.isCfg = true) (hlt : li.indent < x.indent)
    (hkl : ∀ j, i < j → j < infos.length → specParent infos j ≠ i) :
    ∀ q, q ≠ i → q < infos.length + 1 →
      specParent (infos.take (i + 1) ++ x :: infos.drop (i + 1)) q = i → q = i + 1 := by
  have hlen : i < infos.length := (List.getElem?_eq_some_iff.mp hi).1
  obtain ⟨-, hx, -, -, hpost⟩ := Ccp.Edit.inserted_frame infos (i + 1) x hlen
  obtain ⟨f1, f2⟩ := specParent_insert infos x (i + 1) hlen
  intro q hqi hql hsp
  refine Classical.byContradiction fun hq => ?_
  by_cases hq1 : q < i + 1
  · have := specParent_le_self infos q
    rw [f1 q hq1] at hsp
    omega
  · obtain ⟨j, rfl⟩ : ∃ j, q = j + 1 := ⟨q - 1, by omega⟩
    have hij : i < j := by omega
    have hjl : j < infos.length := Nat.lt_of_succ_lt_succ hql
    have hl : infos[j]? = some infos[j] := List.getElem?_eq_getElem hjl
    by_cases hex : j = i + 1 ∧ infos[j].isCmt = true
    · -- a comment directly behind the new line: attached to `i`, it is not under a deeper line, so the new
      -- line is not deeper than it, and it was a child of `i` before
      obtain ⟨rfl, hcmt⟩ := hex
      have hnl := (hpost (i + 1) (Nat.le_refl _)).trans hl
      have g2 := (specParent_ne_self hnl (by omega)).2.1
      rw [commentUnderDeeper_succ hnl hx, hcmt, Bool.true_and, decide_eq_false_iff_not] at g2
      have hc' : commentUnderDeeper infos (i + 1) = false := by
        rw [commentUnderDeeper_succ hl hi, hcmt, Bool.true_and, decide_eq_false_iff_not]
        exact Nat.lt_asymm (Nat.lt_of_lt_of_le hlt (Nat.le_of_not_lt g2))
      have := specParent_of_candidate hl hc' hi hcfg (Nat.lt_of_lt_of_le hlt (Nat.le_of_not_lt g2)) (Nat.lt_succ_self i)
      exact hkl (i + 1) hij hjl (Nat.le_antisymm (Nat.le_of_lt_succ this.2) this.1)
    · rw [f2 j _ hij hl hex] at hsp
      split at hsp
      · omega
      · exact hkl j hij hjl (shiftAt_eq_lt hsp (Nat.lt_succ_self i))

def SpecTree (t : T) (infos : List Info) : Prop :=
  Forest t ∧ infos.length = t.size ∧ (∀ j, j < t.size → parentOf t j = specParent infos j) ∧
  (∀ (j : Nat) (l : Info), infos[j]? = some l → l.isCfg = true → l.isCmt = false)

theorem specTree_parent {t : T} {infos : List Info} (h : SpecTree t infos) {j : Nat} (hj : j < t.size)
    (hne : parentOf t j ≠ j) :
    ∃ lp lj, infos[parentOf t j]? = some lp ∧ infos[j]? = some lj ∧ parentOf t j < j ∧
      lp.isCfg = true ∧ lp.indent < lj.indent ∧ commentUnderDeeper infos j = false := by
  have hjl : j < infos.length := h.2.1 ▸ hj
  have hl : infos[j]? = some infos[j] := List.getElem?_eq_getElem hjl
  rw [h.2.2.1 j hj] at hne ⊢
  obtain ⟨_, hc, hlt, lp, hp, hcfg, hlp⟩ := specParent_ne_self hl hne
  exact ⟨lp, _, hp, hl, hlt, hcfg, hlp, hc⟩

theorem specTree_candidate {t : T} {infos : List Info} (h : SpecTree t infos) {i j : Nat} {li lj : Info}
    (hlj : infos[j]? = some lj) (hc : commentUnderDeeper infos j = false) (hi : infos[i]? = some li)
    (hcfg : li.isCfg = true) (hlt : li.indent < lj.indent) (hij : i < j) :
    i ≤ parentOf t j ∧ parentOf t j < j := by
  rw [h.2.2.1 j (h.2.1 ▸ (List.getElem?_eq_some_iff.mp hlj).1)]
  exact specParent_of_candidate hlj hc hi hcfg hlt hij

theorem specTree_ancestor {t : T} {infos : List Info} (h : SpecTree t infos) {a j : Nat}
    (ha : a ∈ ancestors t j) :
    ∃ la lj, infos[a]? = some la ∧ infos[j]? = some lj ∧ la.isCfg = true ∧ la.indent < lj.indent := by
  induction j using Nat.strongRecOn with
  | ind j ih =>
    by_cases hp : parentOf t j < j
    · obtain ⟨lp, lj, h1, h2, _, h4, h5, _⟩ := specTree_parent h (ancestors_lt_size h.1 ha) (Nat.ne_of_lt hp)
      rw [ancestors_of_lt hp] at ha
      rcases List.mem_cons.mp ha with rfl | ha
      · exact ⟨lp, lj, h1, h2, h4, h5⟩
      · obtain ⟨la, lp', h6, h7, h8, h9⟩ := ih _ hp ha
        rw [h1] at h7; cases h7
        exact ⟨la, lj, h6, h2, h8, Nat.lt_trans h9 h5⟩
    · rw [ancestors_of_not_lt hp] at ha; cases ha

theorem specTree_sandwich {t : T} {infos : List Info} (h : SpecTree t infos) {i e : Nat} {li : Info}
    (hi : infos[i]? = some li) (he : i ∈ ancestors t e) :
    ∀ m l, i < m → m ≤ e → infos[m]? = some l → l.isCfg = true → li.indent < l.indent := by
  induction e using Nat.strongRecOn with
  | ind e ih =>
    intro m l him hme hl hc
    have hpe : parentOf t e < e := Nat.lt_of_not_le fun hn => by
      rw [ancestors_of_not_lt (Nat.not_lt.mpr hn)] at he; cases he
    obtain ⟨lp, le, h1, h2, _, h4, h5, h6⟩ := specTree_parent h (ancestors_lt_size h.1 he) (Nat.ne_of_lt hpe)
    rw [ancestors_of_lt hpe] at he
    have hpi : li.indent ≤ lp.indent ∧ (i = parentOf t e ∨ i ∈ ancestors t (parentOf t e)) := by
      rcases List.mem_cons.mp he with heq | he'
      · rw [← heq, hi] at h1; cases h1; exact ⟨Nat.le_refl _, .inl heq⟩
      · exact ⟨Nat.le_of_lt (ih _ hpe he' _ lp (ancestors_lt he') (Nat.le_refl _) h1 h4), .inr he'⟩
    by_cases hmp : m ≤ parentOf t e
    · rcases hpi.2 with heq | he'
      · omega
      · exact ih _ hpe he' m l him hmp hl hc
    · by_cases hme' : m = e
      · subst hme'; rw [h2] at hl; cases hl; exact Nat.lt_of_le_of_lt hpi.1 h5
      · refine Nat.lt_of_not_le fun hle => ?_
        have := specTree_candidate h h2 h6 hl hc (Nat.lt_of_le_of_lt hle (Nat.lt_of_le_of_lt hpi.1 h5))
          (Nat.lt_of_le_of_ne hme hme')
        exact hmp this.1

theorem specTree_descendant {t : T} {infos : List Info} (h : SpecTree t infos) {i : Nat} {li : Info}
    (hi : infos[i]? = some li) (hli : li.isCfg = true) :
    ∀ m l, i < m → infos[m]? = some l → l.isCfg = true →
      (∀ m' l', i < m' → m' ≤ m → infos[m']? = some l' → l'.isCfg = true → li.indent < l'.indent) →
      i ∈ ancestors t m := by
  intro m
  induction m using Nat.strongRecOn with
  | ind m ih =>
    intro l him hl hc hall
    obtain ⟨hiq, hqm⟩ := specTree_candidate h hl (commentUnderDeeper_of_not_cmt hl (h.2.2.2 m l hl hc)) hi hli
      (hall m l him (Nat.le_refl _) hl hc) him
    rw [ancestors_of_lt hqm]
    by_cases hqi : parentOf t m = i
    · simp [hqi]
    · obtain ⟨lq, _, hq2, _, _, hq3, _, _⟩ := specTree_parent h
        (h.2.1 ▸ (List.getElem?_eq_some_iff.mp hl).1) (Nat.ne_of_lt hqm)
      exact List.mem_cons_of_mem _ (ih _ hqm lq (Nat.lt_of_le_of_ne hiq (Ne.symm hqi)) hq2 hq3
        (fun m' l' h1 h2 h3 h4 => hall m' l' h1 (Nat.le_trans h2 (Nat.le_of_lt hqm)) h3 h4))

theorem specTree_between {t : T} {infos : List Info} (h : SpecTree t infos) {i e : Nat} {li : Info}
    (hi : infos[i]? = some li) (hli : li.isCfg = true) (he : i ∈ ancestors t e) :
    ∀ m l, i < m → m ≤ e → infos[m]? = some l → l.isCfg = true → i ∈ ancestors t m :=
  fun m l him hme hl hc => specTree_descendant h hi hli m l him hl hc
    (fun m' l' h1 h2 h3 h4 => specTree_sandwich h hi he m' l' h1 (Nat.le_trans h2 hme) h3 h4)

theorem familyEndpoint_spec {t : T} (hf : Forest t) (i : Nat) :
    (familyEndpoint t i = i ∨ i ∈ ancestors t (familyEndpoint t i)) ∧
    ∀ j, i ∈ ancestors t j → j ≤ familyEndpoint t i := by
  obtain ⟨h1, h2⟩ := familyEndpoint_max hf i
  refine ⟨(List.mem_cons.mp h1).imp id (mem_allChildren hf).mp, fun j hj => ?_⟩
  exact h2 j (List.mem_cons_of_mem _ ((mem_allChildren hf).mpr hj))

theorem specTree_family_closed {t : T} {infos : List Info} (h : SpecTree t infos) (i : Nat) (li : Info)
    (hli : infos[i]? = some li) (hlicfg : li.isCfg = true) :
    ∀ j, familyEndpoint t i < j → j < infos.length →
      ¬ (i ≤ specParent infos j ∧ specParent infos j ≤ familyEndpoint t i) := by
  obtain ⟨hie, hmax⟩ := familyEndpoint_spec h.1 i
  intro j hej hjl ⟨hp1, hp2⟩
  have hjs : j < t.size := h.2.1 ▸ hjl
  rw [← h.2.2.1 j hjs] at hp1 hp2
  obtain ⟨lp, _, h1, _, h3, h4, _, _⟩ := specTree_parent h hjs (Nat.ne_of_lt (Nat.lt_of_le_of_lt hp2 hej))
  have hij : i ∈ ancestors t j := by
    rw [ancestors_of_lt h3]
    by_cases hpi : parentOf t j = i
    · simp [hpi]
    · have hie' : i ∈ ancestors t (familyEndpoint t i) :=
        hie.resolve_left fun he => hpi (Nat.le_antisymm (he ▸ hp2) hp1)
      exact List.mem_cons_of_mem _
        (specTree_between h hli hlicfg hie' _ lp (Nat.lt_of_le_of_ne hp1 (Ne.symm hpi)) hp2 h1 h4)
  exact Nat.not_le.mpr hej (hmax j hij)

theorem specTree_family_deep {t : T} {infos : List Info} (h : SpecTree t infos) (i d : Nat) (li : Info)
    (hli : infos[i]? = some li) (hlicfg : li.isCfg = true)
    (Hc : ∀ c l, c ∈ children t i → infos[c]? = some l → l.isCfg = true → d ≤ l.indent) :
    ∀ m l, i < m → m ≤ familyEndpoint t i → infos[m]? = some l → l.isCfg = true → d ≤ l.indent := by
  intro m l him hme hl hcfg
  have hie : i ∈ ancestors t (familyEndpoint t i) := (familyEndpoint_spec h.1 i).1.resolve_left fun he => Nat.not_le.mpr him (he ▸ hme)
  have hanc := specTree_between h hli hlicfg hie m l him hme hl hcfg
  obtain ⟨c, hc1, hc2, hc3⟩ := ancestors_child hanc
  have hms : m < t.size := ancestors_lt_size h.1 hanc
  rcases hc3 with rfl | hc3
  · exact Hc c l (mem_children.mpr ⟨hms, hc1, Nat.ne_of_gt hc2⟩) hl hcfg
  · obtain ⟨la, lj, h1, h2, h3, h4⟩ := specTree_ancestor h hc3
    rw [hl] at h2; cases h2
    exact Nat.le_of_lt (Nat.lt_of_le_of_lt
      (Hc c la (mem_children.mpr ⟨Nat.lt_trans (ancestors_lt hc3) hms, hc1, Nat.ne_of_gt hc2⟩) h1 h3) h4)

/-- `c` is the index of the head of the list -/
def sel (keep : Nat → Bool) : Nat → List α → List α
  | _, [] => []
  | c, a :: as => if keep c then a :: sel keep (c + 1) as else sel keep (c + 1) as

/-- number of kept positions below `n` = new position of a kept line `n` -/
def rank (keep : Nat → Bool) : Nat → Nat
  | 0 => 0
  | n + 1 => rank keep n + (if keep n then 1 else 0)

theorem sel_append (keep : Nat → Bool) (c : Nat) (l1 l2 : List α) :
    sel keep c (l1 ++ l2) = sel keep c l1 ++ sel keep (c + l1.length) l2 := by
  induction l1 generalizing c with
  | nil => simp [sel]
  | cons a as ih =>
    simp only [List.cons_append, sel, ih, List.length_cons, show c + 1 + as.length = c + (as.length + 1) by omega]
    split <;> simp

theorem sel_shift (keep : Nat → Bool) (c : Nat) (l : List α) :
    sel keep (c + 1) l = sel (fun q => keep (q + 1)) c l := by
  induction l generalizing c with
  | nil => rfl
  | cons a as ih => simp only [sel, ih (c + 1)]

theorem sel_all (c : Nat) (l : List α) : sel (fun _ => true) c l = l := by
  induction l generalizing c with
  | nil => rfl
  | cons a as ih => simp [sel, ih]

theorem sel_take_length (keep : Nat → Bool) (l : List α) (n : Nat) (hn : n ≤ l.length) :
    (sel keep 0 (l.take n)).length = rank keep n := by
  induction n with
  | zero => simp [sel, rank]
  | succ n ih =>
    have hlt : n < l.length := by omega
    rw [List.take_succ_eq_append_getElem hlt, sel_append, List.length_append, ih (by omega)]
    simp only [List.length_take, Nat.min_eq_left (Nat.le_of_lt hlt), Nat.zero_add, sel, rank]
    split <;> simp

theorem sel_getElem? (keep : Nat → Bool) (l : List α) (n : Nat) (hn : n < l.length) (hk : keep n = true) :
    (sel keep 0 l)[rank keep n]? = l[n]? := by
  have h2 : sel keep 0 l = sel keep 0 (l.take n) ++ (l[n] :: sel keep (n + 1) (l.drop (n + 1))) := by
    conv => lhs; rw [show l = l.take n ++ l[n] :: l.drop (n + 1) by simp]
    rw [sel_append]
    simp only [List.length_take, Nat.min_eq_left (Nat.le_of_lt hn), Nat.zero_add, sel, hk, if_true]
  rw [h2, List.getElem?_append_right (by rw [sel_take_length keep l n (by omega)]; exact Nat.le_refl _),
    sel_take_length keep l n (by omega)]
  simp [List.getElem?_eq_getElem hn]

theorem sel_eq_filter (keep : Nat → Bool) (l : List α) (c : Nat) :
    sel keep c l = ((l.zipIdx c).filter (fun p => keep p.2)).map (·.1) := by
  induction l generalizing c with
  | nil => rfl
  | cons a as ih =>
    simp only [sel, List.zipIdx_cons, List.filter_cons, ih (c + 1)]
    split <;> simp

theorem eraseAll_eq_sel (l : List α) (idxs : List Nat) :
    Ccp.Edit.eraseAll l idxs = sel (fun j => !idxs.contains j) 0 l := by
  rw [Ccp.Edit.eraseAll_eq_filter, sel_eq_filter]

theorem nearestShallower_sel (keep : Nat → Bool) (infos : List Info) (k n : Nat) (hn : n ≤ infos.length) :
    (nearestShallower infos k n = none → nearestShallower (sel keep 0 infos) k (rank keep n) = none) ∧
    (∀ p, nearestShallower infos k n = some p → keep p = true →
      nearestShallower (sel keep 0 infos) k (rank keep n) = some (rank keep p)) := by
  induction n with
  | zero => simp [nearestShallower, rank]
  | succ n ih =>
    have hlt : n < infos.length := by omega
    have hr : infos[n]? = some infos[n] := List.getElem?_eq_getElem hlt
    rw [nearestShallower_succ hr]
    by_cases hk : keep n = true
    · rw [show rank keep (n + 1) = rank keep n + 1 by simp [rank, hk],
        nearestShallower_succ ((sel_getElem? keep infos n hlt hk).trans hr)]
      split
      · exact ⟨nofun, fun p hp _ => by cases hp; rfl⟩
      · exact ih (by omega)
    · rw [show rank keep (n + 1) = rank keep n by simp [rank, hk]]
      split
      · exact ⟨nofun, fun p hp hkp => by cases hp; exact absurd hkp hk⟩
      · exact ih (by omega)

theorem specParent_sel (keep : Nat → Bool) (infos : List Info) (j : Nat) (hj : j < infos.length)
    (hkj : keep j = true)
    (hcud : commentUnderDeeper (sel keep 0 infos) (rank keep j) = commentUnderDeeper infos j)
    (hpar : specParent infos j = j ∨ keep (specParent infos j) = true) :
    specParent (sel keep 0 infos) (rank keep j) = rank keep (specParent infos j) := by
  have hl : infos[j]? = some infos[j] := List.getElem?_eq_getElem hj
  rw [specParent_eq hl] at hpar ⊢
  rw [specParent_eq ((sel_getElem? keep infos j hj hkj).trans hl), hcud]
  split
  · rfl
  · rename_i hroot
    rw [if_neg hroot] at hpar
    obtain ⟨h1, h2⟩ := nearestShallower_sel keep infos infos[j].indent j (by omega)
    cases hn : nearestShallower infos infos[j].indent j with
    | none => rw [h1 hn]; rfl
    | some p =>
      rw [hn] at hpar
      have hp := ((nearestShallower_eq_some infos _ j p).mp hn).1
      rw [h2 p hn (hpar.resolve_left (by simp only [Option.getD_some]; omega))]; rfl

theorem commentUnderDeeper_sel (keep : Nat → Bool) (infos : List Info) (j : Nat) (hj : j < infos.length)
    (hkj : keep j = true)
    (h : infos[j].isCmt = false ∨ ∃ j', j = j' + 1 ∧ keep j' = true) :
    commentUnderDeeper (sel keep 0 infos) (rank keep j) = commentUnderDeeper infos j := by
  have hl : infos[j]? = some infos[j] := List.getElem?_eq_getElem hj
  have hnl := (sel_getElem? keep infos j hj hkj).trans hl
  rcases h with h | ⟨j', rfl, hk'⟩
  · rw [commentUnderDeeper_of_not_cmt hl h, commentUnderDeeper_of_not_cmt hnl h]
  · have hp := sel_getElem? keep infos j' (by omega) hk'
    rw [show rank keep (j' + 1) = rank keep j' + 1 by simp [rank, hk']] at hnl ⊢
    simp only [commentUnderDeeper, hnl, hl, hp]

/-- Read backwards (`N` the list after an insertion, `keep` marking the old lines): an old line whose
new parent is an old line had the old position of that line as parent. -/
theorem specParent_sel_kept (keep : Nat → Bool) (N : List Info) (q : Nat) (hq : q < N.length)
    (hk : keep q = true)
    (hcm : ¬ (N[q].isCmt = true ∧ ∃ q', q = q' + 1 ∧ keep q' = false))
    (hpar : keep (specParent N q) = true) :
    specParent (sel keep 0 N) (rank keep q) = rank keep (specParent N q) := by
  refine specParent_sel keep N q hq hk ?_ (.inr hpar)
  cases q with
  | zero => simp [rank, commentUnderDeeper]
  | succ q' =>
    apply commentUnderDeeper_sel keep N _ hq hk
    cases hc : N[q' + 1].isCmt with
    | false => exact .inl rfl
    | true =>
      refine .inr ⟨q', rfl, ?_⟩
      cases hk' : keep q' with
      | true => rfl
      | false => exact absurd ⟨hc, q', rfl, hk'⟩ hcm

end Ccp.Tree
