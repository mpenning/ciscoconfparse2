import Ccp.Proofs.EditPrefix
/-!
One line inserted into a config *with* banner / macro families (C06).  The insertion point `c` is
not inside a family body (`ClosedAt`: every banner / macro start above `c` finds its terminator
above `c`) and the new line starts no family.  In the closed form of the final parents
(`specParentFull`) the stretch of a start above `c` then ends above `c`, and a start at or below `c`
has, one line further down, the stretch it had: so an old line below `c` keeps its owner (shifted) or,
without one, has its pass-1 parent (`S`) — which is its old one shifted, unless the new line adopts
it, exactly when `capturedBy` says so.
-/
namespace Ccp.Tree
open Ccp.Py

/-- `¬ countChar d x ≥ 2`: the banner does not end on its first line -/
def ClosedAt (cfg : Cfg) (ls : List Str) (c : Nat) : Prop :=
  (∀ p x d, p < c → ls[p]? = some x → isBannerStart x = true → bannerDelim x = some d → ¬ countChar d x ≥ 2 →
    ∃ m y, p < m ∧ m < c ∧ ls[m]? = some y ∧ (strip y).contains d = true) ∧
  (cfg.ios = true → ∀ p x, p < c → ls[p]? = some x → isMacroStart x = true →
    ∃ m y, p < m ∧ m < c ∧ ls[m]? = some y ∧ (rstrip y == ['@']) = true)

theorem closedAt_congr (cfg : Cfg) (A C C' : List Str) (h : ClosedAt cfg (A ++ C) A.length) :
    ClosedAt cfg (A ++ C') A.length := by
  have e : ∀ p, p < A.length → (A ++ C')[p]? = (A ++ C)[p]? := fun p hp => by
    rw [List.getElem?_append_left hp, List.getElem?_append_left hp]
  constructor
  · intro p x d hp hx hs hd hc
    obtain ⟨m, y, h1, h2, h3, h4⟩ := h.1 p x d hp (e p hp ▸ hx) hs hd hc
    exact ⟨m, y, h1, h2, e m h2 ▸ h3, h4⟩
  · intro hios p x hp hx hs
    obtain ⟨m, y, h1, h2, h3, h4⟩ := h.2 hios p x hp (e p hp ▸ hx) hs
    exact ⟨m, y, h1, h2, e m h2 ▸ h3, h4⟩

def closedAtB (cfg : Cfg) (ls : List Str) (c : Nat) : Bool :=
  (List.range c).all (fun p =>
    match ls[p]? with
    | none => true
    | some x =>
      (if isBannerStart x then
        (match bannerDelim x with
         | none => true
         | some d => decide (countChar d x ≥ 2) ||
            (List.range c).any (fun m => decide (p < m) &&
              (match ls[m]? with | some y => (strip y).contains d | none => false)))
       else true) &&
      (if cfg.ios && isMacroStart x then
        (List.range c).any (fun m => decide (p < m) &&
          (match ls[m]? with | some y => rstrip y == ['@'] | none => false))
       else true))

theorem closedAt_of_check (cfg : Cfg) (ls : List Str) (c : Nat) (h : closedAtB cfg ls c = true) :
    ClosedAt cfg ls c := by
  unfold closedAtB at h
  rw [List.all_eq_true] at h
  constructor
  · intro p x d hp hx hs hd hc
    have := h p (List.mem_range.mpr hp)
    simp only [hx, hs, if_true, hd, Bool.and_eq_true, Bool.or_eq_true, decide_eq_true_eq] at this
    rcases this.1 with h1 | h1
    · exact absurd h1 hc
    · rw [List.any_eq_true] at h1
      obtain ⟨m, hm, hmm⟩ := h1
      simp only [Bool.and_eq_true, decide_eq_true_eq] at hmm
      cases hy : ls[m]? with
      | none => rw [hy] at hmm; cases hmm.2
      | some y => rw [hy] at hmm; exact ⟨m, y, hmm.1, List.mem_range.mp hm, hy, hmm.2⟩
  · intro hios p x hp hx hs
    have := h p (List.mem_range.mpr hp)
    simp only [hx, hios, hs, Bool.and_self, if_true, Bool.and_eq_true] at this
    have h1 := this.2
    rw [List.any_eq_true] at h1
    obtain ⟨m, hm, hmm⟩ := h1
    simp only [Bool.and_eq_true, decide_eq_true_eq] at hmm
    cases hy : ls[m]? with
    | none => rw [hy] at hmm; cases hmm.2
    | some y => rw [hy] at hmm; exact ⟨m, y, hmm.1, List.mem_range.mp hm, hy, hmm.2⟩

theorem stretch_stop {len : List Str → Nat} {P : Str → Bool}
    (hspec : ∀ rest k, k + 1 ≤ len rest ↔ k < rest.length ∧ ∀ m y, m < k → rest[m]? = some y → P y = false)
    (rest : List Str) (k m : Nat) (y : Str) (hy : rest[m]? = some y) (hP : P y = true) (hm : m + 1 < k) :
    ¬ k ≤ len rest := by
  obtain ⟨k', rfl⟩ : ∃ k', k = k' + 1 := ⟨k - 1, by omega⟩
  intro h
  have := ((hspec rest k').mp h).2 m y (by omega) hy
  rw [hP] at this; cases this

theorem covers_elim {cov : Str → List Str → Nat} (hcov : ∀ x rest, cov x rest ≤ rest.length) {ls : List Str}
    {q j : Nat} (h : covers cov ls q j = true) :
    ls[q]? = some (ls.getD q []) ∧ q < j ∧ j - q ≤ cov (ls.getD q []) (ls.drop (q + 1)) := by
  obtain ⟨hqj, hle⟩ := (covers_iff cov ls q j).mp h
  have := hcov (ls.getD q []) (ls.drop (q + 1))
  rw [List.length_drop] at this
  have hql : q < ls.length := by omega
  exact ⟨by simp [List.getD_eq_getElem?_getD, List.getElem?_eq_getElem hql], hqj, hle⟩

theorem covers_closed (cfg : Cfg) (ls : List Str) (c : Nat) (hcl : ClosedAt cfg ls c) (q j : Nat) (hq : q < c)
    (hj : c ≤ j) : covers coverB ls q j = false ∧ (cfg.ios = true → covers coverM ls q j = false) := by
  -- a terminator at `m` between `q` and `c` is one of the first `j - q - 1` lines behind `q`
  have hstop : ∀ {len : List Str → Nat} {P : Str → Bool}, (∀ rest k, k + 1 ≤ len rest ↔
      k < rest.length ∧ ∀ m y, m < k → rest[m]? = some y → P y = false) →
      ∀ m y, q < m → m < c → ls[m]? = some y → P y = true → ¬ j - q ≤ len (ls.drop (q + 1)) :=
    fun hspec m y hqm hmc hy hP => stretch_stop hspec _ _ (m - (q + 1)) y
      (by rw [List.getElem?_drop, show q + 1 + (m - (q + 1)) = m by omega, hy]) hP (by omega)
  constructor
  · refine Bool.eq_false_iff.mpr fun h => ?_
    obtain ⟨hx, hqj, hle⟩ := covers_elim coverB_le h
    unfold coverB at hle
    split at hle
    · rename_i hs
      split at hle
      · rename_i d hd
        split at hle
        · exact Nat.not_le.mpr (Nat.sub_pos_of_lt hqj) hle
        · rename_i hcnt
          obtain ⟨m, y, hqm, hmc, hy, hyd⟩ := hcl.1 q _ d hq hx hs hd hcnt
          exact hstop (bannerLinkLen_spec d) m y hqm hmc hy hyd hle
      · exact Nat.not_le.mpr (Nat.sub_pos_of_lt hqj) hle
    · exact Nat.not_le.mpr (Nat.sub_pos_of_lt hqj) hle
  · intro hios
    refine Bool.eq_false_iff.mpr fun h => ?_
    obtain ⟨hx, hqj, hle⟩ := covers_elim coverM_le h
    unfold coverM at hle
    split at hle
    · rename_i hs
      obtain ⟨m, y, hqm, hmc, hy, hyd⟩ := hcl.2 hios q _ hq hx hs
      exact hstop macroBodyLen_spec m y hqm hmc hy hyd hle
    · exact Nat.not_le.mpr (Nat.sub_pos_of_lt hqj) hle

theorem covers_shift (cov : Str → List Str → Nat) (A B : List Str) (x : Str) (d j : Nat) :
    covers cov (A ++ x :: B) (A.length + d + 1) (j + 1) = covers cov (A ++ B) (A.length + d) j := by
  have h1 : (A ++ x :: B).getD (A.length + d + 1) [] = (A ++ B).getD (A.length + d) [] := by
    simp only [List.getD_eq_getElem?_getD, Nat.add_assoc, List.getElem?_append_right (Nat.le_add_right _ _),
      Nat.add_sub_cancel_left, List.getElem?_cons_succ]
  have h2 : (A ++ x :: B).drop (A.length + d + 1 + 1) = (A ++ B).drop (A.length + d + 1) := by
    simp only [Nat.add_assoc, List.drop_length_add_append, List.drop_succ_cons]
  simp only [covers, h1, h2, Nat.add_lt_add_iff_right, Nat.add_sub_add_right]

theorem lastCover_shift (cov : Str → List Str → Nat) (A B : List Str) (x : Str) (j : Nat)
    (ha : ∀ q, q < A.length → covers cov (A ++ x :: B) q (j + 1) = false ∧ covers cov (A ++ B) q j = false)
    (hb : covers cov (A ++ x :: B) A.length (j + 1) = false) (d : Nat) :
    lastCover cov (A ++ x :: B) (j + 1) (A.length + d + 1) = (lastCover cov (A ++ B) j (A.length + d)).map (· + 1) ∧
    ∀ q, lastCover cov (A ++ B) j (A.length + d) = some q → A.length ≤ q := by
  induction d with
  | zero =>
    have h1 := (lastCover_eq_none cov (A ++ x :: B) (j + 1) A.length).mpr fun q hq => (ha q hq).1
    have h2 := (lastCover_eq_none cov (A ++ B) j A.length).mpr fun q hq => (ha q hq).2
    refine ⟨?_, fun q hq => ?_⟩
    · show lastCover cov _ (j + 1) (A.length + 1) = (lastCover cov _ j A.length).map _
      rw [lastCover, hb, h1, h2]; rfl
    · rw [show A.length + 0 = A.length from rfl, h2] at hq; cases hq
  | succ d ih =>
    rw [← Nat.add_assoc, lastCover, covers_shift cov A B x d j, ih.1, lastCover]
    split
    · exact ⟨rfl, fun q hq => by cases hq; omega⟩
    · exact ⟨rfl, ih.2⟩

/-- how an entry of the new tree at `j + 1` relates to the entry of the old tree at `j`: both
are still the pass-1 values, or both were written by the same walk (start `q` below `n`) -/
def G (n : Nat) (P1 P2 : List Nat) (j : Nat) (a b : Option Nat) : Prop :=
  (a = P2[j + 1]? ∧ b = P1[j]?) ∨ (∃ q, n ≤ q ∧ a = some (q + 1) ∧ b = some q)

/-- the shifted simulation: `t2` (new list) is `t1` (old list) with one more line at `n` -/
def S (n : Nat) (P1 P2 : List Nat) (t1 t2 : T) : Prop :=
  t2.parents.length = t1.parents.length + 1 ∧ t2.parents[n]? = P2[n]? ∧
  ∀ j, n ≤ j → G n P1 P2 j t2.parents[j + 1]? t1.parents[j]?

theorem linkByIndent_getElem? (cfg : Cfg) (ls : List Str) (k : Nat) :
    (linkByIndent cfg ls)[k]? = if k < ls.length then some (specParent (ls.map (info cfg)) k) else none := by
  rw [linkByIndent_eq_map]
  split <;> simp [*]

theorem link_parents_getElem? (cfg : Cfg) (ls : List Str) (k : Nat) :
    (link cfg ls).parents[k]? = if k < ls.length then some (specParentFull cfg ls k) else none := by
  rw [link_parents_eq_spec]
  split <;> simp [*]

theorem link_insert_shift (cfg : Cfg) (A B : List Str) (x : Str)
    (hcl : ClosedAt cfg (A ++ B) A.length) (hxb : isBannerStart x = false)
    (hxm : cfg.ios = true → isMacroStart x = false) :
    S A.length (linkByIndent cfg (A ++ B)) (linkByIndent cfg (A ++ x :: B))
      (link cfg (A ++ B)) (link cfg (A ++ x :: B)) := by
  have hcl' := closedAt_congr cfg A B (x :: B) hcl
  have hlenN : (A ++ x :: B).length = (A ++ B).length + 1 := by simp; omega
  have hlenO : A.length ≤ (A ++ B).length := by simp
  -- the new line is no start: its stretch is empty
  have hnB : ∀ j, covers coverB (A ++ x :: B) A.length j = false := fun j => by simp [covers, coverB, hxb]; omega
  have hnM : cfg.ios = true → ∀ j, covers coverM (A ++ x :: B) A.length j = false :=
    fun h j => by simp [covers, coverM, hxm h]; omega
  refine ⟨?_, ?_, fun j hj => ?_⟩
  · rw [link_parents_eq_spec, link_parents_eq_spec, List.length_map, List.length_map, List.length_range,
      List.length_range, hlenN]
  · -- the new line has its pass-1 parent: no stretch from above reaches it
    rw [link_parents_getElem?, linkByIndent_getElem?]
    unfold specParentFull macroOwner bannerOwner
    rw [(lastCover_eq_none coverB _ _ _).mpr fun q hq => (covers_closed cfg _ _ hcl' q _ hq (Nat.le_refl _)).1]
    cases hios : cfg.ios with
    | false => rfl
    | true =>
      rw [if_pos rfl,
        (lastCover_eq_none coverM _ _ _).mpr fun q hq => (covers_closed cfg _ _ hcl' q _ hq (Nat.le_refl _)).2 hios]
  · rw [link_parents_getElem?, link_parents_getElem?, hlenN]
    by_cases hjl : j < (A ++ B).length
    · obtain ⟨d, rfl⟩ : ∃ d, j = A.length + d := ⟨j - A.length, (Nat.add_sub_cancel' hj).symm⟩
      rw [if_pos (Nat.succ_lt_succ hjl), if_pos hjl]
      have hclosed := fun q (hq : q < A.length) =>
        (⟨covers_closed cfg _ _ hcl' q (A.length + d + 1) hq (Nat.le_succ_of_le hj),
          covers_closed cfg _ _ hcl q (A.length + d) hq hj⟩ : _ ∧ _)
      have hB := lastCover_shift coverB A B x (A.length + d) (fun q hq => ⟨(hclosed q hq).1.1, (hclosed q hq).2.1⟩)
        (hnB _) d
      -- without a macro owner: the banner owner, or the pass-1 value
      have hban : G A.length (linkByIndent cfg (A ++ B)) (linkByIndent cfg (A ++ x :: B)) (A.length + d)
          (some (match bannerOwner (A ++ x :: B) (A.length + d + 1) with
            | some b => b | none => specParent ((A ++ x :: B).map (info cfg)) (A.length + d + 1)))
          (some (match bannerOwner (A ++ B) (A.length + d) with
            | some b => b | none => specParent ((A ++ B).map (info cfg)) (A.length + d))) := by
        unfold bannerOwner
        rw [hB.1]
        cases hb : lastCover coverB (A ++ B) (A.length + d) (A.length + d) with
        | some b => exact .inr ⟨b, hB.2 b hb, rfl, rfl⟩
        | none =>
          refine .inl ⟨?_, ?_⟩
          · rw [linkByIndent_getElem?, hlenN, if_pos (Nat.succ_lt_succ hjl)]; rfl
          · rw [linkByIndent_getElem?, if_pos hjl]
      unfold specParentFull macroOwner
      cases hios : cfg.ios with
      | false => exact hban
      | true =>
        have hM := lastCover_shift coverM A B x (A.length + d)
          (fun q hq => ⟨(hclosed q hq).1.2 hios, (hclosed q hq).2.2 hios⟩) (hnM hios _) d
        rw [if_pos rfl, if_pos rfl, hM.1]
        cases hm : lastCover coverM (A ++ B) (A.length + d) (A.length + d) with
        | some m => exact .inr ⟨m, hM.2 m hm, rfl, rfl⟩
        | none => exact hban
    · rw [if_neg (fun h => hjl (Nat.lt_of_succ_lt_succ h)), if_neg hjl]
      refine .inl ⟨?_, ?_⟩
      · rw [linkByIndent_getElem?, hlenN, if_neg (fun h => hjl (Nat.lt_of_succ_lt_succ h))]
      · rw [linkByIndent_getElem?, if_neg hjl]

theorem link_insert_closed (cfg : Cfg) (A B : List Str) (x : Str)
    (hcl : ClosedAt cfg (A ++ B) A.length) (hxb : isBannerStart x = false)
    (hxm : cfg.ios = true → isMacroStart x = false) :
    ∀ j, A.length ≤ j → j < (A ++ B).length → ¬ (j = A.length ∧ isComment cfg ((A ++ B).getD j []) = true) →
      parentOf (link cfg (A ++ x :: B)) (j + 1) = shiftAt A.length (parentOf (link cfg (A ++ B)) j) ∨
      (capturedBy ((A ++ B).map (info cfg)) (info cfg x) A.length j = true ∧
        parentOf (link cfg (A ++ x :: B)) (j + 1) = A.length) := by
  obtain ⟨_, _, hg⟩ := link_insert_shift cfg A B x hcl hxb hxm
  have hlen' : (A ++ x :: B).length = (A ++ B).length + 1 := by simp; omega
  intro j hcj hjl hcm
  have hnew : (A ++ x :: B).map (info cfg)
      = ((A ++ B).map (info cfg)).take A.length ++ info cfg x :: ((A ++ B).map (info cfg)).drop A.length := by
    simp [List.map_append]
  obtain ⟨_, f2⟩ := specParent_insert ((A ++ B).map (info cfg)) (info cfg x) A.length (by simp)
  have hfr := f2 j _ hcj (info_getD cfg (A ++ B) j hjl) hcm
  rw [← hnew] at hfr
  unfold parentOf
  rw [List.getD_eq_getElem?_getD, List.getD_eq_getElem?_getD]
  rcases hg j hcj with ⟨ha, hb⟩ | ⟨q, hq, ha, hb⟩
  · rw [ha, hb, linkByIndent_getElem?, if_pos (hlen' ▸ Nat.succ_lt_succ hjl), linkByIndent_getElem?, if_pos hjl]
    simp only [Option.getD_some]
    rw [hfr]
    by_cases hcap : capturedBy ((A ++ B).map (info cfg)) (info cfg x) A.length j = true
    · right; exact ⟨hcap, by rw [if_pos hcap]⟩
    · left; rw [if_neg hcap]
  · left
    rw [ha, hb]
    simp only [Option.getD_some, shiftAt]
    rw [if_neg (by omega)]

end Ccp.Tree

namespace Ccp.Edit
open Ccp.Py Ccp.Tree

/-- `InsertFrame` for a config with banner / macro families, weaker: an old line at or below `c`
keeps its parent (shifted) *or* is adopted by the new line, the latter only when it is captured -/
def InsertFrameW (s s' : S) (c : Nat) (txt : Str) : Prop :=
  s'.texts = s.texts.take c ++ txt :: s.texts.drop c ∧
  (∀ j, j < c → parentOf s'.tree j = parentOf s.tree j) ∧
  (∀ j, c ≤ j → j < s.texts.length → ¬ (j = c ∧ isComment s.cfg (s.texts.getD j []) = true) →
    parentOf s'.tree (j + 1) = shiftAt c (parentOf s.tree j) ∨
    (capturedBy (s.texts.map (info s.cfg)) (info s.cfg txt) c j = true ∧ parentOf s'.tree (j + 1) = c))

theorem insertFrameW_of_step (s : S) (c : Nat) (txt : Str) (st : Bool) (s' : S)
    (hd : s.dirty = false) (hinv : FreshInv s) (ha : s.auto = true) (hig : s.cfg.ignoreBlank = false)
    (hc : c ≤ s.texts.length) (hcl : ClosedAt s.cfg s.texts c)
    (hb : isBannerStart txt = false) (hm : s.cfg.ios = true → isMacroStart txt = false)
    (hs : s' = autoCommit { s with items := s.items.take c ++ fresh txt :: s.items.drop c, stale := st, dirty := true }) :
    InsertFrameW s s' c txt := by
  obtain ⟨htree, _, _⟩ := hinv hd
  have hit := items_insert_texts s c txt
  have htexts : s'.texts = s.texts.take c ++ txt :: s.texts.drop c := by
    rw [hs, edited_texts s (.inr hig), hit]
  have ht' : s'.tree = link s.cfg (s.texts.take c ++ txt :: s.texts.drop c) := by
    rw [hs, auto_tree_after s ha, hit, parse_eq_bootstrap, bootstrap_noignore _ _ hig]
  have ht : s.tree = link s.cfg (s.texts.take c ++ s.texts.drop c) := by
    rw [List.take_append_drop, htree, parse_eq_bootstrap, bootstrap_noignore _ _ hig]
  have hlen : (s.texts.take c).length = c := by simp; omega
  have hcl' : ClosedAt s.cfg (s.texts.take c ++ s.texts.drop c) (s.texts.take c).length := by
    rw [List.take_append_drop, hlen]; exact hcl
  have g2 := link_insert_closed s.cfg (s.texts.take c) (s.texts.drop c) txt hcl' hb hm
  rw [hlen, List.take_append_drop] at g2
  refine ⟨htexts, ?_, ?_⟩
  · intro j hj
    rw [ht', ht]
    exact link_parent_prefix s.cfg (s.texts.take c) _ _ j (by omega)
  · intro j h1 h2 h3
    rw [ht', htree, parse_eq_bootstrap, bootstrap_noignore _ _ hig]
    exact g2 j h1 h2 h3

end Ccp.Edit
